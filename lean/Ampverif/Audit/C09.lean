-- generated by tools/lib/common.py: axiom audit of the property theorems
import Ampverif.Props.C09
import Ampverif.Props.C09History
#print axioms Ampverif.Props.C09.unitary_all_n
#print axioms Ampverif.Props.C09.symmetric_all_n
#print axioms Ampverif.Props.C09.pole_unitary_symmetric_all_n_all_poles
#print axioms Ampverif.Props.C09.rel_unitary_all_n
#print axioms Ampverif.Props.C09.rel_symmetric_all_n
#print axioms Ampverif.Props.C09.rel_reduction_all_n
#print axioms Ampverif.Props.C09.rel_pole_unitary_symmetric_all_n_all_poles
#print axioms Ampverif.Props.C09.nrT1_solves
#print axioms Ampverif.Props.C09.nrT2_solves
#print axioms Ampverif.Props.C09.nrT2_dens_ne
#print axioms Ampverif.Props.C09.nrT1_den_ne
#print axioms Ampverif.Props.C09.nrT1M_eq_T
#print axioms Ampverif.Props.C09.nrT2M_eq_T
#print axioms Ampverif.Props.C09.nrT1M_unitary_symmetric
#print axioms Ampverif.Props.C09.nrT2M_unitary_symmetric
#print axioms Ampverif.Props.C09.relTh1_solves
#print axioms Ampverif.Props.C09.relTh2_solves
#print axioms Ampverif.Props.C09.relT1_eq
#print axioms Ampverif.Props.C09.relT2_eq
#print axioms Ampverif.Props.C09.relT1_den_ne
#print axioms Ampverif.Props.C09.relT2_den_ne
#print axioms Ampverif.Props.C09.relTh1M_eq_That
#print axioms Ampverif.Props.C09.relTh2M_eq_That
#print axioms Ampverif.Props.C09.relT1M_eq_Trel
#print axioms Ampverif.Props.C09.relT2M_eq_Trel
#print axioms Ampverif.Props.C09.relT1M_unitary_symmetric
#print axioms Ampverif.Props.C09.relT2M_unitary_symmetric
#print axioms Ampverif.Props.C09.nrK11_real
#print axioms Ampverif.Props.C09.nrForm11_eq
#print axioms Ampverif.Props.C09.nrForm11_unitary_symmetric
#print axioms Ampverif.Props.C09.nrK12_real
#print axioms Ampverif.Props.C09.nrForm12_eq
#print axioms Ampverif.Props.C09.nrForm12_unitary_symmetric
#print axioms Ampverif.Props.C09.nrK21_symm
#print axioms Ampverif.Props.C09.nrK21_real
#print axioms Ampverif.Props.C09.nrForm21_eq
#print axioms Ampverif.Props.C09.nrForm21_unitary_symmetric
#print axioms Ampverif.Props.C09.nrK22_symm
#print axioms Ampverif.Props.C09.nrK22_real
#print axioms Ampverif.Props.C09.nrForm22_eq
#print axioms Ampverif.Props.C09.nrForm22_unitary_symmetric
#print axioms Ampverif.Props.C09.relK11_real
#print axioms Ampverif.Props.C09.relForm11_eq
#print axioms Ampverif.Props.C09.relFormHat11_eq
#print axioms Ampverif.Props.C09.relForm11_unitary_symmetric
#print axioms Ampverif.Props.C09.relK12_real
#print axioms Ampverif.Props.C09.relForm12_eq
#print axioms Ampverif.Props.C09.relFormHat12_eq
#print axioms Ampverif.Props.C09.relForm12_unitary_symmetric
#print axioms Ampverif.Props.C09.relK21_symm
#print axioms Ampverif.Props.C09.relK21_real
#print axioms Ampverif.Props.C09.relForm21_eq
#print axioms Ampverif.Props.C09.relFormHat21_eq
#print axioms Ampverif.Props.C09.relForm21_unitary_symmetric
#print axioms Ampverif.Props.C09.relK22_symm
#print axioms Ampverif.Props.C09.relK22_real
#print axioms Ampverif.Props.C09.relForm22_eq
#print axioms Ampverif.Props.C09.relFormHat22_eq
#print axioms Ampverif.Props.C09.relForm22_unitary_symmetric
#print axioms Ampverif.Props.C09.nrK23_symm
#print axioms Ampverif.Props.C09.nrK23_real
#print axioms Ampverif.Props.C09.nrK24_symm
#print axioms Ampverif.Props.C09.nrK24_real
#print axioms Ampverif.Props.C09.relK23_symm
#print axioms Ampverif.Props.C09.relK23_real
#print axioms Ampverif.Props.C09.relK24_symm
#print axioms Ampverif.Props.C09.relK24_real
#print axioms Ampverif.Props.C09.nrK22_eq_poleK
#print axioms Ampverif.Props.C09.relK22_eq_poleK
#print axioms Ampverif.Props.C09.relK22_all_poles_unitary_symmetric
#print axioms Ampverif.Props.C09.relForm11_witness_subthreshold
#print axioms Ampverif.Props.C09.formulate_forwards_arguments
#print axioms Ampverif.Props.C09.occTable_covers
#print axioms Ampverif.Props.C09History.kmatrix_history_guard_injective_key
#print axioms Ampverif.Props.C09History.kmatrix_history_guard
#print axioms Ampverif.Props.C09History.kmatrix_history_shape
#print axioms Ampverif.Props.C09History.nonrelativistic_no_items
#print axioms Ampverif.Props.C09History.qualname_key_breaks_guard
#print axioms Ampverif.Props.C09History.qualname_key_reverse_order
#print axioms Ampverif.Props.C09History.qualname_key_hat
