-- generated by tools/lib/common.py: axiom audit of the property theorems
import Ampverif.Props.C20
#print axioms Ampverif.Props.C20.kallen_symm_xy
#print axioms Ampverif.Props.C20.kallen_symm_yz
#print axioms Ampverif.Props.C20.kallen_symm_cyc
#print axioms Ampverif.Props.C20.kallen_factor
#print axioms Ampverif.Props.C20.third_mandelstam_event
#print axioms Ampverif.Props.C20.indicator_def
#print axioms Ampverif.Props.C20.kibble_any_frame_eq
#print axioms Ampverif.Props.C20.kibble_event_nonpos_any_frame
#print axioms Ampverif.Props.C20.indicator_event_any_frame
#print axioms Ampverif.Props.C20.kibble_event_eq
#print axioms Ampverif.Props.C20.kibble_event_nonpos
#print axioms Ampverif.Props.C20.indicator_event
#print axioms Ampverif.Props.C20.kibble_pdg_factor
#print axioms Ampverif.Props.C20.box_energies
#print axioms Ampverif.Props.C20.sigma2Min_le_Max
#print axioms Ampverif.Props.C20.indicator_iff_pdg
#print axioms Ampverif.Props.C20.kallen_kw_decl
#print axioms Ampverif.Props.C20.kallen_kw_rev
#print axioms Ampverif.Props.C20.kallen_kw_rot
#print axioms Ampverif.Props.C20.kallen_mixed
#print axioms Ampverif.Props.C20.kallen_node_kw_rev
#print axioms Ampverif.Props.C20.kallen_node_mixed
#print axioms Ampverif.Props.C20.kibble_kw_decl
#print axioms Ampverif.Props.C20.kibble_kw_rev
#print axioms Ampverif.Props.C20.kibble_kw_rot
#print axioms Ampverif.Props.C20.kibble_mixed
#print axioms Ampverif.Props.C20.kibble_node_kw_rev
#print axioms Ampverif.Props.C20.kibble_node_mixed
#print axioms Ampverif.Props.C20.third_mandelstam_kw_decl
#print axioms Ampverif.Props.C20.third_mandelstam_kw_rev
#print axioms Ampverif.Props.C20.third_mandelstam_kw_rot
#print axioms Ampverif.Props.C20.third_mandelstam_mixed
#print axioms Ampverif.Props.C20.indicator_kw_decl
#print axioms Ampverif.Props.C20.indicator_kw_rev
#print axioms Ampverif.Props.C20.indicator_kw_rot
#print axioms Ampverif.Props.C20.indicator_mixed
