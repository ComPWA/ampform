-- generated by tools/lib/common.py: axiom audit of the property theorems
import Ampverif.Props.C08
import Ampverif.Props.C08Memo
#print axioms Ampverif.Props.C08.metric_eq
#print axioms Ampverif.Props.C08.boostEx_sqrt
#print axioms Ampverif.Props.C08.boostEx_abs
#print axioms Ampverif.Props.C08.boost_relations
#print axioms Ampverif.Props.C08.boost_lorentz
#print axioms Ampverif.Props.C08.boost_det
#print axioms Ampverif.Props.C08.boost_00_ge_one
#print axioms Ampverif.Props.C08.boost_self
#print axioms Ampverif.Props.C08.boostNeg_eq
#print axioms Ampverif.Props.C08.boost_neg_inverse
#print axioms Ampverif.Props.C08.boostZ_radicand_pos
#print axioms Ampverif.Props.C08.boostZ_relations
#print axioms Ampverif.Props.C08.boostZEx_abs
#print axioms Ampverif.Props.C08.boostZ_lorentz
#print axioms Ampverif.Props.C08.boostZ_det
#print axioms Ampverif.Props.C08.boostZ_00_ge_one
#print axioms Ampverif.Props.C08.boostZ_eq_boost
#print axioms Ampverif.Props.C08.rotYEx_abs
#print axioms Ampverif.Props.C08.rotZEx_abs
#print axioms Ampverif.Props.C08.rotY_lorentz
#print axioms Ampverif.Props.C08.rotZ_lorentz
#print axioms Ampverif.Props.C08.rotY_det
#print axioms Ampverif.Props.C08.rotZ_det
#print axioms Ampverif.Props.C08.rot_00
#print axioms Ampverif.Props.C08.rotY_add
#print axioms Ampverif.Props.C08.rotZ_add
#print axioms Ampverif.Props.C08.boostCode0_eq
#print axioms Ampverif.Props.C08.boostCode1_eq
#print axioms Ampverif.Props.C08.boostNegCode0_eq
#print axioms Ampverif.Props.C08.boostNegCode1_eq
#print axioms Ampverif.Props.C08.boostZCode0_eq
#print axioms Ampverif.Props.C08.boostZCode1_eq
#print axioms Ampverif.Props.C08.rotYCode0_eq
#print axioms Ampverif.Props.C08.rotYCode1_eq
#print axioms Ampverif.Props.C08.rotZCode0_eq
#print axioms Ampverif.Props.C08.rotZCode1_eq
#print axioms Ampverif.Props.C08.metricCode0_eq
#print axioms Ampverif.Props.C08.metricCode1_eq
#print axioms Ampverif.Props.C08.boostCode_proper
#print axioms Ampverif.Props.C08.boostNegCode_inverse
#print axioms Ampverif.Props.C08.boostZCode_proper
#print axioms Ampverif.Props.C08.rotCode_proper
#print axioms Ampverif.Props.C08.boostZAddCode_eq
#print axioms Ampverif.Props.C08.boostZMulCode_eq
#print axioms Ampverif.Props.C08.boostZPowCode_eq
#print axioms Ampverif.Props.C08.rotAddCode_eq
#print axioms Ampverif.Props.C08.rotMulCode_eq
#print axioms Ampverif.Props.C08.rotPowCode_eq
#print axioms Ampverif.Props.C08.boostSumCode_eq
#print axioms Ampverif.Props.C08.negMomSumCode_eq
#print axioms Ampverif.Props.C08.metricSumCode_eq
#print axioms Ampverif.Props.C08.negMomCode_eq
#print axioms Ampverif.Props.C08.boostSelfCode0_eq
#print axioms Ampverif.Props.C08.boostSelfCode1_eq
#print axioms Ampverif.Props.C08.boostSelfCode_rest
#print axioms Ampverif.Props.C08.rotYYCode_eq
#print axioms Ampverif.Props.C08.rotZZCode_eq
#print axioms Ampverif.Props.C08.rotYZpCode_eq
#print axioms Ampverif.Props.C08.boostNeg2_eq
#print axioms Ampverif.Props.C08.boostNeg3_eq
#print axioms Ampverif.Props.C08.boostNegSum_eq
#print axioms Ampverif.Props.C08.boostSumNeg_eq
#print axioms Ampverif.Props.C08.boostSumMix_eq
#print axioms Ampverif.Props.C08.boostNegMix_eq
#print axioms Ampverif.Props.C08.negMomNestedCode_eq
#print axioms Ampverif.Props.C08.sumNegCode_eq
#print axioms Ampverif.Props.C08.negMomSum_eq_sumNeg
#print axioms Ampverif.Props.C08.negMixCode_eq
#print axioms Ampverif.Props.C08.boost_inverted_inverse
#print axioms Ampverif.Props.C08.boostNeg2Code_inverse
#print axioms Ampverif.Props.C08.boostNeg2Code_proper
#print axioms Ampverif.Props.C08.invPairCode_eq
#print axioms Ampverif.Props.C08.invPairNegCode_eq
#print axioms Ampverif.Props.C08.invPairCode_one
#print axioms Ampverif.Props.C08.boostChainEx_eq
#print axioms Ampverif.Props.C08.boostChainCode0_eq
#print axioms Ampverif.Props.C08.boostChainCode1_eq
#print axioms Ampverif.Props.C08.einsum_arrayMultiplication
#print axioms Ampverif.Props.C08.einsum_matrixMultiplication
#print axioms Ampverif.Props.C08.einsum_group_count
#print axioms Ampverif.Props.C08.einsum_arrayMultiplication_limit
#print axioms Ampverif.Props.C08.einsum_matrixMultiplication_limit
#print axioms Ampverif.Props.C08.einsum_strings
#print axioms Ampverif.Props.C08.chainVec_eq_mulVec
#print axioms Ampverif.Props.C08Memo.memo_pure
#print axioms Ampverif.Props.C08Memo.memo_pure_identity
#print axioms Ampverif.Props.C08Memo.memo_call_k
#print axioms Ampverif.Props.C08Memo.memo_impure_of_collision
#print axioms Ampverif.Props.C08Memo.memo_pure_iff_injective
#print axioms Ampverif.Props.C08Memo.pyHash_collision
#print axioms Ampverif.Props.C08Memo.pyHash_only_collision
#print axioms Ampverif.Props.C08Memo.hash_key_witness
#print axioms Ampverif.Props.C08Memo.hash_key_witness_reversed
#print axioms Ampverif.Props.C08Memo.hash_key_only_collision
#print axioms Ampverif.Props.C08Memo.arg_key_witness
#print axioms Ampverif.Props.C08Memo.noEvents_key_witness
