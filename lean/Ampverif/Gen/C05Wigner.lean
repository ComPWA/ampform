/-
GENERATED by tools/props/C05.py from sympy 1.14.0 (`sympy.physics.quantum.spin.Rotation.d(j, m, mp, beta).doit()`) — do not edit.

`dJ c s r2 r3 r5 a b` is the Wigner small-d element d^{j}_{m_a, m_b}(β) with j = J/2,
m_a = -j + a, written in c = cos(β/2), s = sin(β/2), r_p = √p. Each arm `a, b` of `dJ_row_orth` is one
entry of `d dᵀ = 1` with a ≤ b, proved with the cofactors of (c²+s²-1, r2²-2, r3²-3, r5²-5) computed by
polynomial division in Python; `linear_combination` re-checks them, nothing is trusted.
`dJ.eq_i` is the equation of the i-th arm of the table `dJ`: the two rows an entry needs are named,
because `simp only [dJ]` would try every arm of the table at every factor.
-/
import Mathlib.Data.Real.Basic
import Mathlib.Algebra.BigOperators.Group.Finset.Basic
import Mathlib.Algebra.BigOperators.Intervals
import Mathlib.Tactic.LinearCombination
import Mathlib.Tactic.Ring

set_option linter.unusedVariables false

namespace Ampverif.Gen.C05Wigner

def jmax2 : ℕ := 5

/-- d^{0/2}(β), rows/columns m = -0/2 … 0/2 -/
def d0 (c s r2 r3 r5 : ℝ) : ℕ → ℕ → ℝ
  | 0, 0 => (1 : ℝ)
  | _, _ => 0

/-- d^{1/2}(β), rows/columns m = -1/2 … 1/2 -/
def d1 (c s r2 r3 r5 : ℝ) : ℕ → ℕ → ℝ
  | 0, 0 => c
  | 0, 1 => s
  | 1, 0 => -s
  | 1, 1 => c
  | _, _ => 0

/-- d^{2/2}(β), rows/columns m = -2/2 … 2/2 -/
def d2 (c s r2 r3 r5 : ℝ) : ℕ → ℕ → ℝ
  | 0, 0 => c^2
  | 0, 1 => c * s * r2
  | 0, 2 => -c^2 + (1 : ℝ)
  | 1, 0 => -c * s * r2
  | 1, 1 => (2 : ℝ) * c^2 - (1 : ℝ)
  | 1, 2 => c * s * r2
  | 2, 0 => -c^2 + (1 : ℝ)
  | 2, 1 => -c * s * r2
  | 2, 2 => c^2
  | _, _ => 0

/-- d^{3/2}(β), rows/columns m = -3/2 … 3/2 -/
def d3 (c s r2 r3 r5 : ℝ) : ℕ → ℕ → ℝ
  | 0, 0 => c^3
  | 0, 1 => -s^3 * r3 + s * r3
  | 0, 2 => -c^3 * r3 + c * r3
  | 0, 3 => s^3
  | 1, 0 => s^3 * r3 - s * r3
  | 1, 1 => (3 : ℝ) * c^3 - (2 : ℝ) * c
  | 1, 2 => -(3 : ℝ) * s^3 + (2 : ℝ) * s
  | 1, 3 => -c^3 * r3 + c * r3
  | 2, 0 => -c^3 * r3 + c * r3
  | 2, 1 => (3 : ℝ) * s^3 - (2 : ℝ) * s
  | 2, 2 => (3 : ℝ) * c^3 - (2 : ℝ) * c
  | 2, 3 => -s^3 * r3 + s * r3
  | 3, 0 => -s^3
  | 3, 1 => -c^3 * r3 + c * r3
  | 3, 2 => s^3 * r3 - s * r3
  | 3, 3 => c^3
  | _, _ => 0

/-- d^{4/2}(β), rows/columns m = -4/2 … 4/2 -/
def d4 (c s r2 r3 r5 : ℝ) : ℕ → ℕ → ℝ
  | 0, 0 => c^4
  | 0, 1 => (2 : ℝ) * c^3 * s
  | 0, 2 => c^2 * s^2 * r2 * r3
  | 0, 3 => (2 : ℝ) * c * s^3
  | 0, 4 => c^4 - (2 : ℝ) * c^2 + (1 : ℝ)
  | 1, 0 => -(2 : ℝ) * c^3 * s
  | 1, 1 => (4 : ℝ) * c^4 - (3 : ℝ) * c^2
  | 1, 2 => -(2 : ℝ) * c * s^3 * r2 * r3 + c * s * r2 * r3
  | 1, 3 => -(4 : ℝ) * c^4 + (5 : ℝ) * c^2 - (1 : ℝ)
  | 1, 4 => (2 : ℝ) * c * s^3
  | 2, 0 => c^2 * s^2 * r2 * r3
  | 2, 1 => (2 : ℝ) * c * s^3 * r2 * r3 - c * s * r2 * r3
  | 2, 2 => (6 : ℝ) * c^4 - (6 : ℝ) * c^2 + (1 : ℝ)
  | 2, 3 => -(2 : ℝ) * c * s^3 * r2 * r3 + c * s * r2 * r3
  | 2, 4 => c^2 * s^2 * r2 * r3
  | 3, 0 => (2 : ℝ) * c^3 * s - (2 : ℝ) * c * s
  | 3, 1 => -(4 : ℝ) * c^4 + (5 : ℝ) * c^2 - (1 : ℝ)
  | 3, 2 => (2 : ℝ) * c * s^3 * r2 * r3 - c * s * r2 * r3
  | 3, 3 => (4 : ℝ) * c^4 - (3 : ℝ) * c^2
  | 3, 4 => (2 : ℝ) * c^3 * s
  | 4, 0 => c^4 - (2 : ℝ) * c^2 + (1 : ℝ)
  | 4, 1 => (2 : ℝ) * c^3 * s - (2 : ℝ) * c * s
  | 4, 2 => c^2 * s^2 * r2 * r3
  | 4, 3 => -(2 : ℝ) * c^3 * s
  | 4, 4 => c^4
  | _, _ => 0

/-- d^{5/2}(β), rows/columns m = -5/2 … 5/2 -/
def d5 (c s r2 r3 r5 : ℝ) : ℕ → ℕ → ℝ
  | 0, 0 => c^5
  | 0, 1 => s^5 * r5 - (2 : ℝ) * s^3 * r5 + s * r5
  | 0, 2 => -c^5 * r2 * r5 + c^3 * r2 * r5
  | 0, 3 => -s^5 * r2 * r5 + s^3 * r2 * r5
  | 0, 4 => c^5 * r5 - (2 : ℝ) * c^3 * r5 + c * r5
  | 0, 5 => s^5
  | 1, 0 => -s^5 * r5 + (2 : ℝ) * s^3 * r5 - s * r5
  | 1, 1 => (5 : ℝ) * c^5 - (4 : ℝ) * c^3
  | 1, 2 => (5 : ℝ) * s^5 * r2 - (7 : ℝ) * s^3 * r2 + (2 : ℝ) * s * r2
  | 1, 3 => -(5 : ℝ) * c^5 * r2 + (7 : ℝ) * c^3 * r2 - (2 : ℝ) * c * r2
  | 1, 4 => -(5 : ℝ) * s^5 + (4 : ℝ) * s^3
  | 1, 5 => c^5 * r5 - (2 : ℝ) * c^3 * r5 + c * r5
  | 2, 0 => -c^5 * r2 * r5 + c^3 * r2 * r5
  | 2, 1 => -(5 : ℝ) * s^5 * r2 + (7 : ℝ) * s^3 * r2 - (2 : ℝ) * s * r2
  | 2, 2 => (10 : ℝ) * c^5 - (12 : ℝ) * c^3 + (3 : ℝ) * c
  | 2, 3 => (10 : ℝ) * s^5 - (12 : ℝ) * s^3 + (3 : ℝ) * s
  | 2, 4 => -(5 : ℝ) * c^5 * r2 + (7 : ℝ) * c^3 * r2 - (2 : ℝ) * c * r2
  | 2, 5 => -s^5 * r2 * r5 + s^3 * r2 * r5
  | 3, 0 => s^5 * r2 * r5 - s^3 * r2 * r5
  | 3, 1 => -(5 : ℝ) * c^5 * r2 + (7 : ℝ) * c^3 * r2 - (2 : ℝ) * c * r2
  | 3, 2 => -(10 : ℝ) * s^5 + (12 : ℝ) * s^3 - (3 : ℝ) * s
  | 3, 3 => (10 : ℝ) * c^5 - (12 : ℝ) * c^3 + (3 : ℝ) * c
  | 3, 4 => (5 : ℝ) * s^5 * r2 - (7 : ℝ) * s^3 * r2 + (2 : ℝ) * s * r2
  | 3, 5 => -c^5 * r2 * r5 + c^3 * r2 * r5
  | 4, 0 => c^5 * r5 - (2 : ℝ) * c^3 * r5 + c * r5
  | 4, 1 => (5 : ℝ) * s^5 - (4 : ℝ) * s^3
  | 4, 2 => -(5 : ℝ) * c^5 * r2 + (7 : ℝ) * c^3 * r2 - (2 : ℝ) * c * r2
  | 4, 3 => -(5 : ℝ) * s^5 * r2 + (7 : ℝ) * s^3 * r2 - (2 : ℝ) * s * r2
  | 4, 4 => (5 : ℝ) * c^5 - (4 : ℝ) * c^3
  | 4, 5 => s^5 * r5 - (2 : ℝ) * s^3 * r5 + s * r5
  | 5, 0 => -s^5
  | 5, 1 => c^5 * r5 - (2 : ℝ) * c^3 * r5 + c * r5
  | 5, 2 => s^5 * r2 * r5 - s^3 * r2 * r5
  | 5, 3 => -c^5 * r2 * r5 + c^3 * r2 * r5
  | 5, 4 => -s^5 * r5 + (2 : ℝ) * s^3 * r5 - s * r5
  | 5, 5 => c^5
  | _, _ => 0

/-- all tables: `dtab J` is d^{J/2} for J ≤ 5 -/
def dtab : ℕ → ℝ → ℝ → ℝ → ℝ → ℝ → ℕ → ℕ → ℝ
  | 0 => d0
  | 1 => d1
  | 2 => d2
  | 3 => d3
  | 4 => d4
  | 5 => d5
  | _ => fun _ _ _ _ _ _ _ => 0

theorem orth_of_le {n : ℕ} {d : ℕ → ℕ → ℝ}
    (h : ∀ a b, a ≤ b → b < n → ∑ k ∈ Finset.range n, d a k * d b k = if a = b then 1 else 0)
    (a b : ℕ) (ha : a < n) (hb : b < n) :
    ∑ k ∈ Finset.range n, d a k * d b k = if a = b then 1 else 0 := by
  rcases le_total a b with hab | hab
  · exact h a b hab hb
  · rw [Finset.sum_congr rfl fun k _ => mul_comm (d a k) (d b k), h b a hab ha]
    simp only [eq_comm]

theorem d0_row_orth {c s r2 r3 r5 : ℝ} (hcs : c^2 + s^2 = 1) (h2 : r2^2 = 2) (h3 : r3^2 = 3) (h5 : r5^2 = 5) :
    ∀ a b : ℕ, a ≤ b → b < 1 →
      ∑ k ∈ Finset.range 1, d0 c s r2 r3 r5 a k * d0 c s r2 r3 r5 b k = if a = b then 1 else 0
  | 0, 0, _, _ => by
    rw [if_pos rfl]
    simp only [Finset.sum_range_succ, Finset.sum_range_zero, d0.eq_1]
    ring
  | a + 1, 0, h, _ => absurd h (by omega)
  | _, b + 1, _, h => absurd h (by omega)

theorem d1_row_orth {c s r2 r3 r5 : ℝ} (hcs : c^2 + s^2 = 1) (h2 : r2^2 = 2) (h3 : r3^2 = 3) (h5 : r5^2 = 5) :
    ∀ a b : ℕ, a ≤ b → b < 2 →
      ∑ k ∈ Finset.range 2, d1 c s r2 r3 r5 a k * d1 c s r2 r3 r5 b k = if a = b then 1 else 0
  | 0, 0, _, _ => by
    rw [if_pos rfl]
    simp only [Finset.sum_range_succ, Finset.sum_range_zero, d1.eq_1, d1.eq_2]
    linear_combination hcs
  | 0, 1, _, _ => by
    rw [if_neg (by decide)]
    simp only [Finset.sum_range_succ, Finset.sum_range_zero, d1.eq_1, d1.eq_2, d1.eq_3, d1.eq_4]
    ring
  | 1, 1, _, _ => by
    rw [if_pos rfl]
    simp only [Finset.sum_range_succ, Finset.sum_range_zero, d1.eq_3, d1.eq_4]
    linear_combination hcs
  | a + 1, 0, h, _ => absurd h (by omega)
  | a + 2, 1, h, _ => absurd h (by omega)
  | _, b + 2, _, h => absurd h (by omega)

theorem d2_row_orth {c s r2 r3 r5 : ℝ} (hcs : c^2 + s^2 = 1) (h2 : r2^2 = 2) (h3 : r3^2 = 3) (h5 : r5^2 = 5) :
    ∀ a b : ℕ, a ≤ b → b < 3 →
      ∑ k ∈ Finset.range 3, d2 c s r2 r3 r5 a k * d2 c s r2 r3 r5 b k = if a = b then 1 else 0
  | 0, 0, _, _ => by
    rw [if_pos rfl]
    simp only [Finset.sum_range_succ, Finset.sum_range_zero, d2.eq_1, d2.eq_2, d2.eq_3]
    linear_combination 2 * c^2 * hcs + c^2 * s^2 * h2
  | 0, 1, _, _ => by
    rw [if_neg (by decide)]
    simp only [Finset.sum_range_succ, Finset.sum_range_zero, d2.eq_1, d2.eq_2, d2.eq_3, d2.eq_4, d2.eq_5, d2.eq_6]
    ring
  | 0, 2, _, _ => by
    rw [if_neg (by decide)]
    simp only [Finset.sum_range_succ, Finset.sum_range_zero, d2.eq_1, d2.eq_2, d2.eq_3, d2.eq_7, d2.eq_8, d2.eq_9]
    linear_combination -2 * c^2 * hcs - c^2 * s^2 * h2
  | 1, 1, _, _ => by
    rw [if_pos rfl]
    simp only [Finset.sum_range_succ, Finset.sum_range_zero, d2.eq_4, d2.eq_5, d2.eq_6]
    linear_combination 4 * c^2 * hcs + 2 * c^2 * s^2 * h2
  | 1, 2, _, _ => by
    rw [if_neg (by decide)]
    simp only [Finset.sum_range_succ, Finset.sum_range_zero, d2.eq_4, d2.eq_5, d2.eq_6, d2.eq_7, d2.eq_8, d2.eq_9]
    ring
  | 2, 2, _, _ => by
    rw [if_pos rfl]
    simp only [Finset.sum_range_succ, Finset.sum_range_zero, d2.eq_7, d2.eq_8, d2.eq_9]
    linear_combination 2 * c^2 * hcs + c^2 * s^2 * h2
  | a + 1, 0, h, _ => absurd h (by omega)
  | a + 2, 1, h, _ => absurd h (by omega)
  | a + 3, 2, h, _ => absurd h (by omega)
  | _, b + 3, _, h => absurd h (by omega)

theorem d3_row_orth {c s r2 r3 r5 : ℝ} (hcs : c^2 + s^2 = 1) (h2 : r2^2 = 2) (h3 : r3^2 = 3) (h5 : r5^2 = 5) :
    ∀ a b : ℕ, a ≤ b → b < 4 →
      ∑ k ∈ Finset.range 4, d3 c s r2 r3 r5 a k * d3 c s r2 r3 r5 b k = if a = b then 1 else 0
  | 0, 0, _, _ => by
    rw [if_pos rfl]
    simp only [Finset.sum_range_succ, Finset.sum_range_zero, d3.eq_1, d3.eq_2, d3.eq_3, d3.eq_4]
    linear_combination (4 * c^4 - 4 * c^2 * s^2 - 2 * c^2 + 4 * s^4 - 2 * s^2 + 1) * hcs + (c^6 - 2 * c^4 + c^2 + s^6 - 2 * s^4 + s^2) * h3
  | 0, 1, _, _ => by
    rw [if_neg (by decide)]
    simp only [Finset.sum_range_succ, Finset.sum_range_zero, d3.eq_1, d3.eq_2, d3.eq_3, d3.eq_4, d3.eq_5, d3.eq_6, d3.eq_7, d3.eq_8]
    ring
  | 0, 2, _, _ => by
    rw [if_neg (by decide)]
    simp only [Finset.sum_range_succ, Finset.sum_range_zero, d3.eq_1, d3.eq_2, d3.eq_3, d3.eq_4, d3.eq_9, d3.eq_10, d3.eq_11, d3.eq_12]
    linear_combination -2 * r3 * (2 * c^4 - 2 * c^2 * s^2 - c^2 + 2 * s^4 - s^2) * hcs
  | 0, 3, _, _ => by
    rw [if_neg (by decide)]
    simp only [Finset.sum_range_succ, Finset.sum_range_zero, d3.eq_1, d3.eq_2, d3.eq_3, d3.eq_4, d3.eq_13, d3.eq_14, d3.eq_15, d3.eq_16]
    ring
  | 1, 1, _, _ => by
    rw [if_pos rfl]
    simp only [Finset.sum_range_succ, Finset.sum_range_zero, d3.eq_5, d3.eq_6, d3.eq_7, d3.eq_8]
    linear_combination (12 * c^4 - 12 * c^2 * s^2 - 6 * c^2 + 12 * s^4 - 6 * s^2 + 1) * hcs + (c^6 - 2 * c^4 + c^2 + s^6 - 2 * s^4 + s^2) * h3
  | 1, 2, _, _ => by
    rw [if_neg (by decide)]
    simp only [Finset.sum_range_succ, Finset.sum_range_zero, d3.eq_5, d3.eq_6, d3.eq_7, d3.eq_8, d3.eq_9, d3.eq_10, d3.eq_11, d3.eq_12]
    ring
  | 1, 3, _, _ => by
    rw [if_neg (by decide)]
    simp only [Finset.sum_range_succ, Finset.sum_range_zero, d3.eq_5, d3.eq_6, d3.eq_7, d3.eq_8, d3.eq_13, d3.eq_14, d3.eq_15, d3.eq_16]
    linear_combination -2 * r3 * (2 * c^4 - 2 * c^2 * s^2 - c^2 + 2 * s^4 - s^2) * hcs
  | 2, 2, _, _ => by
    rw [if_pos rfl]
    simp only [Finset.sum_range_succ, Finset.sum_range_zero, d3.eq_9, d3.eq_10, d3.eq_11, d3.eq_12]
    linear_combination (12 * c^4 - 12 * c^2 * s^2 - 6 * c^2 + 12 * s^4 - 6 * s^2 + 1) * hcs + (c^6 - 2 * c^4 + c^2 + s^6 - 2 * s^4 + s^2) * h3
  | 2, 3, _, _ => by
    rw [if_neg (by decide)]
    simp only [Finset.sum_range_succ, Finset.sum_range_zero, d3.eq_9, d3.eq_10, d3.eq_11, d3.eq_12, d3.eq_13, d3.eq_14, d3.eq_15, d3.eq_16]
    ring
  | 3, 3, _, _ => by
    rw [if_pos rfl]
    simp only [Finset.sum_range_succ, Finset.sum_range_zero, d3.eq_13, d3.eq_14, d3.eq_15, d3.eq_16]
    linear_combination (4 * c^4 - 4 * c^2 * s^2 - 2 * c^2 + 4 * s^4 - 2 * s^2 + 1) * hcs + (c^6 - 2 * c^4 + c^2 + s^6 - 2 * s^4 + s^2) * h3
  | a + 1, 0, h, _ => absurd h (by omega)
  | a + 2, 1, h, _ => absurd h (by omega)
  | a + 3, 2, h, _ => absurd h (by omega)
  | a + 4, 3, h, _ => absurd h (by omega)
  | _, b + 4, _, h => absurd h (by omega)

theorem d4_row_orth {c s r2 r3 r5 : ℝ} (hcs : c^2 + s^2 = 1) (h2 : r2^2 = 2) (h3 : r3^2 = 3) (h5 : r5^2 = 5) :
    ∀ a b : ℕ, a ≤ b → b < 5 →
      ∑ k ∈ Finset.range 5, d4 c s r2 r3 r5 a k * d4 c s r2 r3 r5 b k = if a = b then 1 else 0
  | 0, 0, _, _ => by
    rw [if_pos rfl]
    simp only [Finset.sum_range_succ, Finset.sum_range_zero, d4.eq_1, d4.eq_2, d4.eq_3, d4.eq_4, d4.eq_5]
    linear_combination 2 * c^2 * (c^4 + c^2 * s^2 - c^2 + 2 * s^4 + 2 * s^2 + 2) * hcs + c^4 * s^4 * r3^2 * h2 + 2 * c^4 * s^4 * h3
  | 0, 1, _, _ => by
    rw [if_neg (by decide)]
    simp only [Finset.sum_range_succ, Finset.sum_range_zero, d4.eq_1, d4.eq_2, d4.eq_3, d4.eq_4, d4.eq_5, d4.eq_6, d4.eq_7, d4.eq_8, d4.eq_9, d4.eq_10]
    linear_combination 6 * c^3 * s * (c^2 - 2 * s^2) * hcs - c^3 * s^3 * r3^2 * (2 * s^2 - 1) * h2 - 2 * c^3 * s^3 * (2 * s^2 - 1) * h3
  | 0, 2, _, _ => by
    rw [if_neg (by decide)]
    simp only [Finset.sum_range_succ, Finset.sum_range_zero, d4.eq_1, d4.eq_2, d4.eq_3, d4.eq_4, d4.eq_5, d4.eq_11, d4.eq_12, d4.eq_13, d4.eq_14, d4.eq_15]
    linear_combination 2 * c^2 * s^2 * r2 * r3 * (4 * c^2 - 2 * s^2 - 1) * hcs
  | 0, 3, _, _ => by
    rw [if_neg (by decide)]
    simp only [Finset.sum_range_succ, Finset.sum_range_zero, d4.eq_1, d4.eq_2, d4.eq_3, d4.eq_4, d4.eq_5, d4.eq_16, d4.eq_17, d4.eq_18, d4.eq_19, d4.eq_20]
    linear_combination -4 * c^3 * s * (c^2 - 3 * s^2) * hcs + c^3 * s^3 * r3^2 * (2 * s^2 - 1) * h2 + 2 * c^3 * s^3 * (2 * s^2 - 1) * h3
  | 0, 4, _, _ => by
    rw [if_neg (by decide)]
    simp only [Finset.sum_range_succ, Finset.sum_range_zero, d4.eq_1, d4.eq_2, d4.eq_3, d4.eq_4, d4.eq_5, d4.eq_21, d4.eq_22, d4.eq_23, d4.eq_24, d4.eq_25]
    linear_combination 2 * c^4 * (c^2 + s^2 - 1) * hcs + c^4 * s^4 * r3^2 * h2 + 2 * c^4 * s^4 * h3
  | 1, 1, _, _ => by
    rw [if_pos rfl]
    simp only [Finset.sum_range_succ, Finset.sum_range_zero, d4.eq_6, d4.eq_7, d4.eq_8, d4.eq_9, d4.eq_10]
    linear_combination 2 * c^2 * (16 * c^4 - 14 * c^2 * s^2 - 16 * c^2 + 14 * s^4 + 2 * s^2 + 5) * hcs + c^2 * s^2 * r3^2 * (4 * s^4 - 4 * s^2 + 1) * h2 + 2 * c^2 * s^2 * (4 * s^4 - 4 * s^2 + 1) * h3
  | 1, 2, _, _ => by
    rw [if_neg (by decide)]
    simp only [Finset.sum_range_succ, Finset.sum_range_zero, d4.eq_6, d4.eq_7, d4.eq_8, d4.eq_9, d4.eq_10, d4.eq_11, d4.eq_12, d4.eq_13, d4.eq_14, d4.eq_15]
    linear_combination 2 * c^3 * s * r2 * r3 * (s^2 - 1) * hcs
  | 1, 3, _, _ => by
    rw [if_neg (by decide)]
    simp only [Finset.sum_range_succ, Finset.sum_range_zero, d4.eq_6, d4.eq_7, d4.eq_8, d4.eq_9, d4.eq_10, d4.eq_16, d4.eq_17, d4.eq_18, d4.eq_19, d4.eq_20]
    linear_combination -2 * c^2 * (16 * c^4 - 14 * c^2 * s^2 - 16 * c^2 + 12 * s^4 + 3) * hcs - c^2 * s^2 * r3^2 * (4 * s^4 - 4 * s^2 + 1) * h2 - 2 * c^2 * s^2 * (4 * s^4 - 4 * s^2 + 1) * h3
  | 1, 4, _, _ => by
    rw [if_neg (by decide)]
    simp only [Finset.sum_range_succ, Finset.sum_range_zero, d4.eq_6, d4.eq_7, d4.eq_8, d4.eq_9, d4.eq_10, d4.eq_21, d4.eq_22, d4.eq_23, d4.eq_24, d4.eq_25]
    linear_combination 2 * c^3 * s * (7 * c^2 - 6 * s^2 - 3) * hcs - c^3 * s^3 * r3^2 * (2 * s^2 - 1) * h2 - 2 * c^3 * s^3 * (2 * s^2 - 1) * h3
  | 2, 2, _, _ => by
    rw [if_pos rfl]
    simp only [Finset.sum_range_succ, Finset.sum_range_zero, d4.eq_11, d4.eq_12, d4.eq_13, d4.eq_14, d4.eq_15]
    linear_combination 12 * c^2 * (3 * c^4 - 3 * c^2 * s^2 - 3 * c^2 + 4 * s^4 + 1) * hcs + 2 * c^2 * s^2 * r3^2 * (c^2 * s^2 + 4 * s^4 - 4 * s^2 + 1) * h2 + 4 * c^2 * s^2 * (c^2 * s^2 + 4 * s^4 - 4 * s^2 + 1) * h3
  | 2, 3, _, _ => by
    rw [if_neg (by decide)]
    simp only [Finset.sum_range_succ, Finset.sum_range_zero, d4.eq_11, d4.eq_12, d4.eq_13, d4.eq_14, d4.eq_15, d4.eq_16, d4.eq_17, d4.eq_18, d4.eq_19, d4.eq_20]
    linear_combination 2 * c^3 * s * r2 * r3 * hcs
  | 2, 4, _, _ => by
    rw [if_neg (by decide)]
    simp only [Finset.sum_range_succ, Finset.sum_range_zero, d4.eq_11, d4.eq_12, d4.eq_13, d4.eq_14, d4.eq_15, d4.eq_21, d4.eq_22, d4.eq_23, d4.eq_24, d4.eq_25]
    linear_combination 4 * c^2 * s^2 * r2 * r3 * (2 * c^2 - 1) * hcs
  | 3, 3, _, _ => by
    rw [if_pos rfl]
    simp only [Finset.sum_range_succ, Finset.sum_range_zero, d4.eq_16, d4.eq_17, d4.eq_18, d4.eq_19, d4.eq_20]
    linear_combination 2 * c^2 * (16 * c^4 - 12 * c^2 * s^2 - 16 * c^2 + 12 * s^4 + 5) * hcs + c^2 * s^2 * r3^2 * (4 * s^4 - 4 * s^2 + 1) * h2 + 2 * c^2 * s^2 * (4 * s^4 - 4 * s^2 + 1) * h3
  | 3, 4, _, _ => by
    rw [if_neg (by decide)]
    simp only [Finset.sum_range_succ, Finset.sum_range_zero, d4.eq_16, d4.eq_17, d4.eq_18, d4.eq_19, d4.eq_20, d4.eq_21, d4.eq_22, d4.eq_23, d4.eq_24, d4.eq_25]
    linear_combination -6 * c^3 * s * (2 * c^2 - 2 * s^2 - 1) * hcs + c^3 * s^3 * r3^2 * (2 * s^2 - 1) * h2 + 2 * c^3 * s^3 * (2 * s^2 - 1) * h3
  | 4, 4, _, _ => by
    rw [if_pos rfl]
    simp only [Finset.sum_range_succ, Finset.sum_range_zero, d4.eq_21, d4.eq_22, d4.eq_23, d4.eq_24, d4.eq_25]
    linear_combination 2 * c^2 * (c^4 + 3 * c^2 * s^2 - c^2 + 2) * hcs + c^4 * s^4 * r3^2 * h2 + 2 * c^4 * s^4 * h3
  | a + 1, 0, h, _ => absurd h (by omega)
  | a + 2, 1, h, _ => absurd h (by omega)
  | a + 3, 2, h, _ => absurd h (by omega)
  | a + 4, 3, h, _ => absurd h (by omega)
  | a + 5, 4, h, _ => absurd h (by omega)
  | _, b + 5, _, h => absurd h (by omega)

theorem d5_row_orth {c s r2 r3 r5 : ℝ} (hcs : c^2 + s^2 = 1) (h2 : r2^2 = 2) (h3 : r3^2 = 3) (h5 : r5^2 = 5) :
    ∀ a b : ℕ, a ≤ b → b < 6 →
      ∑ k ∈ Finset.range 6, d5 c s r2 r3 r5 a k * d5 c s r2 r3 r5 b k = if a = b then 1 else 0
  | 0, 0, _, _ => by
    rw [if_pos rfl]
    simp only [Finset.sum_range_succ, Finset.sum_range_zero, d5.eq_1, d5.eq_2, d5.eq_3, d5.eq_4, d5.eq_5, d5.eq_6]
    linear_combination (16 * c^8 - 16 * c^6 * s^2 - 24 * c^6 + 16 * c^4 * s^4 + 8 * c^4 * s^2 + 16 * c^4 - 16 * c^2 * s^6 + 8 * c^2 * s^4 - 8 * c^2 * s^2 - 4 * c^2 + 16 * s^8 - 24 * s^6 + 16 * s^4 - 4 * s^2 + 1) * hcs + r5^2 * (c^10 - 2 * c^8 + c^6 + s^10 - 2 * s^8 + s^6) * h2 + (3 * c^10 - 8 * c^8 + 8 * c^6 - 4 * c^4 + c^2 + 3 * s^10 - 8 * s^8 + 8 * s^6 - 4 * s^4 + s^2) * h5
  | 0, 1, _, _ => by
    rw [if_neg (by decide)]
    simp only [Finset.sum_range_succ, Finset.sum_range_zero, d5.eq_1, d5.eq_2, d5.eq_3, d5.eq_4, d5.eq_5, d5.eq_6, d5.eq_7, d5.eq_8, d5.eq_9, d5.eq_10, d5.eq_11, d5.eq_12]
    linear_combination 2 * c * s * r5 * (c^4 * s^2 - c^4 - c^2 * s^4 + c^2 + s^4 - s^2) * h2
  | 0, 2, _, _ => by
    rw [if_neg (by decide)]
    simp only [Finset.sum_range_succ, Finset.sum_range_zero, d5.eq_1, d5.eq_2, d5.eq_3, d5.eq_4, d5.eq_5, d5.eq_6, d5.eq_13, d5.eq_14, d5.eq_15, d5.eq_16, d5.eq_17, d5.eq_18]
    linear_combination -2 * r2 * r5 * (8 * c^8 - 8 * c^6 * s^2 - 12 * c^6 + 8 * c^4 * s^4 + 4 * c^4 * s^2 + 6 * c^4 - 8 * c^2 * s^6 + 4 * c^2 * s^4 - 2 * c^2 * s^2 - c^2 + 8 * s^8 - 12 * s^6 + 6 * s^4 - s^2) * hcs
  | 0, 3, _, _ => by
    rw [if_neg (by decide)]
    simp only [Finset.sum_range_succ, Finset.sum_range_zero, d5.eq_1, d5.eq_2, d5.eq_3, d5.eq_4, d5.eq_5, d5.eq_6, d5.eq_19, d5.eq_20, d5.eq_21, d5.eq_22, d5.eq_23, d5.eq_24]
    ring
  | 0, 4, _, _ => by
    rw [if_neg (by decide)]
    simp only [Finset.sum_range_succ, Finset.sum_range_zero, d5.eq_1, d5.eq_2, d5.eq_3, d5.eq_4, d5.eq_5, d5.eq_6, d5.eq_25, d5.eq_26, d5.eq_27, d5.eq_28, d5.eq_29, d5.eq_30]
    linear_combination 8 * r5 * (2 * c^8 - 2 * c^6 * s^2 - 3 * c^6 + 2 * c^4 * s^4 + c^4 * s^2 + c^4 - 2 * c^2 * s^6 + c^2 * s^4 + 2 * s^8 - 3 * s^6 + s^4) * hcs + r5 * (5 * c^10 - 12 * c^8 + 9 * c^6 - 2 * c^4 + 5 * s^10 - 12 * s^8 + 9 * s^6 - 2 * s^4) * h2
  | 0, 5, _, _ => by
    rw [if_neg (by decide)]
    simp only [Finset.sum_range_succ, Finset.sum_range_zero, d5.eq_1, d5.eq_2, d5.eq_3, d5.eq_4, d5.eq_5, d5.eq_6, d5.eq_31, d5.eq_32, d5.eq_33, d5.eq_34, d5.eq_35, d5.eq_36]
    ring
  | 1, 1, _, _ => by
    rw [if_pos rfl]
    simp only [Finset.sum_range_succ, Finset.sum_range_zero, d5.eq_7, d5.eq_8, d5.eq_9, d5.eq_10, d5.eq_11, d5.eq_12]
    linear_combination (80 * c^8 - 80 * c^6 * s^2 - 120 * c^6 + 80 * c^4 * s^4 + 40 * c^4 * s^2 + 64 * c^4 - 80 * c^2 * s^6 + 40 * c^2 * s^4 - 24 * c^2 * s^2 - 12 * c^2 + 80 * s^8 - 120 * s^6 + 64 * s^4 - 12 * s^2 + 1) * hcs + (25 * c^10 - 70 * c^8 + 69 * c^6 - 28 * c^4 + 4 * c^2 + 25 * s^10 - 70 * s^8 + 69 * s^6 - 28 * s^4 + 4 * s^2) * h2 + (c^10 - 4 * c^8 + 6 * c^6 - 4 * c^4 + c^2 + s^10 - 4 * s^8 + 6 * s^6 - 4 * s^4 + s^2) * h5
  | 1, 2, _, _ => by
    rw [if_neg (by decide)]
    simp only [Finset.sum_range_succ, Finset.sum_range_zero, d5.eq_7, d5.eq_8, d5.eq_9, d5.eq_10, d5.eq_11, d5.eq_12, d5.eq_13, d5.eq_14, d5.eq_15, d5.eq_16, d5.eq_17, d5.eq_18]
    linear_combination -c * s * r2 * (c^4 * s^2 - c^4 - c^2 * s^4 + c^2 + s^4 - s^2) * h5
  | 1, 3, _, _ => by
    rw [if_neg (by decide)]
    simp only [Finset.sum_range_succ, Finset.sum_range_zero, d5.eq_7, d5.eq_8, d5.eq_9, d5.eq_10, d5.eq_11, d5.eq_12, d5.eq_19, d5.eq_20, d5.eq_21, d5.eq_22, d5.eq_23, d5.eq_24]
    linear_combination -2 * r2 * (40 * c^8 - 40 * c^6 * s^2 - 60 * c^6 + 40 * c^4 * s^4 + 20 * c^4 * s^2 + 26 * c^4 - 40 * c^2 * s^6 + 20 * c^2 * s^4 - 6 * c^2 * s^2 - 3 * c^2 + 40 * s^8 - 60 * s^6 + 26 * s^4 - 3 * s^2) * hcs - r2 * (c^10 - 3 * c^8 + 3 * c^6 - c^4 + s^10 - 3 * s^8 + 3 * s^6 - s^4) * h5
  | 1, 4, _, _ => by
    rw [if_neg (by decide)]
    simp only [Finset.sum_range_succ, Finset.sum_range_zero, d5.eq_7, d5.eq_8, d5.eq_9, d5.eq_10, d5.eq_11, d5.eq_12, d5.eq_25, d5.eq_26, d5.eq_27, d5.eq_28, d5.eq_29, d5.eq_30]
    ring
  | 1, 5, _, _ => by
    rw [if_neg (by decide)]
    simp only [Finset.sum_range_succ, Finset.sum_range_zero, d5.eq_7, d5.eq_8, d5.eq_9, d5.eq_10, d5.eq_11, d5.eq_12, d5.eq_31, d5.eq_32, d5.eq_33, d5.eq_34, d5.eq_35, d5.eq_36]
    linear_combination 8 * r5 * (2 * c^8 - 2 * c^6 * s^2 - 3 * c^6 + 2 * c^4 * s^4 + c^4 * s^2 + c^4 - 2 * c^2 * s^6 + c^2 * s^4 + 2 * s^8 - 3 * s^6 + s^4) * hcs + r5 * (5 * c^10 - 12 * c^8 + 9 * c^6 - 2 * c^4 + 5 * s^10 - 12 * s^8 + 9 * s^6 - 2 * s^4) * h2
  | 2, 2, _, _ => by
    rw [if_pos rfl]
    simp only [Finset.sum_range_succ, Finset.sum_range_zero, d5.eq_13, d5.eq_14, d5.eq_15, d5.eq_16, d5.eq_17, d5.eq_18]
    linear_combination (160 * c^8 - 160 * c^6 * s^2 - 240 * c^6 + 160 * c^4 * s^4 + 80 * c^4 * s^2 + 112 * c^4 - 160 * c^2 * s^6 + 80 * c^2 * s^4 - 32 * c^2 * s^2 - 16 * c^2 + 160 * s^8 - 240 * s^6 + 112 * s^4 - 16 * s^2 + 1) * hcs + (c^10 * r5^2 + 25 * c^10 - 2 * c^8 * r5^2 - 70 * c^8 + c^6 * r5^2 + 69 * c^6 - 28 * c^4 + 4 * c^2 + s^10 * r5^2 + 25 * s^10 - 2 * s^8 * r5^2 - 70 * s^8 + s^6 * r5^2 + 69 * s^6 - 28 * s^4 + 4 * s^2) * h2 + 2 * (c^10 - 2 * c^8 + c^6 + s^10 - 2 * s^8 + s^6) * h5
  | 2, 3, _, _ => by
    rw [if_neg (by decide)]
    simp only [Finset.sum_range_succ, Finset.sum_range_zero, d5.eq_13, d5.eq_14, d5.eq_15, d5.eq_16, d5.eq_17, d5.eq_18, d5.eq_19, d5.eq_20, d5.eq_21, d5.eq_22, d5.eq_23, d5.eq_24]
    ring
  | 2, 4, _, _ => by
    rw [if_neg (by decide)]
    simp only [Finset.sum_range_succ, Finset.sum_range_zero, d5.eq_13, d5.eq_14, d5.eq_15, d5.eq_16, d5.eq_17, d5.eq_18, d5.eq_25, d5.eq_26, d5.eq_27, d5.eq_28, d5.eq_29, d5.eq_30]
    linear_combination -2 * r2 * (40 * c^8 - 40 * c^6 * s^2 - 60 * c^6 + 40 * c^4 * s^4 + 20 * c^4 * s^2 + 26 * c^4 - 40 * c^2 * s^6 + 20 * c^2 * s^4 - 6 * c^2 * s^2 - 3 * c^2 + 40 * s^8 - 60 * s^6 + 26 * s^4 - 3 * s^2) * hcs - r2 * (c^10 - 3 * c^8 + 3 * c^6 - c^4 + s^10 - 3 * s^8 + 3 * s^6 - s^4) * h5
  | 2, 5, _, _ => by
    rw [if_neg (by decide)]
    simp only [Finset.sum_range_succ, Finset.sum_range_zero, d5.eq_13, d5.eq_14, d5.eq_15, d5.eq_16, d5.eq_17, d5.eq_18, d5.eq_31, d5.eq_32, d5.eq_33, d5.eq_34, d5.eq_35, d5.eq_36]
    ring
  | 3, 3, _, _ => by
    rw [if_pos rfl]
    simp only [Finset.sum_range_succ, Finset.sum_range_zero, d5.eq_19, d5.eq_20, d5.eq_21, d5.eq_22, d5.eq_23, d5.eq_24]
    linear_combination (160 * c^8 - 160 * c^6 * s^2 - 240 * c^6 + 160 * c^4 * s^4 + 80 * c^4 * s^2 + 112 * c^4 - 160 * c^2 * s^6 + 80 * c^2 * s^4 - 32 * c^2 * s^2 - 16 * c^2 + 160 * s^8 - 240 * s^6 + 112 * s^4 - 16 * s^2 + 1) * hcs + (c^10 * r5^2 + 25 * c^10 - 2 * c^8 * r5^2 - 70 * c^8 + c^6 * r5^2 + 69 * c^6 - 28 * c^4 + 4 * c^2 + s^10 * r5^2 + 25 * s^10 - 2 * s^8 * r5^2 - 70 * s^8 + s^6 * r5^2 + 69 * s^6 - 28 * s^4 + 4 * s^2) * h2 + 2 * (c^10 - 2 * c^8 + c^6 + s^10 - 2 * s^8 + s^6) * h5
  | 3, 4, _, _ => by
    rw [if_neg (by decide)]
    simp only [Finset.sum_range_succ, Finset.sum_range_zero, d5.eq_19, d5.eq_20, d5.eq_21, d5.eq_22, d5.eq_23, d5.eq_24, d5.eq_25, d5.eq_26, d5.eq_27, d5.eq_28, d5.eq_29, d5.eq_30]
    linear_combination c * s * r2 * (c^4 * s^2 - c^4 - c^2 * s^4 + c^2 + s^4 - s^2) * h5
  | 3, 5, _, _ => by
    rw [if_neg (by decide)]
    simp only [Finset.sum_range_succ, Finset.sum_range_zero, d5.eq_19, d5.eq_20, d5.eq_21, d5.eq_22, d5.eq_23, d5.eq_24, d5.eq_31, d5.eq_32, d5.eq_33, d5.eq_34, d5.eq_35, d5.eq_36]
    linear_combination -2 * r2 * r5 * (8 * c^8 - 8 * c^6 * s^2 - 12 * c^6 + 8 * c^4 * s^4 + 4 * c^4 * s^2 + 6 * c^4 - 8 * c^2 * s^6 + 4 * c^2 * s^4 - 2 * c^2 * s^2 - c^2 + 8 * s^8 - 12 * s^6 + 6 * s^4 - s^2) * hcs
  | 4, 4, _, _ => by
    rw [if_pos rfl]
    simp only [Finset.sum_range_succ, Finset.sum_range_zero, d5.eq_25, d5.eq_26, d5.eq_27, d5.eq_28, d5.eq_29, d5.eq_30]
    linear_combination (80 * c^8 - 80 * c^6 * s^2 - 120 * c^6 + 80 * c^4 * s^4 + 40 * c^4 * s^2 + 64 * c^4 - 80 * c^2 * s^6 + 40 * c^2 * s^4 - 24 * c^2 * s^2 - 12 * c^2 + 80 * s^8 - 120 * s^6 + 64 * s^4 - 12 * s^2 + 1) * hcs + (25 * c^10 - 70 * c^8 + 69 * c^6 - 28 * c^4 + 4 * c^2 + 25 * s^10 - 70 * s^8 + 69 * s^6 - 28 * s^4 + 4 * s^2) * h2 + (c^10 - 4 * c^8 + 6 * c^6 - 4 * c^4 + c^2 + s^10 - 4 * s^8 + 6 * s^6 - 4 * s^4 + s^2) * h5
  | 4, 5, _, _ => by
    rw [if_neg (by decide)]
    simp only [Finset.sum_range_succ, Finset.sum_range_zero, d5.eq_25, d5.eq_26, d5.eq_27, d5.eq_28, d5.eq_29, d5.eq_30, d5.eq_31, d5.eq_32, d5.eq_33, d5.eq_34, d5.eq_35, d5.eq_36]
    linear_combination -2 * c * s * r5 * (c^4 * s^2 - c^4 - c^2 * s^4 + c^2 + s^4 - s^2) * h2
  | 5, 5, _, _ => by
    rw [if_pos rfl]
    simp only [Finset.sum_range_succ, Finset.sum_range_zero, d5.eq_31, d5.eq_32, d5.eq_33, d5.eq_34, d5.eq_35, d5.eq_36]
    linear_combination (16 * c^8 - 16 * c^6 * s^2 - 24 * c^6 + 16 * c^4 * s^4 + 8 * c^4 * s^2 + 16 * c^4 - 16 * c^2 * s^6 + 8 * c^2 * s^4 - 8 * c^2 * s^2 - 4 * c^2 + 16 * s^8 - 24 * s^6 + 16 * s^4 - 4 * s^2 + 1) * hcs + r5^2 * (c^10 - 2 * c^8 + c^6 + s^10 - 2 * s^8 + s^6) * h2 + (3 * c^10 - 8 * c^8 + 8 * c^6 - 4 * c^4 + c^2 + 3 * s^10 - 8 * s^8 + 8 * s^6 - 4 * s^4 + s^2) * h5
  | a + 1, 0, h, _ => absurd h (by omega)
  | a + 2, 1, h, _ => absurd h (by omega)
  | a + 3, 2, h, _ => absurd h (by omega)
  | a + 4, 3, h, _ => absurd h (by omega)
  | a + 5, 4, h, _ => absurd h (by omega)
  | a + 6, 5, h, _ => absurd h (by omega)
  | _, b + 6, _, h => absurd h (by omega)

theorem dtab_row_orth {c s r2 r3 r5 : ℝ} (hcs : c^2 + s^2 = 1) (h2 : r2^2 = 2) (h3 : r3^2 = 3) (h5 : r5^2 = 5)
    (j2 : ℕ) (hj : j2 ≤ 5) (a b : ℕ) (ha : a < j2 + 1) (hb : b < j2 + 1) :
    ∑ k ∈ Finset.range (j2 + 1), dtab j2 c s r2 r3 r5 a k * dtab j2 c s r2 r3 r5 b k = if a = b then 1 else 0 := by
  match j2, hj with
  | 0, _ => exact orth_of_le (d0_row_orth hcs h2 h3 h5) a b ha hb
  | 1, _ => exact orth_of_le (d1_row_orth hcs h2 h3 h5) a b ha hb
  | 2, _ => exact orth_of_le (d2_row_orth hcs h2 h3 h5) a b ha hb
  | 3, _ => exact orth_of_le (d3_row_orth hcs h2 h3 h5) a b ha hb
  | 4, _ => exact orth_of_le (d4_row_orth hcs h2 h3 h5) a b ha hb
  | 5, _ => exact orth_of_le (d5_row_orth hcs h2 h3 h5) a b ha hb
  | n + 6, h => exact absurd h (by omega)

end Ampverif.Gen.C05Wigner
