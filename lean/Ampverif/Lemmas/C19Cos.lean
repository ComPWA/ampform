/-
Every arccos argument `cos…` of `Gen/C19.lean` is `± G.cos Q a b` for a row `(Q, a, b)` of
combinations of `p₁, p₂, p₃` (each one of `p_i`, `p_i + p_j`, `p₁ + p₂ + p₃`), in any Gram matrix `G`
whose invariants are the seven mass symbols: the two Källén functions and the numerator are `4 ×`
the radicands and numerator of `gramCos`. Only 18 of the 42 generated definitions have distinct
bodies; the others are definitionally equal to one of these. `thetaHatCos_eq_cos` and
`zetaCos_eq_cos` then give the row of every entry of the θ̂ and ζ tables from its indices.
-/
import Ampverif.Lemmas.C19Gram
import Ampverif.Lemmas.C19Cases

namespace Ampverif.Lemmas.C19
open Ampverif.Gen.C19

variable {G : Gram} {m_0 m_1 m_2 m_3 m_12 m_13 m_23 : ℝ}

theorem cosTheta_1_2_gram (h : GramMasses G m_0 m_1 m_2 m_3 m_12 m_13 m_23) :
    cosTheta_1_2 m_0 m_1 m_2 m_3 m_12 m_13 m_23 = -G.cos ⟨1, 1, 0⟩ ⟨1, 0, 0⟩ ⟨0, 0, 1⟩ := by
  unfold cosTheta_1_2
  rw [h.h0, h.h1, h.h2, h.h3, h.h12, h.h13]
  simp only [gram_eval]
  rw [gramCos_comm]
  exact ratio_eq_neg_gramCos (by unfold Kallen; ring) (by unfold Kallen; ring) (by ring)

theorem cosTheta_1_3_gram (h : GramMasses G m_0 m_1 m_2 m_3 m_12 m_13 m_23) :
    cosTheta_1_3 m_0 m_1 m_2 m_3 m_12 m_13 m_23 = -G.cos ⟨1, 0, 1⟩ ⟨1, 0, 0⟩ ⟨0, 1, 0⟩ := by
  unfold cosTheta_1_3
  rw [h.h0, h.h1, h.h2, h.h3, h.h12, h.h13]
  simp only [gram_eval]
  rw [gramCos_comm]
  exact ratio_eq_neg_gramCos (by unfold Kallen; ring) (by unfold Kallen; ring) (by ring)

theorem cosTheta_2_1_gram (h : GramMasses G m_0 m_1 m_2 m_3 m_12 m_13 m_23) :
    cosTheta_2_1 m_0 m_1 m_2 m_3 m_12 m_13 m_23 = -G.cos ⟨1, 1, 0⟩ ⟨0, 1, 0⟩ ⟨0, 0, 1⟩ := by
  unfold cosTheta_2_1
  rw [h.h0, h.h1, h.h2, h.h3, h.h12, h.h23]
  simp only [gram_eval]
  rw [gramCos_comm]
  exact ratio_eq_neg_gramCos (by unfold Kallen; ring) (by unfold Kallen; ring) (by ring)

theorem cosTheta_2_3_gram (h : GramMasses G m_0 m_1 m_2 m_3 m_12 m_13 m_23) :
    cosTheta_2_3 m_0 m_1 m_2 m_3 m_12 m_13 m_23 = -G.cos ⟨0, 1, 1⟩ ⟨0, 1, 0⟩ ⟨1, 0, 0⟩ := by
  unfold cosTheta_2_3
  rw [h.h0, h.h1, h.h2, h.h3, h.h12, h.h23]
  simp only [gram_eval]
  rw [gramCos_comm]
  exact ratio_eq_neg_gramCos (by unfold Kallen; ring) (by unfold Kallen; ring) (by ring)

theorem cosTheta_3_1_gram (h : GramMasses G m_0 m_1 m_2 m_3 m_12 m_13 m_23) :
    cosTheta_3_1 m_0 m_1 m_2 m_3 m_12 m_13 m_23 = -G.cos ⟨1, 0, 1⟩ ⟨0, 0, 1⟩ ⟨0, 1, 0⟩ := by
  unfold cosTheta_3_1
  rw [h.h0, h.h1, h.h2, h.h3, h.h13, h.h23]
  simp only [gram_eval]
  rw [gramCos_comm]
  exact ratio_eq_neg_gramCos (by unfold Kallen; ring) (by unfold Kallen; ring) (by ring)

theorem cosTheta_3_2_gram (h : GramMasses G m_0 m_1 m_2 m_3 m_12 m_13 m_23) :
    cosTheta_3_2 m_0 m_1 m_2 m_3 m_12 m_13 m_23 = -G.cos ⟨0, 1, 1⟩ ⟨0, 0, 1⟩ ⟨1, 0, 0⟩ := by
  unfold cosTheta_3_2
  rw [h.h0, h.h1, h.h2, h.h3, h.h13, h.h23]
  simp only [gram_eval]
  rw [gramCos_comm]
  exact ratio_eq_neg_gramCos (by unfold Kallen; ring) (by unfold Kallen; ring) (by ring)

theorem cosThetaHat_1_2_gram (h : GramMasses G m_0 m_1 m_2 m_3 m_12 m_13 m_23) :
    cosThetaHat_1_2 m_0 m_1 m_2 m_3 m_12 m_13 m_23 = G.cos ⟨1, 1, 1⟩ ⟨0, 1, 0⟩ ⟨1, 0, 0⟩ := by
  unfold cosThetaHat_1_2
  rw [h.h0, h.h1, h.h2, h.h12, h.h13, h.h23]
  simp only [gram_eval]
  exact ratio_eq_gramCos (by unfold Kallen; ring) (by unfold Kallen; ring) (by ring)

theorem cosThetaHat_1_3_gram (h : GramMasses G m_0 m_1 m_2 m_3 m_12 m_13 m_23) :
    cosThetaHat_1_3 m_0 m_1 m_2 m_3 m_12 m_13 m_23 = G.cos ⟨1, 1, 1⟩ ⟨1, 0, 0⟩ ⟨0, 0, 1⟩ := by
  unfold cosThetaHat_1_3
  rw [h.h0, h.h1, h.h3, h.h12, h.h13, h.h23]
  simp only [gram_eval]
  exact ratio_eq_gramCos (by unfold Kallen; ring) (by unfold Kallen; ring) (by ring)

theorem cosThetaHat_2_3_gram (h : GramMasses G m_0 m_1 m_2 m_3 m_12 m_13 m_23) :
    cosThetaHat_2_3 m_0 m_1 m_2 m_3 m_12 m_13 m_23 = G.cos ⟨1, 1, 1⟩ ⟨0, 1, 0⟩ ⟨0, 0, 1⟩ := by
  unfold cosThetaHat_2_3
  rw [h.h0, h.h2, h.h3, h.h12, h.h13, h.h23]
  simp only [gram_eval]
  exact ratio_eq_gramCos (by unfold Kallen; ring) (by unfold Kallen; ring) (by ring)

theorem cosZeta_1_1_2_gram (h : GramMasses G m_0 m_1 m_2 m_3 m_12 m_13 m_23) :
    cosZeta_1_1_2 m_0 m_1 m_2 m_3 m_12 m_13 m_23 = G.cos ⟨1, 0, 0⟩ ⟨1, 1, 1⟩ ⟨0, 0, 1⟩ := by
  unfold cosZeta_1_1_2
  rw [h.h0, h.h1, h.h3, h.h12, h.h13, h.h23]
  simp only [gram_eval]
  exact ratio_eq_gramCos (by unfold Kallen; ring) (by unfold Kallen; ring) (by ring)

theorem cosZeta_1_1_3_gram (h : GramMasses G m_0 m_1 m_2 m_3 m_12 m_13 m_23) :
    cosZeta_1_1_3 m_0 m_1 m_2 m_3 m_12 m_13 m_23 = G.cos ⟨1, 0, 0⟩ ⟨1, 1, 1⟩ ⟨0, 1, 0⟩ := by
  unfold cosZeta_1_1_3
  rw [h.h0, h.h1, h.h2, h.h12, h.h13, h.h23]
  simp only [gram_eval]
  exact ratio_eq_gramCos (by unfold Kallen; ring) (by unfold Kallen; ring) (by ring)

theorem cosZeta_1_2_3_gram (h : GramMasses G m_0 m_1 m_2 m_3 m_12 m_13 m_23) :
    cosZeta_1_2_3 m_0 m_1 m_2 m_3 m_12 m_13 m_23 = G.cos ⟨1, 0, 0⟩ ⟨0, 1, 0⟩ ⟨0, 0, 1⟩ := by
  unfold cosZeta_1_2_3
  rw [h.h1, h.h2, h.h3, h.h12, h.h13, h.h23]
  simp only [gram_eval]
  exact ratio_eq_gramCos (by unfold Kallen; ring) (by unfold Kallen; ring) (by ring)

theorem cosZeta_2_1_0_gram (h : GramMasses G m_0 m_1 m_2 m_3 m_12 m_13 m_23) :
    cosZeta_2_1_0 m_0 m_1 m_2 m_3 m_12 m_13 m_23 = G.cos ⟨0, 1, 0⟩ ⟨1, 1, 1⟩ ⟨0, 0, 1⟩ := by
  unfold cosZeta_2_1_0
  rw [h.h0, h.h2, h.h3, h.h12, h.h13, h.h23]
  simp only [gram_eval]
  exact ratio_eq_gramCos (by unfold Kallen; ring) (by unfold Kallen; ring) (by ring)

theorem cosZeta_2_1_3_gram (h : GramMasses G m_0 m_1 m_2 m_3 m_12 m_13 m_23) :
    cosZeta_2_1_3 m_0 m_1 m_2 m_3 m_12 m_13 m_23 = G.cos ⟨0, 1, 0⟩ ⟨1, 0, 0⟩ ⟨0, 0, 1⟩ := by
  unfold cosZeta_2_1_3
  rw [h.h1, h.h2, h.h3, h.h12, h.h13, h.h23]
  simp only [gram_eval]
  exact ratio_eq_gramCos (by unfold Kallen; ring) (by unfold Kallen; ring) (by ring)

theorem cosZeta_2_2_3_gram (h : GramMasses G m_0 m_1 m_2 m_3 m_12 m_13 m_23) :
    cosZeta_2_2_3 m_0 m_1 m_2 m_3 m_12 m_13 m_23 = G.cos ⟨0, 1, 0⟩ ⟨1, 1, 1⟩ ⟨1, 0, 0⟩ := by
  unfold cosZeta_2_2_3
  rw [h.h0, h.h1, h.h2, h.h12, h.h13, h.h23]
  simp only [gram_eval]
  exact ratio_eq_gramCos (by unfold Kallen; ring) (by unfold Kallen; ring) (by ring)

theorem cosZeta_3_1_0_gram (h : GramMasses G m_0 m_1 m_2 m_3 m_12 m_13 m_23) :
    cosZeta_3_1_0 m_0 m_1 m_2 m_3 m_12 m_13 m_23 = G.cos ⟨0, 0, 1⟩ ⟨1, 1, 1⟩ ⟨0, 1, 0⟩ := by
  unfold cosZeta_3_1_0
  rw [h.h0, h.h2, h.h3, h.h12, h.h13, h.h23]
  simp only [gram_eval]
  exact ratio_eq_gramCos (by unfold Kallen; ring) (by unfold Kallen; ring) (by ring)

theorem cosZeta_3_1_2_gram (h : GramMasses G m_0 m_1 m_2 m_3 m_12 m_13 m_23) :
    cosZeta_3_1_2 m_0 m_1 m_2 m_3 m_12 m_13 m_23 = G.cos ⟨0, 0, 1⟩ ⟨1, 0, 0⟩ ⟨0, 1, 0⟩ := by
  unfold cosZeta_3_1_2
  rw [h.h1, h.h2, h.h3, h.h12, h.h13, h.h23]
  simp only [gram_eval]
  exact ratio_eq_gramCos (by unfold Kallen; ring) (by unfold Kallen; ring) (by ring)

theorem cosZeta_3_2_0_gram (h : GramMasses G m_0 m_1 m_2 m_3 m_12 m_13 m_23) :
    cosZeta_3_2_0 m_0 m_1 m_2 m_3 m_12 m_13 m_23 = G.cos ⟨0, 0, 1⟩ ⟨1, 1, 1⟩ ⟨1, 0, 0⟩ := by
  unfold cosZeta_3_2_0
  rw [h.h0, h.h1, h.h3, h.h12, h.h13, h.h23]
  simp only [gram_eval]
  exact ratio_eq_gramCos (by unfold Kallen; ring) (by unfold Kallen; ring) (by ring)

/-- momentum index of the direction that, seen from particle `i`, belongs to decay chain `j`: the
parent for `j = i`, else the third particle; seen from the parent (`i = 0`), particle `j`. Same body
as `Props.C19.zetaDir`, which a lemma file cannot name: the two are interchangeable by unfolding. -/
def chainDir (i j : Nat) : Nat := if i = 0 then j else if j = i then 0 else 6 - i - j

/-- every entry of the θ̂ table: seen from the parent, between particles `i` and `j` -/
theorem thetaHatCos_eq_cos (h : GramMasses G m_0 m_1 m_2 m_3 m_12 m_13 m_23) {i j : Nat} {x : ℝ}
    (hx : thetaHatCos i j m_0 m_1 m_2 m_3 m_12 m_13 m_23 = some x) :
    x = G.cos ⟨1, 1, 1⟩ (coef i) (coef j) :=
  thetaHatCos_cases (motive := fun i j x => x = G.cos ⟨1, 1, 1⟩ (coef i) (coef j))
    ((cosThetaHat_1_2_gram h).trans (G.cos_comm _ _ _)) (cosThetaHat_1_3_gram h)
    (cosThetaHat_1_2_gram h) (cosThetaHat_2_3_gram h)
    ((cosThetaHat_1_3_gram h).trans (G.cos_comm _ _ _))
    ((cosThetaHat_2_3_gram h).trans (G.cos_comm _ _ _)) hx

/-- every entry of the ζ table: seen from `i`, between the directions of chains `j` and `k`
(`k = 0` stands for `k = i`) -/
theorem zetaCos_eq_cos (h : GramMasses G m_0 m_1 m_2 m_3 m_12 m_13 m_23) {i j k : Nat} {x : ℝ}
    (hx : zetaCos i j k m_0 m_1 m_2 m_3 m_12 m_13 m_23 = some x) :
    x = G.cos (coef i) (coef (chainDir i j)) (coef (chainDir i (if k = 0 then i else k))) := by
  have s12 := (cosThetaHat_1_2_gram h).trans (G.cos_comm _ _ _)
  have s13 := (cosThetaHat_1_3_gram h).trans (G.cos_comm _ _ _)
  have s23 := (cosThetaHat_2_3_gram h).trans (G.cos_comm _ _ _)
  have s112 := (cosZeta_1_1_2_gram h).trans (G.cos_comm _ _ _)
  have s113 := (cosZeta_1_1_3_gram h).trans (G.cos_comm _ _ _)
  have s123 := (cosZeta_1_2_3_gram h).trans (G.cos_comm _ _ _)
  have s210 := (cosZeta_2_1_0_gram h).trans (G.cos_comm _ _ _)
  have s213 := (cosZeta_2_1_3_gram h).trans (G.cos_comm _ _ _)
  have s223 := (cosZeta_2_2_3_gram h).trans (G.cos_comm _ _ _)
  have s310 := (cosZeta_3_1_0_gram h).trans (G.cos_comm _ _ _)
  have s312 := (cosZeta_3_1_2_gram h).trans (G.cos_comm _ _ _)
  have s320 := (cosZeta_3_2_0_gram h).trans (G.cos_comm _ _ _)
  exact zetaCos_cases (motive := fun i j k x =>
      x = G.cos (coef i) (coef (chainDir i j)) (coef (chainDir i (if k = 0 then i else k))))
    s12 (cosThetaHat_1_3_gram h) (cosThetaHat_1_2_gram h) (cosThetaHat_2_3_gram h) s13 s23
    (cosZeta_1_1_2_gram h) (cosZeta_1_1_3_gram h) s112 s112 s123 s113 s113 (cosZeta_1_2_3_gram h)
    s210 s210 s213 (cosZeta_2_1_0_gram h) (cosZeta_2_2_3_gram h) s223 (cosZeta_2_1_3_gram h) s223
    s310 s312 s310 s320 (cosZeta_3_1_2_gram h) s320 (cosZeta_3_1_0_gram h) (cosZeta_3_2_0_gram h)
    hx

end Ampverif.Lemmas.C19
