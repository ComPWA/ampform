/-
A matrix whose columns are orthonormal on a finite index set preserves inner products and `Σ |·|²` over
that set (C04: `conj D^J(R)` on the projections; C05: the chain matrices on their pools).
-/
import Mathlib.Data.Complex.BigOperators
import Mathlib.Algebra.BigOperators.Ring.Finset
import Mathlib.Algebra.BigOperators.Group.Finset.Basic
import Mathlib.Tactic.Ring

namespace Ampverif.Lemmas
open scoped ComplexConjugate

theorem inner_preserved {ι : Type*} [DecidableEq ι] (s : Finset ι) (U : ι → ι → ℂ)
    (hU : ∀ l ∈ s, ∀ l' ∈ s, ∑ m ∈ s, conj (U m l) * U m l' = if l = l' then 1 else 0)
    (x y : ι → ℂ) :
    ∑ m ∈ s, conj (∑ l ∈ s, U m l * x l) * (∑ l ∈ s, U m l * y l) = ∑ l ∈ s, conj (x l) * y l := by
  simp only [map_sum, map_mul, Finset.sum_mul_sum]
  rw [Finset.sum_comm]
  refine Finset.sum_congr rfl fun l hl => ?_
  rw [Finset.sum_comm]
  calc ∑ l' ∈ s, ∑ m ∈ s, conj (U m l) * conj (x l) * (U m l' * y l')
      = ∑ l' ∈ s, conj (x l) * y l' * ∑ m ∈ s, conj (U m l) * U m l' := by
        refine Finset.sum_congr rfl fun l' _ => ?_
        rw [Finset.mul_sum]
        exact Finset.sum_congr rfl fun m _ => by ring
    _ = ∑ l' ∈ s, conj (x l) * y l' * (if l = l' then 1 else 0) :=
        Finset.sum_congr rfl fun l' hl' => by rw [hU l hl l' hl']
    _ = conj (x l) * y l := by simp [hl]

/-- a matrix with orthonormal columns on `s` preserves the sum of squared moduli over `s` -/
theorem norm_preserved {ι : Type*} [DecidableEq ι] (s : Finset ι) (U : ι → ι → ℂ)
    (hU : ∀ l ∈ s, ∀ l' ∈ s, ∑ m ∈ s, conj (U m l) * U m l' = if l = l' then 1 else 0) (x : ι → ℂ) :
    ∑ m ∈ s, Complex.normSq (∑ l ∈ s, U m l * x l) = ∑ l ∈ s, Complex.normSq (x l) := by
  apply Complex.ofReal_injective
  push_cast
  simp only [Complex.normSq_eq_conj_mul_self]
  exact inner_preserved s U hU x x

end Ampverif.Lemmas
