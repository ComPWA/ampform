/-
Helper lemmas for C18/C14: the constructor `PoolSum.__new__` (`Model/ExprNew.lean`) stores the values
it is given — for every kind of input iterable —, `func(*args)` is the identity, and `subs`/
`xreplace` performed THROUGH the constructor are the `subst1`/`xreplace` of the term model.
-/
import Ampverif.Lemmas.C18Subst
import Ampverif.Model.ExprNew

namespace Ampverif.Lemmas.C18
open Ampverif.Model

/-- no pool of the binder list is empty (what `__new__` enforces). -/
def poolsNonempty (ixs : List Binder) : Bool := ixs.all (fun p => !p.2.isEmpty)

/-- the loop of `__new__` (current source: one `tuple(values)` per pool, nothing dropped) returns
the index symbols with what iterating each pool object yields — same order, duplicates included —
whatever kind of iterable each pool is. -/
theorem convertIndices_ok (nv : NewVariant) (hd : nv.dropsRepeated = false) :
    ∀ ixs : List (Sym × Pool), (∀ p ∈ ixs, p.2.items ≠ []) →
      convertIndices nv ixs = .ok (ixs.map (fun p => (p.1, p.2.items)))
  | [], _ => by simp [convertIndices]
  | (i, p) :: rest, h => by
      have hp : p.items ≠ [] := h (i, p) (by simp)
      have ih := convertIndices_ok nv hd rest (fun q hq => h q (by simp [hq]))
      simp [convertIndices, hd, Pool.iterate, List.isEmpty_eq_false_iff.mpr hp, ih]

/-- an empty pool (an exhausted iterator included) is rejected: the `ValueError`. -/
theorem convertIndices_error (nv : NewVariant) (hd : nv.dropsRepeated = false) :
    ∀ ixs : List (Sym × Pool), (∃ p ∈ ixs, p.2.items = []) →
      ∃ j, convertIndices nv ixs = .error j ∧ j ∈ names ixs
  | [], h => by obtain ⟨p, hp, _⟩ := h; simp at hp
  | (i, p) :: rest, h => by
      by_cases hp : p.items = []
      · exact ⟨i, by simp [convertIndices, hd, Pool.iterate, hp], by simp [names]⟩
      · have hr : ∃ q ∈ rest, q.2.items = [] := by
          obtain ⟨q, hq, hqe⟩ := h
          rcases List.mem_cons.mp hq with rfl | hq'
          · exact absurd hqe hp
          · exact ⟨q, hq', hqe⟩
        obtain ⟨j, hj, hjm⟩ := convertIndices_error nv hd rest hr
        exact ⟨j, by simp [convertIndices, hd, Pool.iterate, List.isEmpty_eq_false_iff.mpr hp, hj],
          by simp only [names, List.map_cons, List.mem_cons]; exact Or.inr hjm⟩

theorem convertIndices_argPools (nv : NewVariant) (hd : nv.dropsRepeated = false) :
    ∀ ixs : List Binder, poolsNonempty ixs = true → convertIndices nv (argPools ixs) = .ok ixs := by
  intro ixs h
  have h' : ∀ p ∈ argPools ixs, p.2.items ≠ [] := by
    intro p hp
    simp only [argPools, List.mem_map] at hp
    obtain ⟨q, hq, rfl⟩ := hp
    have := (List.all_eq_true.mp h) q hq
    intro he
    simp [Pool.ofTuple] at he
    simp [he] at this
  rw [convertIndices_ok nv hd _ h']
  simp [argPools, Pool.ofTuple, List.map_map, Function.comp_def]

theorem psumNew_sound (v : Variant) (nv : NewVariant) (hn : nv.sound) (b : Expr)
    (ixs : List (Sym × Pool)) (ev : Bool) :
    psumNew v nv b ixs ev =
      match convertIndices nv ixs with
      | .error j => .noValues j
      | .ok c => if ev then .ok (evaluate v (.psum b c)) else .ok (.psum b c) := by
  unfold psumNew
  rw [hn.1]
  cases convertIndices nv ixs <;> simp

theorem subst1Binders_sizes (v : Variant) (x : Sym) (a : Expr) (ixs : List Binder) :
    (subst1Binders v x a ixs).map (fun p => p.2.length) = ixs.map (fun p => p.2.length) := by
  rw [subst1Binders_eq_map, sizes_map_pools]

theorem xreplaceBinders_sizes (v : Variant) (σ : List (Sym × Expr)) (ixs : List Binder) :
    (xreplaceBinders v ixs σ).map (fun p => p.2.length) = ixs.map (fun p => p.2.length) := by
  rw [xreplaceBinders_eq_map, sizes_map_pools]

/-- `poolsNonempty` looks at the pool sizes only. -/
theorem poolsNonempty_iff_sizes (ixs : List Binder) :
    poolsNonempty ixs = true ↔ ∀ n ∈ ixs.map (fun p => p.2.length), n ≠ 0 := by
  simp only [poolsNonempty, List.all_eq_true, List.forall_mem_map, Bool.not_eq_true', List.isEmpty_eq_false_iff,
    ne_eq, List.length_eq_zero_iff]

theorem poolsNonempty_of_sizes {ixs jxs : List Binder}
    (h : jxs.map (fun p => p.2.length) = ixs.map (fun p => p.2.length))
    (hn : poolsNonempty ixs = true) : poolsNonempty jxs = true := by
  rw [poolsNonempty_iff_sizes] at hn ⊢
  rwa [h]

theorem poolsNonempty_of_wfSums {b : Expr} {ixs : List Binder} (hw : wfSums (.psum b ixs) = true) :
    poolsNonempty ixs = true := by
  simpa only [poolsNonempty, List.all_eq_true, Bool.not_eq_true', List.isEmpty_eq_false_iff, ne_eq] using
    (wfSums_psum.mp hw).2.1

end Ampverif.Lemmas.C18
