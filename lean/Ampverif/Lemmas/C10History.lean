/-
What the items of a result are, the cache invariant of `Model/C10History.lean`, and one call with an
injective key.
-/
import Ampverif.Model.C10History
import Ampverif.Lemmas.MemoRun

namespace Ampverif.Lemmas.C10History
open Ampverif.C10History

theorem mem_widthItems {a : Args} {w : Factor} {it : Item} :
    it ∈ widthItems a w ↔
      ∃ r < a.nPoles, ∃ i < a.nChannels, it = Item.width (r + 1) i w a.angMom a.radius := by
  simp [widthItems, eq_comm]

theorem mem_rhoItems {a : Args} {it : Item} :
    it ∈ rhoItems a ↔ ∃ n, a.phsp.node = some n ∧ ∃ i < a.nChannels, it = Item.rho i n := by
  unfold rhoItems
  split <;> simp [*, eq_comm]

theorem mem_ffItems {a : Args} {it : Item} :
    it ∈ ffItems a ↔
      a.cls = Cls.relP ∧ ∃ i < a.nChannels, it = Item.formFactor i a.angMom a.radius := by
  unfold ffItems
  split <;> simp_all [@eq_comm _ it]

theorem mem_items_out {a : Args} {w : Factor} {it : Item} :
    it ∈ (out a w).items ↔ (a.cls.relativistic = true ∧ a.parametrize = true) ∧
      (it ∈ widthItems a w ∨ it ∈ rhoItems a ∨ it ∈ ffItems a) := by
  unfold out
  split <;> simp_all

/-- Every entry of the cache was stored under the key of the factor it carries. -/
def CacheOk {α : Type} (κ : Factor → α) (c : List (Entry α)) : Prop :=
  ∀ e ∈ c, e.key = κ e.stored

theorem cacheOk_nil {α : Type} (κ : Factor → α) : CacheOk κ ([] : List (Entry α)) :=
  fun _ he => nomatch he

theorem lookup_key {α : Type} [DecidableEq α] (κ : Factor → α) (c : List (Entry α)) (hc : CacheOk κ c)
    (l d : Nat) (k : α) (g : Factor) (h : lookup c l d k = some g) : κ g = k := by
  obtain ⟨e, he, hp, rfl⟩ := Lemmas.MemoRun.lookup_mem (lookup · l d k) _ Entry.stored rfl (fun _ _ => rfl) c g h
  rw [← hc e he]
  exact hp.2.2

/-- One call with an injective key: the fresh result, and the cache stays consistent. -/
theorem call_pure {α : Type} [DecidableEq α] (κ : Factor → α) (hκ : ∀ f g, κ f = κ g → f = g)
    (c : List (Entry α)) (hc : CacheOk κ c) (a : Args) :
    (call κ c a).1 = freshOut a ∧ CacheOk κ (call κ c a).2 := by
  unfold call
  split
  · split
    · next g hl =>
      rw [hκ _ _ (lookup_key κ c hc _ _ _ g hl)]
      exact ⟨rfl, hc⟩
    · exact ⟨rfl, List.forall_mem_cons.2 ⟨rfl, hc⟩⟩
  · exact ⟨rfl, hc⟩

end Ampverif.Lemmas.C10History
