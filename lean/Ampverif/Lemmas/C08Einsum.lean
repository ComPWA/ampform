/-
Helper lemmas for the einsum part of C08: the subscripts generated by
`_create_einsum_subscripts` (model in `Model/C08Einsum.lean`) denote the chain product, for every
number of arrays the alphabet allows. Induction over the list of operands.
-/
import Ampverif.Model.C08Einsum
import Mathlib.Algebra.Ring.Defs
import Mathlib.Data.List.Nodup

namespace Ampverif.Lemmas.C08Einsum
open Ampverif.Model.C08Einsum

variable {α : Type} [CommSemiring α]

theorem sumRange_mul_left (d : Nat) (c : α) (f : Nat → α) :
    sumRange d (fun k => c * f k) = c * sumRange d f := by
  unfold sumRange
  induction List.range d with
  | nil => simp
  | cons k l ih => simp only [List.foldr_cons, ih, mul_add]

theorem sumRange_congr (d : Nat) (f g : Nat → α) (h : ∀ k, f k = g k) :
    sumRange d f = sumRange d g := by
  have : f = g := funext h
  rw [this]

theorem set_same (e : Env) (c : Char) (v : Nat) : (e.set c v) c = v := by simp [Env.set]

theorem set_other (e : Env) (c x : Char) (v : Nat) (h : x ≠ c) : (e.set c v) x = e x := by
  simp [Env.set, h]

/-- A factor that does not depend on the summed letters can be pulled out of the nested sums. -/
theorem sumOver_mul_left (d : Nat) (cs : List Char) (c g : Env → α)
    (hc : ∀ l ∈ cs, ∀ (e : Env) (k : Nat), c (e.set l k) = c e) (e : Env) :
    sumOver d cs (fun e => c e * g e) e = c e * sumOver d cs g e := by
  induction cs generalizing e with
  | nil => rfl
  | cons l cs ih =>
    have ih' := ih (fun l' hl' => hc l' (List.mem_cons_of_mem _ hl'))
    simp only [sumOver]
    rw [← sumRange_mul_left]
    apply sumRange_congr
    intro k
    rw [ih' (e.set l k), hc l (List.mem_cons_self) e k]

/-- One contraction, the same in both chains: the first operand carries the letters `l0 l1`, the sum over `l1` is the
outermost one, and neither letter is summed again further in. -/
theorem sumOver_step (d : Nat) (M : List Nat → α) (ops : List (List Nat → α)) (gs : List (List Char))
    (l0 l1 : Char) (cs : List Char) (h01 : l0 ≠ l1) (h0 : l0 ∉ cs) (h1 : l1 ∉ cs) (e : Env) :
    sumOver d (l1 :: cs) (prodOps (M :: ops) ([l0, l1] :: gs)) e
      = sumRange d (fun k => M [e l0, k] * sumOver d cs (prodOps ops gs) (e.set l1 k)) := by
  have hprod : prodOps (M :: ops) ([l0, l1] :: gs)
      = fun e' => (fun e'' => M [e'' l0, e'' l1]) e' * prodOps ops gs e' := rfl
  simp only [sumOver]
  apply sumRange_congr
  intro k
  rw [hprod, sumOver_mul_left]
  · rw [set_same, set_other _ _ _ _ h01]
  · intro l hl e' k'
    have hl0 : l0 ≠ l := fun h => h0 (h ▸ hl)
    have hl1 : l1 ≠ l := fun h => h1 (h ▸ hl)
    simp only [set_other _ _ _ _ hl0, set_other _ _ _ _ hl1]

/-! ### ArrayMultiplication: `...ij,...jk,...,...z->...i` -/

/-- Core induction: summing the product of the operands over the inner letters gives the chain
`M₁·(M₂·(…·v))`, whatever the (distinct) letters are. -/
theorem chainA (d : Nat) (v : List Nat → α) :
    ∀ (Ms : List (List Nat → α)) (l0 : Char) (rest : List Char),
      (l0 :: rest).Nodup → Ms.length = rest.length → ∀ e : Env,
      sumOver d rest (prodOps (Ms ++ [v]) (groupsA (l0 :: rest))) e = chainVec d Ms v (e l0) := by
  intro Ms
  induction Ms with
  | nil =>
    intro l0 rest _ hlen e
    have : rest = [] := List.length_eq_zero_iff.mp hlen.symm
    subst this
    simp [sumOver, prodOps, groupsA, chainVec]
  | cons M Ms ih =>
    intro l0 rest hnd hlen e
    match rest, hlen with
    | l1 :: rest', hlen =>
      obtain ⟨h0, hnd'⟩ := List.nodup_cons.mp hnd
      have h1 := (List.nodup_cons.mp hnd').1
      show sumOver d (l1 :: rest') (prodOps (M :: (Ms ++ [v])) ([l0, l1] :: groupsA (l1 :: rest'))) e = _
      rw [sumOver_step d M _ _ l0 l1 rest' (fun h => h0 (h ▸ List.mem_cons_self))
        (fun h => h0 (List.mem_cons_of_mem _ h)) h1]
      simp only [chainVec]
      apply sumRange_congr
      intro k
      rw [ih l1 rest' hnd' (by simpa using hlen) (e.set l1 k), set_same]

theorem filter_ne_self (c : Char) (l : List Char) (h : c ∉ l) :
    l.filter (fun x => x != c) = l := by
  rw [List.filter_eq_self]
  intro x hx
  simp only [bne_iff_ne, ne_eq]
  exact fun hxc => h (hxc ▸ hx)

/-- The flattened groups of both chains begin `l0, l1, l1, …`: the letters already seen do not come back. -/
theorem dedup_cons_cons {l0 l1 : Char} {rest F : List Char} (hnd : (l0 :: l1 :: rest).Nodup)
    (hF : dedup F = l1 :: rest) : dedup (l0 :: l1 :: F) = l0 :: l1 :: rest := by
  obtain ⟨h0, hnd'⟩ := List.nodup_cons.mp hnd
  have h1 := (List.nodup_cons.mp hnd').1
  simp only [dedup, hF]
  have e1 : (l1 :: rest).filter (fun x => x != l1) = rest := by
    simp [filter_ne_self l1 rest h1]
  rw [e1, filter_ne_self l0 (l1 :: rest) h0]

theorem dedup_flatten_groupsA :
    ∀ (rest : List Char) (l0 : Char), (l0 :: rest).Nodup → dedup (groupsA (l0 :: rest)).flatten = l0 :: rest := by
  intro rest
  induction rest with
  | nil => intro l0 _; simp [groupsA, dedup]
  | cons l1 rest' ih =>
    intro l0 hnd
    exact dedup_cons_cons hnd (ih l1 (List.nodup_cons.mp hnd).2)

/-- For distinct letters `l0 :: rest`, the einsum with operand groups `groupsA` and output `[l0]`
is the chain product. -/
theorem einsum_groupsA (d : Nat) (Ms : List (List Nat → α)) (v : List Nat → α)
    (l0 : Char) (rest : List Char) (hnd : (l0 :: rest).Nodup) (hlen : Ms.length = rest.length)
    (a : Nat) :
    einsum d ⟨groupsA (l0 :: rest), [l0]⟩ (Ms ++ [v]) [a] = chainVec d Ms v a := by
  have h0 : l0 ∉ rest := (List.nodup_cons.mp hnd).1
  have hs : summed ⟨groupsA (l0 :: rest), [l0]⟩ = rest := by
    simp only [summed, dedup_flatten_groupsA rest l0 hnd]
    simp only [List.filter_cons, List.contains_cons, List.contains_nil, Bool.or_false, beq_self_eq_true,
      Bool.not_true, Bool.false_eq_true, if_false]
    rw [List.filter_eq_self]
    intro x hx
    have : x ≠ l0 := fun h => h0 (h ▸ hx)
    simp [this]
  unfold einsum
  rw [hs, chainA d v Ms l0 rest hnd hlen]
  simp [Env.setMany, set_same]

/-! ### MatrixMultiplication: `...ij,...jk,...,...yz->...iz` -/

theorem chainM (d : Nat) :
    ∀ (Ms : List (List Nat → α)) (l0 : Char) (rest : List Char) (hne : rest ≠ []),
      (l0 :: rest).Nodup → Ms.length = rest.length → ∀ e : Env,
      sumOver d rest.dropLast (prodOps Ms (groupsM (l0 :: rest))) e
        = chainMat d Ms (e l0) (e (rest.getLast hne)) := by
  intro Ms
  induction Ms with
  | nil =>
    intro l0 rest hne _ hlen e
    exact absurd (List.length_eq_zero_iff.mp hlen.symm) hne
  | cons M Ms ih =>
    intro l0 rest hne hnd hlen e
    match rest, hne, hlen with
    | [l1], _, hlen =>
      have : Ms = [] := List.length_eq_zero_iff.mp (by simpa using hlen)
      subst this
      simp [sumOver, prodOps, groupsM, chainMat]
    | l1 :: l2 :: rest'', _, hlen =>
      obtain ⟨h0, hnd'⟩ := List.nodup_cons.mp hnd
      have h1 := (List.nodup_cons.mp hnd').1
      have h01 : l0 ≠ l1 := fun h => h0 (h ▸ List.mem_cons_self)
      have hne' : l2 :: rest'' ≠ [] := List.cons_ne_nil _ _
      have hlen' : Ms.length = (l2 :: rest'').length := by simpa using hlen
      obtain ⟨M', Ms', rfl⟩ : ∃ M' Ms', Ms = M' :: Ms' := by
        cases Ms with
        | nil => simp at hlen'
        | cons M' Ms' => exact ⟨M', Ms', rfl⟩
      have hlast1 : (l2 :: rest'').getLast hne' ≠ l1 := fun h => h1 (h ▸ List.getLast_mem hne')
      show sumOver d (l1 :: (l2 :: rest'').dropLast)
          (prodOps (M :: M' :: Ms') ([l0, l1] :: groupsM (l1 :: l2 :: rest''))) e
        = chainMat d (M :: M' :: Ms') (e l0) (e ((l2 :: rest'').getLast hne'))
      rw [sumOver_step d M _ _ l0 l1 _ h01 (fun h => h0 (List.mem_cons_of_mem _ (List.dropLast_subset _ h)))
        (fun h => h1 (List.dropLast_subset _ h))]
      simp only [chainMat]
      apply sumRange_congr
      intro k
      rw [ih l1 (l2 :: rest'') hne' hnd' hlen' (e.set l1 k), set_same, set_other _ _ _ _ hlast1]

theorem dedup_flatten_groupsM :
    ∀ (rest : List Char) (l0 : Char), rest ≠ [] → (l0 :: rest).Nodup →
      dedup (groupsM (l0 :: rest)).flatten = l0 :: rest := by
  intro rest
  induction rest with
  | nil => intro l0 h; exact absurd rfl h
  | cons l1 rest' ih =>
    intro l0 _ hnd
    cases rest' with
    | nil =>
      have h01 : l1 ≠ l0 := fun h => (List.nodup_cons.mp hnd).1 (h ▸ List.mem_cons_self)
      simp [groupsM, dedup, h01]
    | cons l2 rest'' => exact dedup_cons_cons hnd (ih l1 (List.cons_ne_nil _ _) (List.nodup_cons.mp hnd).2)

theorem filter_middle (l0 z : Char) (mid : List Char) (h0 : l0 ∉ mid) (hz : z ∉ mid) :
    (l0 :: (mid ++ [z])).filter (fun c => !([l0, z].contains c)) = mid := by
  simp only [List.filter_cons, List.filter_append, List.contains_cons, List.contains_nil,
    Bool.or_false, beq_self_eq_true, Bool.true_or, Bool.or_true, Bool.not_true,
    Bool.false_eq_true, if_false, List.filter_nil, List.append_nil]
  rw [List.filter_eq_self]
  intro x hx
  have hx0 : x ≠ l0 := fun h => h0 (h ▸ hx)
  have hx1 : x ≠ z := fun h => hz (h ▸ hx)
  simp [hx0, hx1]

theorem einsum_groupsM (d : Nat) (Ms : List (List Nat → α))
    (l0 : Char) (rest : List Char) (hne : rest ≠ []) (hnd : (l0 :: rest).Nodup)
    (hlen : Ms.length = rest.length) (a b : Nat) :
    einsum d ⟨groupsM (l0 :: rest), [l0, rest.getLast hne]⟩ Ms [a, b] = chainMat d Ms a b := by
  have h0 : l0 ∉ rest := (List.nodup_cons.mp hnd).1
  have hndr : rest.Nodup := (List.nodup_cons.mp hnd).2
  have hlast0 : rest.getLast hne ≠ l0 := fun h => h0 (h ▸ List.getLast_mem hne)
  have hs : summed ⟨groupsM (l0 :: rest), [l0, rest.getLast hne]⟩ = rest.dropLast := by
    simp only [summed, dedup_flatten_groupsM rest l0 hne hnd]
    have hsplit := List.dropLast_append_getLast hne
    have hnd2 : (rest.dropLast ++ [rest.getLast hne]).Nodup := by rw [hsplit]; exact hndr
    have hlast_notin : rest.getLast hne ∉ rest.dropLast := by
      intro hmem
      have := (List.nodup_append.mp hnd2).2.2 _ hmem _ (List.mem_singleton.mpr rfl)
      exact this rfl
    have h0' : l0 ∉ rest.dropLast := fun h => h0 (List.dropLast_subset _ h)
    generalize rest.getLast hne = z at *
    conv_lhs => rw [← hsplit]
    exact filter_middle l0 z _ h0' hlast_notin
  unfold einsum
  rw [hs, chainM d Ms l0 rest hne hnd hlen]
  simp [Env.setMany, set_same, set_other _ _ _ _ hlast0.symm]

/-! ### The letters of the source: `string.ascii_lowercase[8 : 8 + n]` -/

theorem letters_spec (n : Nat) (h1 : 1 ≤ n) (h18 : n ≤ 18) :
    ∃ rest : List Char, pySlice alphabet 8 n = 'i' :: rest ∧ ('i' :: rest).Nodup ∧ rest.length + 1 = n := by
  have hnd : (alphabet.drop 8).Nodup := by decide
  have hhead : alphabet.drop 8 = 'i' :: (alphabet.drop 9) := by decide
  obtain ⟨m, rfl⟩ : ∃ m, n = m + 1 := ⟨n - 1, by omega⟩
  refine ⟨(alphabet.drop 9).take m, ?_, ?_, ?_⟩
  · simp [pySlice, hhead, List.take_succ_cons]
  · have : ('i' :: (alphabet.drop 9).take m) = (alphabet.drop 8).take (m + 1) := by
      simp [hhead, List.take_succ_cons]
    rw [this]
    exact hnd.sublist (List.take_sublist _ _)
  · have : (alphabet.drop 9).length = 17 := by decide
    simp [List.length_take, this]
    omega

/-! ### Number of index groups -/

theorem groupsA_length (l : List Char) : (groupsA l).length = l.length := by
  fun_induction groupsA l <;> simp_all

theorem groupsM_length (l : List Char) : (groupsM l).length = l.length - 1 := by
  fun_induction groupsM l <;> simp_all

/-- The slice `ascii_lowercase[8 : 8 + k]` runs out of letters after `z`: at most 18. -/
theorem letters_length (k : Nat) : (pySlice alphabet 8 k).length = min k 18 := by
  have : alphabet.length = 26 := by decide
  simp [pySlice, this]

end Ampverif.Lemmas.C08Einsum
