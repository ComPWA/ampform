/-
θ_ij + θ_ji = π and the ζ sum rule: first for the cosines of rows in a Gram matrix
(`Gram.arccos_neg_cos_add`, `Gram.arccos_cos_add`), then for the regenerated definitions of
`Gen/C19.lean`, whose arccos arguments are such cosines (`Lemmas/C19Cos`).
-/
import Ampverif.Lemmas.C19Cos
import Ampverif.Lemmas.C19SumRule

namespace Ampverif.Lemmas.C19
open Ampverif.Gen.C19

theorem kallen_symm_yz (x y z : ℝ) : Kallen x y z = Kallen x z y := by unfold Kallen; ring

namespace Gram
variable {G : Gram} {Q a b c d : C3} {m : ℝ}

/-- seen from `Q = a + c`, `a` and `c` are back to back -/
theorem arccos_neg_cos_add (hQ : Q = a + c) :
    Real.arccos (-G.cos Q a b) + Real.arccos (-G.cos Q c b) = Real.pi := by
  subst hQ
  have e : G.cos (a + c) c b = -G.cos (a + c) a b := by
    have hr : G.dot (a + c) c ^ 2 - G.dot (a + c) (a + c) * G.dot c c
        = G.dot (a + c) a ^ 2 - G.dot (a + c) (a + c) * G.dot a a := by
      simp only [dot_add_left, dot_add_right, G.dot_comm c a]; ring
    unfold cos gramCos
    rw [hr, ← neg_div]
    congr 1
    simp only [dot_add_left, dot_add_right, G.dot_comm c a]; ring
  rw [e, neg_neg, Real.arccos_neg]
  ring

/-- Seen from `Q`, the directions `a`, `b` and `c = Q + a + b` are coplanar with `c` between the
other two (the `Q` component does not count): `∠(a, b) = ∠(c, b) + ∠(c, a)`. -/
theorem arccos_cos_add (hd : d = a + b) (hc : c = Q + d) (hq : m ^ 2 = G.dot Q Q) (hG : 0 ≤ G.det)
    (h0 : 0 < G.dot Q d ^ 2 - G.dot Q Q * G.dot d d)
    (h2 : 0 < G.dot Q a ^ 2 - G.dot Q Q * G.dot a a)
    (h3 : 0 < G.dot Q b ^ 2 - G.dot Q Q * G.dot b b) :
    Real.arccos (G.cos Q a b) = Real.arccos (G.cos Q c b) + Real.arccos (G.cos Q c a) := by
  rw [← G.radicand_add hc] at h0
  unfold cos gramCos
  refine sum_rule_abstract h0 h2 h3 ?_ ?_ ?_ ?_
  · rw [gram_defect, G.row_det, ← hq]
    exact mul_nonneg (sq_nonneg m) (mul_nonneg (sq_nonneg _) hG)
  all_goals
    rw [hc, hd]
    simp only [dot_add_left, dot_add_right, G.dot_comm a Q, G.dot_comm b Q, G.dot_comm b a]
    ring

end Gram

section
variable {G : Gram} {m_0 m_1 m_2 m_3 m_12 m_13 m_23 : ℝ}

theorem theta_1_2_add_theta_2_1 (hg : GramMasses G m_0 m_1 m_2 m_3 m_12 m_13 m_23) :
    theta_1_2 m_0 m_1 m_2 m_3 m_12 m_13 m_23 + theta_2_1 m_0 m_1 m_2 m_3 m_12 m_13 m_23 = Real.pi := by
  unfold theta_1_2 theta_2_1
  rw [cosTheta_1_2_gram hg, cosTheta_2_1_gram hg]
  exact Gram.arccos_neg_cos_add (by norm_num [C3.add_def])

theorem theta_1_3_add_theta_3_1 (hg : GramMasses G m_0 m_1 m_2 m_3 m_12 m_13 m_23) :
    theta_1_3 m_0 m_1 m_2 m_3 m_12 m_13 m_23 + theta_3_1 m_0 m_1 m_2 m_3 m_12 m_13 m_23 = Real.pi := by
  unfold theta_1_3 theta_3_1
  rw [cosTheta_1_3_gram hg, cosTheta_3_1_gram hg]
  exact Gram.arccos_neg_cos_add (by norm_num [C3.add_def])

theorem theta_2_3_add_theta_3_2 (hg : GramMasses G m_0 m_1 m_2 m_3 m_12 m_13 m_23) :
    theta_2_3 m_0 m_1 m_2 m_3 m_12 m_13 m_23 + theta_3_2 m_0 m_1 m_2 m_3 m_12 m_13 m_23 = Real.pi := by
  unfold theta_2_3 theta_3_2
  rw [cosTheta_2_3_gram hg, cosTheta_3_2_gram hg]
  exact Gram.arccos_neg_cos_add (by norm_num [C3.add_def])

/-- `ζ¹_{2(3)} = ζ¹_{2(1)} + ζ¹_{1(3)}`: `Gram.arccos_cos_add` seen from particle 1, with the three
Källén functions `4 ×` the radicands of `p₂ + p₃`, `p₂`, `p₃`. -/
theorem zeta_sum_rule_1 (h : GramMasses G m_0 m_1 m_2 m_3 m_12 m_13 m_23)
    (hG : 0 ≤ G.det) (h0 : 0 < Kallen (m_0 ^ 2) (m_1 ^ 2) (m_23 ^ 2))
    (h2 : 0 < Kallen (m_12 ^ 2) (m_1 ^ 2) (m_2 ^ 2)) (h3 : 0 < Kallen (m_13 ^ 2) (m_1 ^ 2) (m_3 ^ 2)) :
    zeta_1_2_3 m_0 m_1 m_2 m_3 m_12 m_13 m_23 = zeta_1_2_1 m_0 m_1 m_2 m_3 m_12 m_13 m_23 + zeta_1_1_3 m_0 m_1 m_2 m_3 m_12 m_13 m_23 := by
  unfold zeta_1_2_3 zeta_1_2_1 zeta_1_1_3
  -- `cosZeta_1_2_1` is generated with the same body as `cosZeta_1_1_2`, so the lemma about the
  -- latter is one about the former (`show … from`; likewise in the two rules below)
  rw [cosZeta_1_2_3_gram h, show cosZeta_1_2_1 m_0 m_1 m_2 m_3 m_12 m_13 m_23 = _ from cosZeta_1_1_2_gram h,
    cosZeta_1_1_3_gram h]
  rw [G.kallen_dot (by norm_num [C3.add_def]) h.h0 h.h1 h.h23] at h0
  rw [G.kallen_dot (by norm_num [C3.add_def]) h.h12 h.h1 h.h2] at h2
  rw [G.kallen_dot (by norm_num [C3.add_def]) h.h13 h.h1 h.h3] at h3
  exact Gram.arccos_cos_add (d := ⟨0, 1, 1⟩) (by norm_num [C3.add_def]) (by norm_num [C3.add_def])
    h.h1 hG (by linarith) (by linarith) (by linarith)

theorem zeta_sum_rule_2 (h : GramMasses G m_0 m_1 m_2 m_3 m_12 m_13 m_23)
    (hG : 0 ≤ G.det) (h0 : 0 < Kallen (m_0 ^ 2) (m_2 ^ 2) (m_13 ^ 2))
    (h1 : 0 < Kallen (m_12 ^ 2) (m_1 ^ 2) (m_2 ^ 2)) (h3 : 0 < Kallen (m_23 ^ 2) (m_2 ^ 2) (m_3 ^ 2)) :
    zeta_2_3_1 m_0 m_1 m_2 m_3 m_12 m_13 m_23 = zeta_2_3_2 m_0 m_1 m_2 m_3 m_12 m_13 m_23 + zeta_2_2_1 m_0 m_1 m_2 m_3 m_12 m_13 m_23 := by
  unfold zeta_2_3_1 zeta_2_3_2 zeta_2_2_1
  rw [show cosZeta_2_3_1 m_0 m_1 m_2 m_3 m_12 m_13 m_23 = _ from cosZeta_2_1_3_gram h,
    show cosZeta_2_3_2 m_0 m_1 m_2 m_3 m_12 m_13 m_23 = _ from cosZeta_2_2_3_gram h,
    show cosZeta_2_2_1 m_0 m_1 m_2 m_3 m_12 m_13 m_23 = _ from cosZeta_2_1_0_gram h, add_comm]
  rw [G.kallen_dot (by norm_num [C3.add_def]) h.h0 h.h2 h.h13] at h0
  rw [kallen_symm_yz, G.kallen_dot (by norm_num [C3.add_def]) h.h12 h.h2 h.h1] at h1
  rw [G.kallen_dot (by norm_num [C3.add_def]) h.h23 h.h2 h.h3] at h3
  exact Gram.arccos_cos_add (d := ⟨1, 0, 1⟩) (by norm_num [C3.add_def]) (by norm_num [C3.add_def])
    h.h2 hG (by linarith) (by linarith) (by linarith)

theorem zeta_sum_rule_3 (h : GramMasses G m_0 m_1 m_2 m_3 m_12 m_13 m_23)
    (hG : 0 ≤ G.det) (h0 : 0 < Kallen (m_0 ^ 2) (m_3 ^ 2) (m_12 ^ 2))
    (h1 : 0 < Kallen (m_13 ^ 2) (m_1 ^ 2) (m_3 ^ 2)) (h2 : 0 < Kallen (m_23 ^ 2) (m_2 ^ 2) (m_3 ^ 2)) :
    zeta_3_1_2 m_0 m_1 m_2 m_3 m_12 m_13 m_23 = zeta_3_1_3 m_0 m_1 m_2 m_3 m_12 m_13 m_23 + zeta_3_3_2 m_0 m_1 m_2 m_3 m_12 m_13 m_23 := by
  unfold zeta_3_1_2 zeta_3_1_3 zeta_3_3_2
  rw [cosZeta_3_1_2_gram h, show cosZeta_3_1_3 m_0 m_1 m_2 m_3 m_12 m_13 m_23 = _ from cosZeta_3_1_0_gram h,
    show cosZeta_3_3_2 m_0 m_1 m_2 m_3 m_12 m_13 m_23 = _ from cosZeta_3_2_0_gram h]
  rw [G.kallen_dot (by norm_num [C3.add_def]) h.h0 h.h3 h.h12] at h0
  rw [kallen_symm_yz, G.kallen_dot (by norm_num [C3.add_def]) h.h13 h.h3 h.h1] at h1
  rw [kallen_symm_yz, G.kallen_dot (by norm_num [C3.add_def]) h.h23 h.h3 h.h2] at h2
  exact Gram.arccos_cos_add (d := ⟨1, 1, 0⟩) (by norm_num [C3.add_def]) (by norm_num [C3.add_def])
    h.h3 hG (by linarith) (by linarith) (by linarith)

end

end Ampverif.Lemmas.C19
