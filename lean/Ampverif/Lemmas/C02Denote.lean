/-
C02 — denotation of skeletons under an arbitrary interpretation, and the term-level lemma
(impl term = spec term for isobar graphs).
-/
import Ampverif.Lemmas.C02Lists

namespace Ampverif.Lemmas.C02Denote
open Ampverif.Model.C03 Ampverif.Model.C02 Ampverif.Lemmas.C02Lists

/-- An interpretation of everything the skeleton leaves open: the (conjugated) Wigner D-function of
a node, the Clebsch–Gordan coefficients, the parameters (coefficients / couplings) and the squared
modulus. Nothing is assumed about them. -/
structure Interp (R : Type) where
  D : DArgs → R
  CG : CGArgs → R
  par : String → R
  /-- the lineshape: any function of the builder id, the particle and the variable set. -/
  dyn : DynArgs → R
  nsq : R → R

variable {R : Type} [CommRing R]

def denOpt (ι : Interp R) : Option String → R
  | some c => ι.par c
  | none => 1

def denDyn (ι : Interp R) : Option DynArgs → R
  | some a => ι.dyn a
  | none => 1

def denNode (ι : Interp R) (n : NodeFactor) : R :=
  ι.D n.d * (n.cg.map ι.CG).prod * denOpt ι n.coupling * denDyn ι n.dyn

def denTerm (ι : Interp R) (t : Term) : R :=
  (t.prefactor : R) * denOpt ι t.coeff * (t.nodes.map (denNode ι)).prod

def denTerms (ι : Interp R) (l : List Term) : R := (l.map (denTerm ι)).sum

/-- `PoolSum(|Σ_bases A^base[h]|², pools)` with the amplitude definitions looked up (last writer
wins, undefined = 0). -/
def denImpl (ι : Interp R) (s : Skeleton) : R :=
  (s.configs.map fun h => ι.nsq ((s.bases.map fun b => denTerms ι (lookupLast s.writes b h)).sum)).sum

/-- the helicity formula: incoherent over outer projection tuples, coherent over all graphs with
those projections. -/
def denSpec (ι : Interp R) (p : Spec) : R :=
  (p.configs.map fun h => ι.nsq (denTerms ι ((p.graphs.filter fun g => g.1 = h).map (·.2)))).sum

/-- a named intensity component: incoherent sum of coherent sums. -/
def denIncoherent (ι : Interp R) (ls : List (List Term)) : R := (ls.map fun l => ι.nsq (denTerms ι l)).sum

theorem denTerms_flatMap {β : Type} (ι : Interp R) (f : β → List Term) :
    ∀ l : List β, denTerms ι (l.flatMap f) = (l.map fun x => denTerms ι (f x)).sum :=
  sum_flatMap f (denTerm ι)

theorem sortBy_pair {α : Type} (lt : α → α → Bool) (a b : α) :
    sortBy lt [a, b] = if lt b a then [b, a] else [a, b] := by
  simp [sortBy, insertSorted]

/-- on a two-body node the builder's `(parent, child1, child2)` is the parent and the children in
the order of their attached final-state ids. -/
theorem decay_eq_sorted (t : Transition) (n : Nat) (h : (t.outEdges n).length = 2) :
    t.decay n =
      let kids := sortBy (fun a b => lexLt (t.attached a) (t.attached b)) (t.outEdges n)
      ((t.inEdges n).headD 0, kids.headD 0, (kids.drop 1).headD 0) := by
  match hoe : t.outEdges n, h with
  | [a, b], _ =>
    rw [Transition.decay, hoe]
    by_cases hlt : lexLt (t.attached b) (t.attached a) = true <;>
      simp [sortBy_pair, Transition.isOpposite, hlt]

theorem nodeFactor_eq_specNode (cfg : Config) (sel : List DecayKey) (t : Transition) (n : Nat)
    (h : (t.outEdges n).length = 2) (hk : t.decayKey n ∈ sel) :
    t.nodeFactor cfg sel n = t.specNode cfg n := by
  unfold Transition.nodeFactor Transition.specNode Transition.dynFactor Transition.dynArgs
  rw [if_pos hk, decay_eq_sorted t n h]

theorem term_eq_specTerm (v : Variant) (cfg : Config) (m : Mapping) (sel : List DecayKey) (t : Transition)
    (h : t.isobar = true) (hk : ∀ n ∈ t.nodes, t.decayKey n ∈ sel) :
    t.term v cfg m sel = t.specTerm v cfg m := by
  unfold Transition.term Transition.specTerm
  congr 1
  apply List.map_congr_left
  intro n hn
  apply nodeFactor_eq_specNode _ _ _ _ _ (hk n hn)
  unfold Transition.isobar at h
  have := (List.all_eq_true.mp h) n hn
  simpa using this

theorem map_term_eq_specTerm (v : Variant) (cfg : Config) (m : Mapping) (sel : List DecayKey)
    (gs : List Transition) (hiso : ∀ g ∈ gs, g.isobar = true)
    (hk : ∀ g ∈ gs, ∀ n ∈ g.nodes, g.decayKey n ∈ sel) :
    gs.map (Transition.term v cfg m sel) = gs.map (Transition.specTerm v cfg m) :=
  List.map_congr_left fun g hg => term_eq_specTerm v cfg m sel g (hiso g hg) (hk g hg)

/-- every node of every symmetrised graph of a transition of the reaction is a key of the selector. -/
theorem mem_selectorKeys (ts : List Transition) (t : Transition) (ht : t ∈ ts) (g : Transition)
    (hg : g ∈ t.symmetrise) (n : Nat) (hn : n ∈ g.nodes) : g.decayKey n ∈ selectorKeys ts := by
  unfold selectorKeys
  exact List.mem_flatMap.mpr ⟨t, ht, List.mem_flatMap.mpr ⟨g, hg, List.mem_map_of_mem hn⟩⟩

end Ampverif.Lemmas.C02Denote
