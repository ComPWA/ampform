/-
C05 — the specs the three alignments use satisfy the hypotheses of the norm theorem whenever the
helicity sets are complete and the Wigner factors are unitary on complete ranges.
-/
import Ampverif.Lemmas.C05Unitary
import Ampverif.Lemmas.C05Range

namespace Ampverif.Lemmas.C05Model
open Ampverif.Model.C05Align Ampverif.Model.C05Spin
open Ampverif.Lemmas.C05Wiring Ampverif.Lemmas.C05Unitary Ampverif.Lemmas.C05Range Ampverif.Lemmas.C05Spec

/-- every Wigner factor, restricted to the complete range `-j..j`, has orthonormal columns and
orthonormal rows (it is a unitary `(2j+1)×(2j+1)` matrix), for the doubled spins `j2` with `ok j2` -/
def DUnitary (ok : ℕ → Prop) (D : ℕ → Angle → ℤ → ℤ → ℂ) : Prop :=
  ∀ j2 a, ok j2 → PoolIso (fullRange j2) (D j2 a) ∧ PoolIso (fullRange j2) (fun m m' => D j2 a m' m)

/-- the helicity set of an outer state is complete: all `2s+1` projections occur -/
def Complete (s : StateInfo) : Prop := s.observed = fullRange s.s2

/-- a massless particle of integer spin > 0 (its `create_spin_range(…, no_zero_spin=True)` pool
misses the projection 0) -/
def MasslessBoson (s : StateInfo) : Prop := s.massless = true ∧ s.s2 % 2 = 0 ∧ 0 < s.s2

theorem specRange_full (s2 : ℕ) (flag : Bool) (h : ¬ (flag = true ∧ s2 % 2 = 0 ∧ 0 < s2)) :
    specRange s2 flag = fullRange s2 := by
  unfold specRange
  split
  · rename_i hc
    simp only [Bool.and_eq_true, beq_iff_eq, decide_eq_true_eq] at hc
    exact absurd ⟨hc.1.1, hc.1.2, hc.2⟩ h
  · rfl

theorem linkMat_plain (D : ℕ → Angle → ℤ → ℤ → ℂ) (j2 : ℕ) (a : Angle) :
    linkMat D ⟨j2, a, false⟩ = D j2 a := by
  funext u l; simp [linkMat]

theorem linkMat_transposed (D : ℕ → Angle → ℤ → ℤ → ℂ) (j2 : ℕ) (a : Angle) :
    linkMat D ⟨j2, a, true⟩ = fun m m' => D j2 a m' m := by
  funext u l; simp [linkMat]

/-- one state of the axis-angle skeleton -/
theorem axisOne_iso (D : ℕ → Angle → ℤ → ℤ → ℂ) {ok : ℕ → Prop} (hD : DUnitary ok D) (v : Variant) (hv : v.sound)
    (t : Tree) (s : StateInfo) (hok : ok s.s2) (hc : Complete s) (hm : ¬ MasslessBoson s) (sp : Spec)
    (h : axisOne v t s = some sp) :
    sp.state = s.e ∧ specPool sp = s.observed ∧ SpecIso D sp := by
  unfold axisOne at h
  split at h
  · injection h with h; subst h
    exact ⟨rfl, rfl, trivial⟩
  · unfold axisChain at h
    split at h
    · exact absurd h (by simp)
    · rw [spinRange_sound v hv] at h
      simp only at h
      split at h
      · exact absurd h (by simp)
      · rename_i a opp more hrot
        injection h with h; subst h
        have hpool : specRange s.s2 s.massless = fullRange s.s2 := specRange_full _ _ hm
        refine ⟨rfl, ?_, ?_⟩
        · simp only [specPool]
          rw [hpool]
          exact hc.symm
        · refine ⟨by rw [hpool]; exact hc, by rw [hpool]; exact fullRange_nodup _,
            fun _ => by rw [hpool]; exact fullRange_neg _, ?_⟩
          rw [hpool]
          apply chain_iso D _ (fullRange_nodup _)
          · split <;> simp
          · intro l hl
            have hl' : ∃ ang, l = ⟨s.s2, ang, false⟩ := by
              split at hl
              · simp only [List.mem_append, List.mem_map, List.mem_singleton] at hl
                rcases hl with ⟨r, _, rfl⟩ | rfl
                · exact ⟨_, rfl⟩
                · exact ⟨_, rfl⟩
              · simp only [List.mem_map] at hl
                obtain ⟨r, _, rfl⟩ := hl
                exact ⟨_, rfl⟩
            obtain ⟨ang, rfl⟩ := hl'
            rw [linkMat_plain]
            exact (hD s.s2 ang hok).1

theorem axisSpecs_iso (D : ℕ → Angle → ℤ → ℤ → ℂ) {ok : ℕ → Prop} (hD : DUnitary ok D) (v : Variant) (hv : v.sound)
    (t : Tree) : ∀ (states : List StateInfo) (specs : List Spec),
    (∀ s ∈ states, ok s.s2 ∧ Complete s ∧ ¬ MasslessBoson s) → axisSpecs v t states = some specs →
    specs.map Spec.state = states.map StateInfo.e ∧ unaligned specs = noneSpecs states
      ∧ ∀ sp ∈ specs, SpecIso D sp := by
  intro states
  induction states with
  | nil =>
    intro specs _ h
    simp only [axisSpecs, Option.some.injEq] at h
    subst h
    simp [unaligned, noneSpecs]
  | cons s rest ih =>
    intro specs hst h
    simp only [axisSpecs] at h
    split at h
    · rename_i sp sps h1 h2
      injection h with h; subst h
      obtain ⟨e1, e2, e3⟩ := axisOne_iso D hD v hv t s (hst s (by simp)).1 (hst s (by simp)).2.1 (hst s (by simp)).2.2 sp h1
      obtain ⟨r1, r2, r3⟩ := ih sps (fun s' hs' => hst s' (List.mem_cons_of_mem _ hs')) h2
      refine ⟨by simp [e1, r1], ?_, ?_⟩
      · simp only [unaligned, noneSpecs, List.map_cons] at r2 ⊢
        rw [r2, e1, e2]
      · intro sp' hsp'
        rcases List.mem_cons.mp hsp' with rfl | hsp'
        · exact e3
        · exact r3 sp' hsp'
    · exact absurd h (by simp)

/-- one state of the DPD skeleton -/
theorem dpdOne_iso (D : ℕ → Angle → ℤ → ℤ → ℂ) {ok : ℕ → Prop} (hD : DUnitary ok D) (ref sp : ℤ) (t : Tree)
    (s : StateInfo) (hok : ok s.s2) (hc : Complete s) : SpecIso D (dpdOne ref sp t s) := by
  unfold dpdOne
  unfold Complete at hc
  split
  · rename_i h0
    refine ⟨rfl, (by rw [hc]; exact fullRange_nodup _), (fun h => absurd h (by simp)), ?_⟩
    rw [hc, h0]
    have hf : fullRange 0 = [0] := by decide
    rw [hf]
    intro l hl l' hl'
    simp only [List.mem_singleton] at hl hl'
    subst hl hl'
    simp [chainMat]
  · refine ⟨rfl, (by rw [hc]; exact fullRange_nodup _), (fun h => absurd h (by simp)), ?_⟩
    rw [hc]
    simp only [chainMat]
    cases hb : (s.e != t.id)
    · rw [linkMat_plain]; exact (hD _ _ hok).1
    · rw [linkMat_transposed]; exact (hD _ _ hok).2

theorem dpdSpecs_iso (D : ℕ → Angle → ℤ → ℤ → ℂ) {ok : ℕ → Prop} (hD : DUnitary ok D) (ref : ℤ) (t : Tree)
    (states : List StateInfo) (specs : List Spec) (hst : ∀ s ∈ states, ok s.s2 ∧ Complete s)
    (h : dpdSpecs ref t states = some specs) :
    specs.map Spec.state = states.map StateInfo.e ∧ unaligned specs = noneSpecs states
      ∧ ∀ sp ∈ specs, SpecIso D sp := by
  obtain ⟨sp, _, rfl⟩ := dpdSpecs_eq_some.mp h
  refine ⟨?_, ?_, ?_⟩
  · simp only [List.map_map]
    exact List.map_congr_left fun s _ => dpdOne_state ref sp t s
  · simp only [unaligned, noneSpecs, List.map_map]
    apply List.map_congr_left
    intro s _
    simp only [Function.comp, dpdOne]
    split <;> rfl
  · intro sp' hsp'
    obtain ⟨s, hs, rfl⟩ := List.mem_map.mp hsp'
    exact dpdOne_iso D hD ref sp t s (hst s hs).1 (hst s hs).2

/-- what `axisSpecs_iso` and `dpdSpecs_iso` establish is what the invariance of the intensity needs -/
theorem intensity_invariant (D : ℕ → Angle → ℤ → ℤ → ℂ) {states : List StateInfo} {specs : List Spec}
    (hids : (states.map StateInfo.e).Nodup)
    (h : specs.map Spec.state = states.map StateInfo.e ∧ unaligned specs = noneSpecs states
      ∧ ∀ sp ∈ specs, SpecIso D sp) (A : List ℤ → ℂ) (env : Env) :
    intensity D A (flatten specs) env = intensity D A (flatten (noneSpecs states)) env := by
  obtain ⟨h1, h2, h3⟩ := h
  rw [← h2]
  exact aligned_eq_unaligned D specs (h1 ▸ hids) h3 A env

end Ampverif.Lemmas.C05Model
