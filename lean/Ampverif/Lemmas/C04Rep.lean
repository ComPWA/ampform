/-
C04, layer (A) — algebra over ℂ for an ABSTRACT unitary representation of the rotation group.

`WignerRep n` is a structure of hypotheses (not axioms): a map from 3×3 real matrices to n×n complex
matrices that is multiplicative and unitary on proper rotations and diagonal `e^{-i m δ}` on
rotations about z. Everything here is proved for every such structure; `C04Inst.lean` constructs
the instances J = 0 and J = 1 (the latter from SymPy's D¹ entries).
-/
import Ampverif.Lemmas.C04Frame
import Ampverif.Lemmas.C04Phase
import Mathlib.LinearAlgebra.Matrix.ConjTranspose

namespace Ampverif.Lemmas.C04
open Matrix

/-- Abstract spin-J representation on `Fin n` (n = 2J+1) with weights `wt m` (the projections). -/
structure WignerRep (n : ℕ) where
  D : Matrix (Fin 3) (Fin 3) ℝ → Matrix (Fin n) (Fin n) ℂ
  wt : Fin n → ℝ
  mul : ∀ R S, IsRot R → IsRot S → D (R * S) = D R * D S
  unitary : ∀ R, IsRot R → (D R)ᴴ * D R = 1
  diag : ∀ δ : ℝ, D (Rz3 δ) = Matrix.diagonal fun m => Complex.exp (-(↑(wt m * δ) : ℂ) * Complex.I)

/-- squared norm `Σ_m |v_m|²` -/
noncomputable def nsq {n : ℕ} (v : Fin n → ℂ) : ℝ := ∑ m, Complex.normSq (v m)

/-- A vector that transforms as `A'_M = c · Σ_{M'} conj(U_{M M'}) A_{M'}` with `U` unitary and
`|c| = 1` keeps its squared norm. -/
theorem nsq_transform {n : ℕ} (U : Matrix (Fin n) (Fin n) ℂ) (hU : Uᴴ * U = 1) (c : ℂ)
    (hc : Complex.normSq c = 1) (A A' : Fin n → ℂ)
    (h : ∀ M, A' M = c * ∑ M', star (U M M') * A M') : nsq A' = nsq A := by
  refine normSq_sum_unitary Finset.univ U (fun m _ m' _ => ?_) c hc A A' fun M _ => h M
  rw [← Matrix.one_apply, ← hU, Matrix.mul_apply]
  rfl

/-- `‖v V‖² = ‖v‖²` for unitary `V` -/
theorem nsq_vecMul_unitary {n : ℕ} (V : Matrix (Fin n) (Fin n) ℂ) (hV : V * Vᴴ = 1) (v : Fin n → ℂ) :
    nsq (v ᵥ* V) = nsq v := by
  refine nsq_transform Vᴴ (by rwa [Matrix.conjTranspose_conjTranspose]) 1 Complex.normSq_one _ _ fun M => ?_
  rw [one_mul, Matrix.vecMul, dotProduct]
  refine Finset.sum_congr rfl fun M' _ => ?_
  rw [Matrix.conjTranspose_apply, star_star, mul_comm]

namespace WignerRep
variable {n : ℕ} (W : WignerRep n)

/-- phase `e^{i m δ}` -/
noncomputable def ph (m δ : ℝ) : ℂ := Complex.exp ((↑(m * δ) : ℂ) * Complex.I)

theorem normSq_ph (m δ : ℝ) : Complex.normSq (ph m δ) = 1 := expI_normSq _

theorem star_ph (m δ : ℝ) : star (ph m δ) = ph m (-δ) := by
  rw [ph, ph, mul_neg]
  exact expI_conj _

theorem ph_add (m m' δ : ℝ) : ph m δ * ph m' δ = ph (m + m') δ := by
  rw [ph, ph, ph, expI_add, add_mul]

theorem ph_zero (δ : ℝ) : ph 0 δ = 1 := by
  rw [ph, zero_mul]
  exact expI_zero

theorem diag_apply (δ : ℝ) (m m' : Fin n) :
    W.D (Rz3 δ) m m' = if m = m' then ph (W.wt m) (-δ) else 0 := by
  rw [W.diag, Matrix.diagonal_apply, ph]
  split_ifs
  · congr 1; push_cast; ring
  · rfl

/-- `D(R · h · Rz(−δ))_{M μ} = Σ_{M'} D(R)_{M M'} D(h)_{M' μ} e^{+i μ δ}` -/
theorem frame_entry (R h : Matrix (Fin 3) (Fin 3) ℝ) (hR : IsRot R) (hh : IsRot h) (δ : ℝ)
    (M μ : Fin n) :
    W.D (R * h * Rz3 (-δ)) M μ = (∑ M', W.D R M M' * W.D h M' μ) * ph (W.wt μ) δ := by
  rw [W.mul _ _ (hR.mul hh) (Rz3_isRot _), W.mul _ _ hR hh, Matrix.mul_apply]
  simp only [diag_apply, neg_neg, mul_ite, mul_zero, Finset.sum_ite_eq', Finset.mem_univ, if_true]
  rw [Matrix.mul_apply]

/-- `D(Rz(δ) · h)_{λ ν} = e^{−i λ δ} D(h)_{λ ν}` -/
theorem child_entry (h : Matrix (Fin 3) (Fin 3) ℝ) (hh : IsRot h) (δ : ℝ) (l ν : Fin n) :
    W.D (Rz3 δ * h) l ν = ph (W.wt l) (-δ) * W.D h l ν := by
  rw [W.mul _ _ (Rz3_isRot _) hh, Matrix.mul_apply]
  simp only [diag_apply, ite_mul, zero_mul, Finset.sum_ite_eq, Finset.mem_univ, if_true]

end WignerRep

/-- Two-level chain amplitude with the source's shape
`Σ_{λ,ν} conj D^J_{M, ι λ}(h) · H_{λ ν} · conj D^j_{λ ν}(h₁)`: the decaying child (spin j,
representation `W'`) has helicity λ, `ι λ` is the index `λ − λ_spectator` of the parent's
D-function, `H` collects couplings and every deeper factor. -/
noncomputable def chain2 {n k : ℕ} (W : WignerRep n) (W' : WignerRep k) (ι : Fin k → Fin n)
    (H : Fin k → Fin k → ℂ) (h h₁ : Matrix (Fin 3) (Fin 3) ℝ) (M : Fin n) : ℂ :=
  ∑ l, ∑ ν, star (W.D h M (ι l)) * H l ν * star (W'.D h₁ l ν)

/-- the decaying child's own amplitude `c_λ = Σ_ν H_{λν} conj D^j_{λν}(h₁)` -/
noncomputable def childAmp {k : ℕ} (W' : WignerRep k) (H : Fin k → Fin k → ℂ)
    (h₁ : Matrix (Fin 3) (Fin 3) ℝ) (l : Fin k) : ℂ :=
  ∑ ν, H l ν * star (W'.D h₁ l ν)

section
variable {n k : ℕ} (W : WignerRep n) (W' : WignerRep k) (ι : Fin k → Fin n) (H : Fin k → Fin k → ℂ)
  (h h₁ : Matrix (Fin 3) (Fin 3) ℝ)

theorem chain2_eq_sum (M : Fin n) :
    chain2 W W' ι H h h₁ M = ∑ l, star (W.D h M (ι l)) * childAmp W' H h₁ l := by
  unfold chain2 childAmp
  refine Finset.sum_congr rfl fun l _ => ?_
  rw [Finset.mul_sum]
  exact Finset.sum_congr rfl fun ν _ => mul_assoc _ _ _

theorem childAmp_Rz (hh₁ : IsRot h₁) (δ : ℝ) (l : Fin k) :
    childAmp W' H (Rz3 δ * h₁) l = WignerRep.ph (W'.wt l) δ * childAmp W' H h₁ l := by
  simp only [childAmp, Finset.mul_sum]
  refine Finset.sum_congr rfl fun ν _ => ?_
  rw [W'.child_entry h₁ hh₁, star_mul', WignerRep.star_ph, neg_neg]
  ring

theorem childAmp_smul (g : Fin k → ℂ) (l : Fin k) :
    childAmp W' (fun l ν => g l * H l ν) h₁ l = g l * childAmp W' H h₁ l := by
  simp only [childAmp, Finset.mul_sum, mul_assoc]

/-- Under a global rotation (`h' = R h Rz(−δ)`, child frame rotated by `Rz δ`) the term `λ` of the
chain picks up `e^{−i wt(ι λ) δ}` from the parent's D-function and `e^{i wt'(λ) δ}` from the child's.
If the product of the two is `c · g λ`, the rotated amplitude is `c` times the transformed amplitude
of a model with couplings `g λ · H_{λν}`. -/
theorem chain2_rephased (δ : ℝ) (c : ℂ) (g : Fin k → ℂ)
    (hp : ∀ l, WignerRep.ph (W.wt (ι l)) (-δ) * WignerRep.ph (W'.wt l) δ = c * g l)
    (R : Matrix (Fin 3) (Fin 3) ℝ) (hR : IsRot R) (hh : IsRot h) (hh₁ : IsRot h₁) (M : Fin n) :
    chain2 W W' ι H (R * h * Rz3 (-δ)) (Rz3 δ * h₁) M
      = c * ∑ M', star (W.D R M M') * chain2 W W' ι (fun l ν => g l * H l ν) h h₁ M' := by
  simp only [chain2_eq_sum, childAmp_Rz W' H h₁ hh₁, childAmp_smul, Finset.mul_sum]
  rw [Finset.sum_comm]
  refine Finset.sum_congr rfl fun l _ => ?_
  rw [W.frame_entry R h hR hh, star_mul', WignerRep.star_ph, star_sum, Finset.sum_mul, Finset.sum_mul]
  refine Finset.sum_congr rfl fun M' _ => ?_
  rw [star_mul']
  linear_combination (star (W.D R M M') * star (W.D h M' (ι l)) * childAmp W' H h₁ l) * hp l

/-- Helicity-state convention: the chain amplitude transforms as
`A'_M = e^{i s δ} Σ_{M'} conj D^J_{M M'}(R) A_{M'}`, where `s` is the spectator's helicity
(`wt (ι λ) = wt' λ − s`). -/
theorem chain2_transform {n k : ℕ} (W : WignerRep n) (W' : WignerRep k) (ι : Fin k → Fin n) (s : ℝ)
    (hι : ∀ l, W.wt (ι l) = W'.wt l - s) (H : Fin k → Fin k → ℂ)
    (R h h₁ : Matrix (Fin 3) (Fin 3) ℝ) (hR : IsRot R) (hh : IsRot h) (hh₁ : IsRot h₁) (δ : ℝ)
    (M : Fin n) :
    chain2 W W' ι H (R * h * Rz3 (-δ)) (Rz3 δ * h₁) M
      = WignerRep.ph s δ * ∑ M', star (W.D R M M') * chain2 W W' ι H h h₁ M' := by
  have hp : ∀ l, WignerRep.ph (W.wt (ι l)) (-δ) * WignerRep.ph (W'.wt l) δ = WignerRep.ph s δ * 1 := by
    intro l
    rw [hι l, mul_one, WignerRep.ph, WignerRep.ph, WignerRep.ph, expI_add]
    congr 3
    ring
  simpa only [one_mul] using chain2_rephased W W' ι H h h₁ δ _ _ hp R hR hh hh₁ M

/-- Several topologies, all spectators spinless (`s = 0` everywhere): the amplitudes of all
topologies transform with the SAME matrix `conj D^J(R)`, hence so does any linear combination,
and the coherent sum keeps its squared norm. Each topology `t` has its own child representation,
index map, couplings, frames `(h t, h₁ t)` and its own angle `δ t`. -/
theorem multi_topology_intensity {n : ℕ} (W : WignerRep n) {T : Type} [Fintype T]
    (k : T → ℕ) (W' : ∀ t, WignerRep (k t)) (ι : ∀ t, Fin (k t) → Fin n)
    (hι : ∀ t l, W.wt (ι t l) = (W' t).wt l - 0)
    (H : ∀ t, Fin (k t) → Fin (k t) → ℂ) (c : T → ℂ)
    (R : Matrix (Fin 3) (Fin 3) ℝ) (hR : IsRot R)
    (h h₁ : T → Matrix (Fin 3) (Fin 3) ℝ) (hh : ∀ t, IsRot (h t)) (hh₁ : ∀ t, IsRot (h₁ t))
    (δ : T → ℝ) :
    nsq (fun M => ∑ t, c t * chain2 W (W' t) (ι t) (H t) (R * h t * Rz3 (-(δ t))) (Rz3 (δ t) * h₁ t) M)
      = nsq (fun M => ∑ t, c t * chain2 W (W' t) (ι t) (H t) (h t) (h₁ t) M) := by
  apply nsq_transform (W.D R) (W.unitary R hR) 1 (by simp)
  intro M
  rw [one_mul]
  simp_rw [chain2_transform W (W' _) (ι _) 0 (hι _) (H _) R (h _) (h₁ _) hR (hh _) (hh₁ _) (δ _) M,
    WignerRep.ph_zero, one_mul, Finset.mul_sum]
  rw [Finset.sum_comm]
  refine Finset.sum_congr rfl fun M' _ => Finset.sum_congr rfl fun t _ => ?_
  ring

/-- child amplitudes collected per index μ of the parent's D-function -/
noncomputable def collected {n k : ℕ} (ι : Fin k → Fin n) (c : Fin k → ℂ) (μ : Fin n) : ℂ :=
  ∑ l, if ι l = μ then c l else 0

theorem chain2_eq_vecMul :
    chain2 W W' ι H h h₁ = collected ι (childAmp W' H h₁) ᵥ* (W.D h)ᴴ := by
  funext M
  rw [chain2_eq_sum]
  simp only [Matrix.vecMul, dotProduct, collected, Matrix.conjTranspose_apply, Finset.sum_mul]
  rw [Finset.sum_comm]
  refine Finset.sum_congr rfl fun l _ => ?_
  simp only [ite_mul, zero_mul]
  rw [Finset.sum_ite_eq, if_pos (Finset.mem_univ _), mul_comm]

/-- By unitarity of `D^J(h)` the unpolarised intensity of one topology does not depend on the
production frame `h` at all: it is the squared norm of the collected child amplitudes. -/
theorem chain2_nsq (hh : IsRot h) :
    nsq (chain2 W W' ι H h h₁) = nsq (collected ι (childAmp W' H h₁)) := by
  rw [chain2_eq_vecMul]
  apply nsq_vecMul_unitary
  rw [Matrix.conjTranspose_conjTranspose]
  exact W.unitary h hh

end

/-- when different `l` feed different indices, nothing interferes: `‖collected ι c‖² = Σ_l |c_l|²` -/
theorem nsq_collected {n k : ℕ} {ι : Fin k → Fin n} (hinj : Function.Injective ι) (c : Fin k → ℂ) :
    nsq (collected ι c) = ∑ l, Complex.normSq (c l) := by
  have hc : ∀ l, collected ι c (ι l) = c l := fun l => by
    simp only [collected, hinj.eq_iff, Finset.sum_ite_eq', Finset.mem_univ, if_true]
  rw [nsq, ← Finset.sum_subset (Finset.subset_univ (Finset.univ.image ι)),
    Finset.sum_image fun a _ b _ e => hinj e]
  · simp only [hc]
  · intro μ _ hμ
    rw [collected, Finset.sum_eq_zero, map_zero]
    intro l _
    exact if_neg fun e => hμ (Finset.mem_image.mpr ⟨l, Finset.mem_univ l, e⟩)

/-- (W) Why every SINGLE topology is invariant whatever sign convention links the parent's
D-function index to the child's helicity: if different helicities of the decaying child feed
different indices μ (`ι` injective — always the case, μ = ±(λ − λ_spectator)), the intensity is
`Σ_λ |c_λ|²`, and a rotation only multiplies each `c_λ` by a unit phase. No relation between
`wt (ι λ)` and `wt' λ` is assumed, and the new production frame `h'` is arbitrary. -/
theorem single_topology_any_convention {n k : ℕ} (W : WignerRep n) (W' : WignerRep k)
    (ι : Fin k → Fin n) (hinj : Function.Injective ι) (H : Fin k → Fin k → ℂ)
    (h h' h₁ : Matrix (Fin 3) (Fin 3) ℝ) (hh : IsRot h) (hh' : IsRot h') (hh₁ : IsRot h₁) (δ : ℝ) :
    nsq (chain2 W W' ι H h' (Rz3 δ * h₁)) = nsq (chain2 W W' ι H h h₁) := by
  rw [chain2_nsq W W' ι H h' _ hh', chain2_nsq W W' ι H h _ hh, nsq_collected hinj, nsq_collected hinj]
  refine Finset.sum_congr rfl fun l _ => ?_
  rw [childAmp_Rz W' H h₁ hh₁, Complex.normSq_mul, WignerRep.normSq_ph, one_mul]

end Ampverif.Lemmas.C04
