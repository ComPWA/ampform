/-
Helper lemmas for C18: `PoolSum.evaluate` term by term (pool values are terms that are substituted
for the indices), `dict(self.indices)`, well-formedness of nested sums under substitution.
-/
import Ampverif.Lemmas.C18Subst

namespace Ampverif.Lemmas.C18
open Ampverif.Model

theorem foldl_dictInsert_nodup {α : Type} (ixs : List (Sym × α)) :
    ∀ acc : List (Sym × α), (names (acc ++ ixs)).Nodup → ixs.foldl dictInsert acc = acc ++ ixs := by
  induction ixs with
  | nil => intro acc _; simp
  | cons b rest ih =>
    intro acc h
    have hb : b.1 ∉ names acc := by
      rw [names_append, names_cons] at h
      exact fun hm => (List.nodup_append.mp h).2.2 _ hm _ List.mem_cons_self rfl
    have hfresh : dictInsert acc b = acc ++ [b] := by simp [dictInsert, hb]
    rw [List.foldl_cons, hfresh, ih (acc ++ [b]) (by simpa using h)]
    simp

theorem dictOf_nodup {α : Type} (ixs : List (Sym × α)) (h : (names ixs).Nodup) : dictOf ixs = ixs := by
  simpa [dictOf] using foldl_dictInsert_nodup ixs [] (by simpa using h)

/-- every value that `itertools.product` hands to `subs` is a value of one of the pools. -/
theorem assignments_vals (ixs : List Binder) (hnp : noPsumBinders ixs = true) :
    ∀ c ∈ assignments ixs, ∀ p ∈ c, noPsum p.2 = true ∧ ∀ s ∈ syms p.2, s ∈ symsBinders ixs := by
  intro c hc p hp
  obtain ⟨q, hq, _, ha⟩ := assignments_mem hc hp
  exact pool_value hnp hq ha

theorem names_subst1Binders (v : Variant) (x : Sym) (a : Expr) (ixs : List Binder) :
    names (subst1Binders v x a ixs) = names ixs := by
  rw [subst1Binders_eq_map, names_map_snd]

theorem bound_subst1 {v : Variant} (hv : v.sound) {x : Sym} {a : Expr} (ha : bound a = []) (e : Expr) :
    bound (subst1 v x a e) = bound e := by
  induction e using Expr.induct with
  | sym s => by_cases h : s = x <;> simp [subst1, bound, h, ha]
  | rat => rfl
  | pow b n ih => exact ih
  | psum b ixs ihb ihx =>
    by_cases hx : x ∈ names ixs
    · rw [subst1_psum_mem hv hx]
    · rw [subst1_psum_not_mem hv hx]
      simp only [bound, names_subst1Binders, ihb]
      simp only [boundBinders_eq_flatMap, subst1Binders_eq_map, List.flatMap_map]
      rw [List.flatMap_congr fun p hp => List.flatMap_congr (ihx p hp)]
  | add es ih | mul es ih | app _ es ih | node _ es _ ih | idx _ es ih =>
    simp only [sound_ite hv, subst1, bound, boundList_eq_flatMap, subst1List_eq_map, List.flatMap_map]
    exact List.flatMap_congr ih

theorem boundList_subst1 (v : Variant) (hv : v.sound) (x : Sym) (a : Expr) (ha : bound a = []) :
    ∀ es : List Expr, boundList (subst1List v x a es) = boundList es :=
  fun es => bound_subst1 hv ha (.add es)

theorem boundBinders_subst1 (v : Variant) (hv : v.sound) (x : Sym) (a : Expr) (ha : bound a = []) :
    ∀ ixs : List (Sym × List Expr), boundBinders (subst1Binders v x a ixs) = boundBinders ixs := by
  intro ixs
  simp only [boundBinders_eq_flatMap, subst1Binders_eq_map, List.flatMap_map]
  exact List.flatMap_congr fun p _ => List.flatMap_congr fun e _ => bound_subst1 hv ha e

theorem noPsum_subst1 (v : Variant) (hv : v.sound) (x : Sym) (a : Expr) (ha : noPsum a = true) :
    ∀ e : Expr, noPsum e = true → noPsum (subst1 v x a e) = true := by
  intro e hn
  induction e using Expr.induct with
  | sym s => by_cases h : s = x <;> simp [subst1, noPsum, h, ha]
  | rat => rfl
  | pow b n ih => exact ih hn
  | psum => simp [noPsum] at hn
  | add es ih | mul es ih | app _ es ih | node _ es _ ih | idx _ es ih =>
    simp only [noPsum, noPsumList_eq_all, List.all_eq_true] at hn
    simp only [sound_ite hv, subst1, noPsum, noPsumList_eq_all, subst1List_eq_map, List.all_map,
      List.all_eq_true]
    exact fun e he => ih e he (hn e he)

theorem subst1List_isEmpty (v : Variant) (x : Sym) (a : Expr) :
    ∀ es : List Expr, (subst1List v x a es).isEmpty = es.isEmpty := by
  intro es
  rw [subst1List_eq_map, List.isEmpty_map]

/-- symbols of a substituted pool-sum-free term come from the term or from the inserted term. -/
theorem syms_subst1_noPsum (v : Variant) (hv : v.sound) (x : Sym) (a : Expr) :
    ∀ (e : Expr) (s : Sym), noPsum e = true → s ∈ syms (subst1 v x a e) → s ∈ syms e ∨ s ∈ syms a := by
  intro e s hn hs
  induction e using Expr.induct with
  | sym t => by_cases h : t = x <;> simp_all [subst1, syms]
  | rat => simp [subst1, syms] at hs
  | pow b n ih => exact ih hn hs
  | psum => simp [noPsum] at hn
  | add es ih | mul es ih | app _ es ih | node _ es _ ih | idx _ es ih =>
    simp only [noPsum, noPsumList_eq_all, List.all_eq_true] at hn
    simp only [sound_ite hv, subst1, syms, symsList_eq_flatMap, subst1List_eq_map, List.flatMap_map,
      List.mem_flatMap] at hs ⊢
    obtain ⟨e, he, hs⟩ := hs
    exact (ih e he (hn e he) hs).imp_left fun h => ⟨e, he, h⟩

/-- inserting a pool-sum-free term that mentions no bound symbol keeps nested sums well-formed. -/
theorem wfSums_subst1 (v : Variant) (hv : v.sound) (x : Sym) (a : Expr) (ha : noPsum a = true) (e : Expr)
    (hw : wfSums e = true) (hc : ∀ s ∈ syms a, s ∉ bound e) : wfSums (subst1 v x a e) = true := by
  induction e using Expr.induct with
  | sym s => by_cases h : s = x <;> simp [subst1, wfSums, h, wfSums_of_noPsum ha]
  | rat => rfl
  | pow b n ih => exact ih hw hc
  | psum b ixs ihb _ =>
    by_cases hx : x ∈ names ixs
    · rw [subst1_psum_mem hv hx]; exact hw
    · obtain ⟨hnd, hne, hnp, hown, hwb⟩ := wfSums_psum.mp hw
      have hc' : ∀ s ∈ syms a, s ∉ names ixs ∧ s ∉ bound b := fun s hs => by
        have := hc s hs
        simp only [bound, List.mem_append, not_or] at this
        exact ⟨this.1.1, this.2⟩
      rw [subst1_psum_not_mem hv hx]
      refine wfSums_psum.mpr ⟨?_, ?_, ?_, ?_, ihb hwb fun s hs => (hc' s hs).2⟩
      · rwa [names_subst1Binders]
      · rw [subst1Binders_eq_map]; exact nonempty_map_pools _ hne
      · simp only [subst1Binders_eq_map, noPsumBinders_eq_all, List.all_map, List.all_eq_true,
          Function.comp_def]
        exact fun p hp e he => noPsum_subst1 v hv x a ha e (pool_value hnp hp he).1
      · intro s hs
        rw [names_subst1Binders, bound_subst1 hv (bound_of_noPsum ha)]
        rw [subst1Binders_eq_map, mem_symsBinders] at hs
        obtain ⟨_, hp', _, he', hs⟩ := hs
        obtain ⟨p, hp, rfl⟩ := List.mem_map.mp hp'
        obtain ⟨e, he, rfl⟩ := List.mem_map.mp he'
        rcases syms_subst1_noPsum v hv x a e s (pool_value hnp hp he).1 hs with h | h
        · exact hown s ((pool_value hnp hp he).2 s h)
        · exact hc' s h
  | add es ih | mul es ih | app _ es ih | node _ es _ ih | idx _ es ih =>
    simp only [wfSums, wfSumsList_eq_all, List.all_eq_true, bound, boundList_eq_flatMap,
      List.mem_flatMap, not_exists, not_and] at hw hc
    simp only [sound_ite hv, subst1, wfSums, wfSumsList_eq_all, subst1List_eq_map, List.all_map,
      List.all_eq_true]
    exact fun e he => ih e he (hw e he) fun s hs => hc s hs e he

theorem wfSumsList_subst1 (v : Variant) (hv : v.sound) (x : Sym) (a : Expr) (ha : noPsum a = true) :
    ∀ es : List Expr, wfSumsList es = true → (∀ s ∈ syms a, s ∉ boundList es) →
      wfSumsList (subst1List v x a es) = true :=
  fun es => wfSums_subst1 v hv x a ha (.add es)

/-- a function of the term that no single substitution of a value with `P` changes is not changed
by a sequence of them. -/
theorem substSeq_preserves {α : Type} (f : Expr → α) (v : Variant) (P : Expr → Prop)
    (h : ∀ x a e, P a → f (subst1 v x a e) = f e) (c : List (Sym × Expr)) (hc : ∀ p ∈ c, P p.2)
    (e : Expr) : f (substSeq v c e) = f e := by
  induction c generalizing e with
  | nil => rfl
  | cons p c ih =>
    rw [substSeq, ih (fun q hq => hc q (List.mem_cons_of_mem _ hq)), h _ _ _ (hc p List.mem_cons_self)]

theorem bound_substSeq (v : Variant) (hv : v.sound) (c : List (Sym × Expr)) :
    ∀ e : Expr, (∀ p ∈ c, noPsum p.2 = true) → bound (substSeq v c e) = bound e :=
  fun e h => substSeq_preserves bound v (noPsum · = true)
    (fun _ _ e ha => bound_subst1 hv (bound_of_noPsum ha) e) c h e

theorem wfSums_substSeq (v : Variant) (hv : v.sound) (c : List (Sym × Expr)) :
    ∀ e : Expr, wfSums e = true → (∀ p ∈ c, noPsum p.2 = true ∧ ∀ s ∈ syms p.2, s ∉ bound e) →
      wfSums (substSeq v c e) = true := by
  induction c with
  | nil => intro e hw _; exact hw
  | cons p c ih =>
    intro e hw h
    have ha := h p List.mem_cons_self
    refine ih _ (wfSums_subst1 v hv p.1 p.2 ha.1 e hw ha.2) fun q hq => ?_
    rw [bound_subst1 hv (bound_of_noPsum ha.1)]
    exact h q (List.mem_cons_of_mem _ hq)

theorem wfSums_evaluate (v : Variant) (hv : v.sound) (b : Expr) (ixs : List Binder)
    (h : wfSums (.psum b ixs) = true) : wfSums (evaluate v (.psum b ixs)) = true := by
  obtain ⟨hnd, _, hnp, hown, hwb⟩ := wfSums_psum.mp h
  simp only [evaluate, wfSums, dictOf_nodup ixs hnd, wfSumsList_eq_all, List.all_map, List.all_eq_true]
  intro c hc
  apply wfSums_substSeq v hv c b hwb
  intro p hp
  have := assignments_vals ixs hnp c hc p hp
  exact ⟨this.1, fun s hs => (hown s (this.2 s hs)).2⟩

/-- every summand of `evaluate`, summed, is the nested finite sum of the summand over the pool
VALUES evaluated in the environment. -/
theorem sum_evaluate_terms (I : Interp) (v : Variant) (hv : v.sound) (ixs : List Binder) :
    ∀ (b : Expr) (ρ : Env), (names ixs).Nodup → noPsumBinders ixs = true →
      (∀ s ∈ symsBinders ixs, s ∉ names ixs ∧ s ∉ bound b) → wfSums b = true →
      ((assignments ixs).map (fun c => eval I (substSeq v c b) ρ)).sum
        = evalSum (evalBinders I ixs ρ) ρ (fun ρ' => eval I b ρ') := by
  induction ixs with
  | nil => intro b ρ _ _ _ _; simp [assignments, substSeq, evalSum, evalBinders]
  | cons p rest ih =>
    intro b ρ hnd hnp hown hwb
    obtain ⟨i, pool⟩ := p
    rw [names_cons, List.nodup_cons] at hnd
    simp only [noPsumBinders, Bool.and_eq_true] at hnp
    -- a pool value mentions neither `i`, nor a later index, nor a symbol bound in the summand
    simp only [symsBinders, symsList_eq_flatMap, List.mem_append, List.mem_flatMap, names_cons,
      List.mem_cons, not_or] at hown
    simp only [assignments, evalBinders, evalSum]
    rw [List.map_flatMap, List.flatMap_def, List.sum_flatten, List.map_map, evalList_eq_map, List.map_map]
    congr 1
    apply List.map_congr_left
    intro a ha
    have hna : noPsum a = true := noPsumList_mem hnp.1 ha
    have hsa : ∀ s ∈ syms a, (s ≠ i ∧ s ∉ names rest) ∧ s ∉ bound b := fun s hs => hown s (Or.inl ⟨a, ha, hs⟩)
    simp only [List.map_map, Function.comp_def, substSeq]
    rw [ih (subst1 v i a b) ρ hnd.2 hnp.2
      (fun s hs => by
        rw [bound_subst1 hv (bound_of_noPsum hna)]
        exact ⟨(hown s (Or.inr hs)).1.2, (hown s (Or.inr hs)).2⟩)
      (wfSums_subst1 v hv i a hna b hwb (fun s hs => (hsa s hs).2)),
      evalSum_upd_of_not_mem _ ρ _ i _ (by rw [names_evalBinders]; exact hnd.1)]
    apply evalSum_congr_agree
    intro ρ' hρ'
    rw [eval_subst1 I v hv i a (wfSums_of_noPsum hna) b ρ' hwb (fun s hs => (hsa s hs).2),
      eval_agree I a ρ' ρ (wfSums_of_noPsum hna)]
    intro s hs
    apply hρ' s
    rw [names_evalBinders]
    exact (hsa s (mem_syms_of_mem_free hs)).1.2

end Ampverif.Lemmas.C18
