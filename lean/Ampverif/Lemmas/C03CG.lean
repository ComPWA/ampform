/-
C03 — generic lemmas about mirror-symmetric Clebsch–Gordan tables (T3 pattern: the theorems are
about ANY table that passes the decidable check; that the regenerated table passes it is
`Props.C03.C03_cg_table_symmetric_partial`), and Racah's closed formula with its mirror symmetry for all spins.
-/
import Ampverif.Model.C03CG
import Mathlib.Analysis.Real.Sqrt
import Mathlib.Data.Complex.Basic
import Mathlib.Tactic.Ring
import Mathlib.Data.Nat.Factorial.Basic
import Mathlib.Algebra.BigOperators.Intervals
import Mathlib.Tactic.Linarith
import Mathlib.Data.List.SplitBy

namespace Ampverif.Lemmas.C03CG
open Ampverif.Model.C03CG

theorem flip_flip (k : Key) : k.flip.flip = k := by
  cases k; simp [Key.flip]

theorem flip_expo (k : Key) : k.flip.expo = k.expo := rfl

theorem flip_j (k : Key) : (k.flip.j1, k.flip.j2) = (k.j1, k.j2) := rfl

theorem get?_mem : ∀ (b : Block) (k : Key) (v : Val), b.get? k = some v → (k, v) ∈ b
  | [], _, _, h => by simp [Block.get?] at h
  | (a, w) :: rest, k, v, h => by
    unfold Block.get? at h
    by_cases hk : a = k
    · simp [hk] at h; subst hk; subst h; simp
    · simp [hk] at h
      exact List.mem_cons_of_mem _ (get?_mem rest k v h)

theorem get?_eq_none_iff : ∀ (b : Block) (k : Key), b.get? k = none ↔ k ∉ b.map Prod.fst
  | [], _ => by simp [Block.get?]
  | (a, w) :: rest, k => by
    rw [Block.get?, List.map_cons, List.mem_cons, not_or]
    by_cases h : a = k
    · simp [h]
    · rw [if_neg h, get?_eq_none_iff rest k]
      exact ⟨fun h2 => ⟨Ne.symm h, h2⟩, fun h2 => h2.2⟩

/-- block level: the mirror entry carries the phase (in both directions). -/
theorem block_get_flip (b : Block) (hb : b.symmetric = true) (k : Key) :
    b.get? k.flip = (b.get? k).map (Val.scale (phase k.expo)) := by
  have hall : ∀ k v, (k, v) ∈ b → b.get? k.flip = some (v.scale (phase k.expo)) := by
    intro k v hm
    have := (List.all_eq_true.mp hb) (k, v) hm
    simp only [Bool.and_eq_true] at this
    exact of_decide_eq_true this.1.1.1
  cases h : b.get? k with
  | some v => simpa using hall k v (get?_mem b k v h)
  | none =>
    cases h' : b.get? k.flip with
    | none => rfl
    | some w =>
      have := hall k.flip w (get?_mem b k.flip w h')
      rw [flip_flip, h] at this
      cases this

theorem block?_symmetric : ∀ (t : Table) (p : Nat × Nat) (b : Block),
    t.symmetric = true → t.block? p = some b → b.symmetric = true
  | [], _, _, _, hb => by simp [Table.block?] at hb
  | (q, b') :: rest, p, b, ht, hb => by
    unfold Table.block? at hb
    unfold Table.symmetric at ht
    simp only [List.all_cons, Bool.and_eq_true] at ht
    by_cases hp : q = p
    · simp [hp] at hb; subst hb; exact ht.1.1
    · simp [hp] at hb
      exact block?_symmetric rest p b (by unfold Table.symmetric; exact ht.2) hb

theorem table_get_flip (t : Table) (ht : t.symmetric = true) (k : Key) :
    t.get k.flip = (t.get k).scale (phase k.expo) := by
  unfold Table.get
  rw [flip_j]
  cases hb : t.block? (k.j1, k.j2) with
  | none => simp [Val.scale, zero]
  | some b =>
    have hbs := block?_symmetric t _ b ht hb
    simp only []
    rw [block_get_flip b hbs k]
    cases b.get? k with
    | none => simp [Val.scale, zero]
    | some v => simp

/-! ### a one-pass check that implies `Table.symmetric` -/

theorem get?_of_mem : ∀ (b : Block), (b.map Prod.fst).Nodup → ∀ k v, (k, v) ∈ b → b.get? k = some v
  | [], _, _, _, hm => by cases hm
  | (a, w) :: rest, hnd, k, v, hm => by
    rw [List.map_cons, List.nodup_cons] at hnd
    rw [Block.get?]
    rcases List.mem_cons.mp hm with h | h
    · cases h; rw [if_pos rfl]
    · have hk : k ∈ rest.map Prod.fst := List.mem_map.mpr ⟨(k, v), h, rfl⟩
      rw [if_neg fun e => hnd.1 (by rw [e]; exact hk)]
      exact get?_of_mem rest hnd.2 k v h

/-- the order `(J, m₁, m₂)` in which a block is written -/
def keyLt (k k' : Key) : Prop :=
  k.J < k'.J ∨ (k.J = k'.J ∧ (k.m1 < k'.m1 ∨ (k.m1 = k'.m1 ∧ k.m2 < k'.m2)))

instance : DecidableRel keyLt := fun _ _ => by unfold keyLt; infer_instance

instance : Trans keyLt keyLt keyLt := ⟨by unfold keyLt; omega⟩

def mirrorEntry (e : Key × Val) : Key × Val := (e.1.flip, e.2.scale (phase e.1.expo))

/-- `Block.symmetric` in one pass, for a block written in increasing order `keyLt`: mirroring reverses
the order of the entries with the same `J`, so each such run must be its own mirror image read
backwards. (`Block.symmetric` itself looks every mirrored key up in the block: quadratic in the block's
length, and too much for one kernel evaluation over the whole table.) -/
def mirrorCheck (b : Block) : Bool :=
  decide ((b.map Prod.fst).IsChain keyLt)
    && (b.splitBy fun e e' => e.1.J == e'.1.J).all (fun g => decide ((g.map mirrorEntry).reverse = g))
    && b.all fun (k, v) => k.expo % 2 == 0 && (v.sign == 1 || v.sign == -1 || v.sign == 0) && v.den != 0

theorem symmetric_of_mirrorCheck (b : Block) (h : mirrorCheck b = true) : b.symmetric = true := by
  simp only [mirrorCheck, Bool.and_eq_true, decide_eq_true_eq, List.all_eq_true] at h
  obtain ⟨⟨hchain, hruns⟩, hrest⟩ := h
  have hnd : (b.map Prod.fst).Nodup :=
    (List.isChain_iff_pairwise.mp hchain).imp fun {k k'} hlt e => by subst e; unfold keyLt at hlt; omega
  rw [Block.symmetric, List.all_eq_true]
  rintro ⟨k, v⟩ hm
  have hflip : mirrorEntry (k, v) ∈ b := by
    rw [← List.flatten_splitBy (fun e e' => e.1.J == e'.1.J) b, List.mem_flatten] at hm ⊢
    obtain ⟨g, hg, hm⟩ := hm
    refine ⟨g, hg, ?_⟩
    rw [← hruns g hg, List.mem_reverse]
    exact List.mem_map_of_mem hm
  have := hrest (k, v) hm
  simp only [Bool.and_eq_true] at this ⊢
  exact ⟨⟨⟨decide_eq_true (get?_of_mem b hnd _ _ hflip), this.1.1⟩, this.1.2⟩, this.2⟩

def tableMirrorCheck (t : Table) : Bool :=
  t.all fun (p, b) => mirrorCheck b && b.all fun (k, _) => (k.j1, k.j2) == p

theorem symmetric_of_tableMirrorCheck (t : Table) (h : tableMirrorCheck t = true) : t.symmetric = true := by
  rw [tableMirrorCheck, List.all_eq_true] at h
  rw [Table.symmetric, List.all_eq_true]
  rintro ⟨p, b⟩ hm
  have := h (p, b) hm
  rw [Bool.and_eq_true] at this ⊢
  exact ⟨symmetric_of_mirrorCheck b this.1, this.2⟩

/-! ### real values -/

/-- `sign · √(num/den)`. -/
noncomputable def _root_.Ampverif.Model.C03CG.Val.toReal (v : Val) : ℝ := (v.sign : ℝ) * Real.sqrt ((v.num : ℝ) / (v.den : ℝ))

theorem toReal_scale (s : Int) (v : Val) : (v.scale s).toReal = (s : ℝ) * v.toReal := by
  simp [Val.toReal, Val.scale, mul_assoc]

/-- the value of `⟨j₁ m₁; j₂ m₂ | J M⟩` read from a table (0 outside the table). -/
noncomputable def cg (t : Table) (j1 : Nat) (m1 : Int) (j2 : Nat) (m2 : Int) (J : Nat) (M : Int) : ℝ :=
  (t.get ⟨j1, m1, j2, m2, J, M⟩).toReal

/-- `⟨j₁ −m₁; j₂ −m₂ | J −M⟩ = (−1)^(j₁+j₂−J) ⟨j₁ m₁; j₂ m₂ | J M⟩` for every symmetric table. -/
theorem cg_flip (t : Table) (ht : t.symmetric = true) (j1 : Nat) (m1 : Int) (j2 : Nat) (m2 : Int)
    (J : Nat) (M : Int) :
    cg t j1 (-m1) j2 (-m2) J (-M)
      = (phase ((j1 : Int) + (j2 : Int) - (J : Int)) : ℝ) * cg t j1 m1 j2 m2 J M := by
  unfold cg
  have := table_get_flip t ht ⟨j1, m1, j2, m2, J, M⟩
  simp only [Key.flip, Key.expo] at this
  rw [this, toReal_scale]

theorem phase_sq (n : Int) : phase n * phase n = 1 := by
  unfold phase; split <;> simp

/-- `(−1)^(a/2) (−1)^(b/2) = (−1)^((a+b)/2)` for even `a`, `b`. -/
theorem phase_add (a b : Int) (ha : a % 2 = 0) (hb : b % 2 = 0) :
    phase a * phase b = phase (a + b) := by
  have h : (a + b) % 4 = 0 ↔ (a % 4 = 0 ↔ b % 4 = 0) := by omega
  unfold phase
  by_cases h1 : a % 4 = 0 <;> by_cases h2 : b % 4 = 0 <;> simp [h, h1, h2]

theorem phase_two_mul (N : ℕ) : phase (2 * N) = (-1) ^ N := by
  rcases N.even_or_odd with h | h
  · rw [h.neg_one_pow, phase, if_pos (by obtain ⟨m, rfl⟩ := h; omega)]
  · rw [h.neg_one_pow, phase, if_neg (by obtain ⟨m, rfl⟩ := h; omega)]

/-! ### helicity couplings from LS couplings -/

/-- One `LS` term: doubled `L`, doubled `S`, coefficient. -/
structure LSTerm where
  L : Nat
  S : Nat
  a : ℂ

/-- `F_{λ₁λ₂} = Σ_{LS} a_{LS} ⟨L 0; S δ | J δ⟩ ⟨s₁ λ₁; s₂ −λ₂ | S δ⟩`, `δ = λ₁ − λ₂` — the expansion
ampform's canonical builder writes (`formulate_isobar_cg_coefficients`), everything doubled, for
an arbitrary Clebsch–Gordan function `f`. -/
noncomputable def couplingF (f : Nat → Int → Nat → Int → Nat → Int → ℝ) (J s1 s2 : Nat)
    (terms : List LSTerm) (l1 l2 : Int) : ℂ :=
  (terms.map fun x =>
    x.a * ((f x.L 0 x.S (l1 - l2) J (l1 - l2) : ℝ) : ℂ)
        * ((f s1 l1 s2 (-l2) x.S (l1 - l2) : ℝ) : ℂ)).sum

/-- the expansion with the values of a table. -/
noncomputable def coupling (t : Table) (J s1 s2 : Nat) (terms : List LSTerm) (l1 l2 : Int) : ℂ :=
  couplingF (cg t) J s1 s2 terms l1 l2

/-- For every mirror-symmetric CG function, LS terms with `(−1)^L = PP` (`PP = P·P₁·P₂`; `L`
integral) and integral `L+S−J`, `s₁+s₂−S`: `F_{−λ₁,−λ₂} = PP·(−1)^(s₁+s₂−J) · F_{λ₁λ₂}`
(all momenta doubled). -/
theorem couplingF_flip (f : Nat → Int → Nat → Int → Nat → Int → ℝ)
    (hf : ∀ j1 m1 j2 m2 J M, f j1 (-m1) j2 (-m2) J (-M)
      = (phase ((j1 : Int) + (j2 : Int) - (J : Int)) : ℝ) * f j1 m1 j2 m2 J M)
    (J s1 s2 : Nat) (PP : Int) (terms : List LSTerm)
    (hL : ∀ x ∈ terms, phase (x.L : Int) = PP ∧ (x.L : Int) % 2 = 0
      ∧ ((x.L : Int) + (x.S : Int) - (J : Int)) % 2 = 0
      ∧ ((s1 : Int) + (s2 : Int) - (x.S : Int)) % 2 = 0)
    (l1 l2 : Int) :
    couplingF f J s1 s2 terms (-l1) (-l2)
      = ((PP * phase ((s1 : Int) + (s2 : Int) - (J : Int)) : Int) : ℂ) * couplingF f J s1 s2 terms l1 l2 := by
  unfold couplingF
  induction terms with
  | nil => simp
  | cons x rest ih =>
    have hx := hL x (List.mem_cons_self)
    have hrest := ih (fun y hy => hL y (List.mem_cons_of_mem _ hy))
    simp only [List.map_cons, List.sum_cons]
    rw [hrest]
    have e1 : (-l1 - -l2 : Int) = -(l1 - l2) := by ring
    have c1 := hf x.L 0 x.S (l1 - l2) J (l1 - l2)
    have c2 := hf s1 l1 s2 (-l2) x.S (l1 - l2)
    simp only [neg_zero] at c1
    rw [e1, c1, c2]
    obtain ⟨hP, hLe, hA, hB⟩ := hx
    have hph : PP * phase ((s1 : Int) + (s2 : Int) - (J : Int))
        = phase ((x.L : Int) + (x.S : Int) - (J : Int)) * phase ((s1 : Int) + (s2 : Int) - (x.S : Int)) := by
      rw [phase_add _ _ hA hB, ← hP, phase_add _ _ hLe (by omega)]
      congr 1; ring
    rw [hph]
    push_cast
    ring

/-! ### Racah's closed formula and its mirror symmetry for ALL spins -/

section racah
open Finset

/-- `1/(x/2)!` for an even non-negative doubled argument, else 0: a term of Racah's sum whose
factorials are not all defined vanishes by itself, so the sum may run over a fixed range -/
noncomputable def iF (x : Int) : ℝ := if x < 0 ∨ x % 2 ≠ 0 then 0 else 1 / ((x / 2).toNat.factorial : ℝ)

/-- the `k`-th term of the sum in Racah's formula (`a, b, c` = doubled `j₁, j₂, J`) -/
noncomputable def T (a b c m1 m2 : Int) (k : ℕ) : ℝ :=
  (-1) ^ k * iF (2 * k) * iF (a + b - c - 2 * k) * iF (a - m1 - 2 * k) * iF (b + m2 - 2 * k)
    * iF (c - b + m1 + 2 * k) * iF (c - a - m2 + 2 * k)

theorem iF_neg (x : Int) (h : x < 0) : iF x = 0 := by simp [iF, h]
theorem iF_odd (x : Int) (h : x % 2 ≠ 0) : iF x = 0 := by simp [iF, h]

/-- a term vanishes as soon as its factor `1/((a+b−c)/2 − k)!` does -/
theorem T_eq_zero {a b c : Int} {k : ℕ} (m1 m2 : Int) (h : iF (a + b - c - 2 * k) = 0) :
    T a b c m1 m2 k = 0 := by
  simp [T, h]

theorem neg_one_pow_sub (N k : ℕ) (hk : k ≤ N) : ((-1 : ℝ)) ^ (N - k) = (-1) ^ N * (-1) ^ k := by
  have h1 : ((-1 : ℝ)) ^ N = (-1) ^ (N - k) * (-1) ^ k := by rw [← pow_add, Nat.sub_add_cancel hk]
  have h2 : ((-1 : ℝ)) ^ k * (-1) ^ k = 1 := by rw [← mul_pow]; simp
  rw [h1, mul_assoc, h2, mul_one]

theorem T_reflect (a b c m1 m2 : Int) (N k : ℕ) (h : a + b - c = 2 * N) (hk : k ≤ N) :
    T a b c (-m1) (-m2) (N - k) = (-1) ^ N * T a b c m1 m2 k := by
  unfold T
  have hc : ((N - k : ℕ) : ℤ) = (N : ℤ) - k := Nat.cast_sub hk
  have e1 : (2 * ((N - k : ℕ) : ℤ)) = a + b - c - 2 * k := by rw [hc]; omega
  rw [e1, neg_one_pow_sub N k hk]
  -- with `2(N−k) = a+b−c−2k` the six arguments on the left are those on the right, permuted
  ring_nf

theorem sum_reflect (a b c m1 m2 : Int) (n : ℕ) (hab : (n : ℤ) ≥ a + b - c) :
    ∑ k ∈ range (n + 1), T a b c (-m1) (-m2) k
      = ((phase (a + b - c) : Int) : ℝ) * ∑ k ∈ range (n + 1), T a b c m1 m2 k := by
  by_cases hbad : a + b - c < 0 ∨ (a + b - c) % 2 ≠ 0
  · have hz : ∀ (m1 m2 : Int) (k : ℕ), T a b c m1 m2 k = 0 := fun m1 m2 k =>
      T_eq_zero m1 m2 (hbad.elim (fun h => iF_neg _ (by omega)) fun h => iF_odd _ (by omega))
    simp [hz]
  · simp only [not_or, not_lt, ne_eq, not_not] at hbad
    obtain ⟨N, hN⟩ : ∃ N : ℕ, a + b - c = 2 * N := ⟨((a + b - c) / 2).toNat, by omega⟩
    have cut : ∀ m1 m2 : Int, ∑ k ∈ range (n + 1), T a b c m1 m2 k = ∑ k ∈ range (N + 1), T a b c m1 m2 k := by
      intro m1 m2
      symm
      apply sum_subset (range_mono (by omega))
      intro k _ hk
      rw [mem_range] at hk
      exact T_eq_zero m1 m2 (iF_neg _ (by omega))
    rw [cut, cut, ← sum_range_reflect (fun k => T a b c (-m1) (-m2) k) (N + 1), mul_sum, hN, phase_two_mul]
    apply sum_congr rfl
    intro k hk
    rw [Nat.add_sub_cancel, T_reflect a b c m1 m2 N k hN (mem_range_succ_iff.mp hk)]
    push_cast
    rfl

/-- `(x/2)!` for an even non-negative doubled argument, else 0 -/
noncomputable def fH (x : Int) : ℝ := if x < 0 ∨ x % 2 ≠ 0 then 0 else ((x / 2).toNat.factorial : ℝ)

theorem fH_neg (x : Int) (h : x < 0) : fH x = 0 := if_pos (Or.inl h)

/-- the `m`-dependent square-root factor of Racah's formula. -/
noncomputable def racahB (a b c m1 m2 M : Int) : ℝ :=
  fH (c + M) * fH (c - M) * fH (a - m1) * fH (a + m1) * fH (b - m2) * fH (b + m2)

/-- Racah's formula for `⟨j₁ m₁; j₂ m₂ | J M⟩`, all arguments doubled:
`δ_{M,m₁+m₂} √[(2J+1)(J+j₁−j₂)!(J−j₁+j₂)!(j₁+j₂−J)!/(j₁+j₂+J+1)!] √[(J±M)!(j₁±m₁)!(j₂±m₂)!]
 Σ_k (−1)^k / [k!(j₁+j₂−J−k)!(j₁−m₁−k)!(j₂+m₂−k)!(J−j₂+m₁+k)!(J−j₁−m₂+k)!]`. -/
noncomputable def racah (j1 : Nat) (m1 : Int) (j2 : Nat) (m2 : Int) (J : Nat) (M : Int) : ℝ :=
  if M ≠ m1 + m2 then 0 else
  Real.sqrt ((((J : Int) : ℝ) + 1) * fH ((J : Int) + j1 - j2) * fH ((J : Int) - j1 + j2) * fH ((j1 : Int) + j2 - J)
      * iF ((j1 : Int) + j2 + J + 2))
    * Real.sqrt (racahB j1 j2 J m1 m2 M)
    * ∑ k ∈ range (j1 + j2 + 1), T j1 j2 J m1 m2 k

theorem racahB_neg (a b c m1 m2 M : Int) : racahB a b c (-m1) (-m2) (-M) = racahB a b c m1 m2 M := by
  unfold racahB
  simp only [sub_neg_eq_add, ← sub_eq_add_neg]
  ring

/-- `⟨j₁ −m₁; j₂ −m₂ | J −M⟩ = (−1)^(j₁+j₂−J) ⟨j₁ m₁; j₂ m₂ | J M⟩` for Racah's formula, ALL spins. -/
theorem racah_flip (j1 : Nat) (m1 : Int) (j2 : Nat) (m2 : Int) (J : Nat) (M : Int) :
    racah j1 (-m1) j2 (-m2) J (-M)
      = (phase ((j1 : Int) + (j2 : Int) - (J : Int)) : ℝ) * racah j1 m1 j2 m2 J M := by
  unfold racah
  by_cases hM : M = m1 + m2
  · have h1 : ¬ (-M ≠ -m1 + -m2) := by intro h; apply h; omega
    have h2 : ¬ (M ≠ m1 + m2) := fun h => h hM
    rw [if_neg h1, if_neg h2, racahB_neg]
    rw [sum_reflect (j1 : Int) (j2 : Int) (J : Int) m1 m2 (j1 + j2) (by push_cast; omega)]
    ring
  · have h1 : -M ≠ -m1 + -m2 := by intro h; apply hM; omega
    rw [if_pos h1, if_pos hM]
    simp

/-- outside `|M| ≤ J` the factor `(J+M)!(J−M)!` under the root vanishes -/
theorem racah_eq_zero_of_not_range (j1 : Nat) (m1 : Int) (j2 : Nat) (m2 : Int) (J : Nat) (M : Int)
    (h : ¬ (-(J : Int) ≤ M ∧ M ≤ J)) : racah j1 m1 j2 m2 J M = 0 := by
  have hB : racahB j1 j2 J m1 m2 M = 0 := by
    unfold racahB
    by_cases h1 : -(J : Int) ≤ M
    · rw [fH_neg ((J : Int) - M) (by omega)]; simp only [mul_zero, zero_mul]
    · rw [fH_neg ((J : Int) + M) (by omega)]; simp only [zero_mul]
  unfold racah
  split
  · rfl
  · rw [hB, Real.sqrt_zero, mul_zero, zero_mul]

end racah

end Ampverif.Lemmas.C03CG
