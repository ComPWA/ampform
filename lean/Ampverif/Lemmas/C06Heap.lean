/-
Helper lemmas for C06: the heap invariant "every cache entry is the pure value of its key", the
builder invariant, and their preservation by every operation of the state machine (sound variant).
-/
import Ampverif.Lemmas.C06Machine

namespace Ampverif.C06

/-- every cache entry refers to an object that is (still) the pure value of its key -/
def HeapInv (w : World) (h : Heap) : Prop :=
  ∀ ck a, (ck, a) ∈ h.cache → h.objs[a]? = some (w.pureVal ck.1 ck.2)

theorem HeapInv.init (w : World) : HeapInv w {} := by
  intro ck a h; simp at h

theorem Heap.alloc_obj (h : Heap) (o : Obj) : (h.alloc o).1.obj (h.alloc o).2 = o := by
  simp [Heap.alloc, Heap.obj]

section
variable {w : World} {h : Heap} (hi : HeapInv w h)
include hi

theorem HeapInv.addr_lt {ck : CacheId × List Nat} {a : Nat} (hm : (ck, a) ∈ h.cache) :
    a < h.objs.length :=
  (List.getElem?_eq_some_iff.mp (hi ck a hm)).1

theorem HeapInv.alloc (o : Obj) : HeapInv w (h.alloc o).1 := by
  intro ck a hm
  simp only [Heap.alloc] at hm ⊢
  rw [List.getElem?_append_left (hi.addr_lt hm)]
  exact hi ck a hm

theorem HeapInv.alloc_fresh (o : Obj) : ∀ ck a, (ck, a) ∈ (h.alloc o).1.cache → a ≠ (h.alloc o).2 :=
  fun _ _ hm => Nat.ne_of_lt (hi.addr_lt hm)

theorem HeapInv.call (cid : CacheId) (key : List Nat) :
    HeapInv w (h.call w cid key).1 ∧
      (h.call w cid key).1.obj (h.call w cid key).2 = w.pureVal cid key := by
  unfold Heap.call
  cases hg : dget h.cache (cid, key) with
  | some a => exact ⟨hi, by simp [Heap.obj, hi (cid, key) a (dget_some_mem hg)]⟩
  | none =>
    refine ⟨fun ck a hm => ?_, by simp [Heap.obj]⟩
    rcases List.mem_append.mp hm with hm | hm
    · exact hi.alloc _ ck a hm
    · cases List.mem_singleton.mp hm
      exact List.getElem?_concat_length

/-- an in-place update of an object no cache entry refers to keeps the invariant -/
theorem HeapInv.set_fresh (addr : Nat) (hf : ∀ ck a, (ck, a) ∈ h.cache → a ≠ addr) (o : Obj) :
    HeapInv w { h with objs := h.objs.set addr o } := by
  intro ck a hm
  simp only at hm ⊢
  rw [List.getElem?_set_ne (fun e => hf ck a hm e.symm)]
  exact hi ck a hm

theorem HeapInv.evict (n : Nat) : HeapInv w { h with cache := h.cache.eraseIdx n } :=
  fun ck a hm => hi ck a (List.mem_of_mem_eraseIdx hm)

end

theorem HeapInv.callAll {w : World} (calls : List (CacheId × List Nat)) :
    ∀ {h : Heap}, HeapInv w h →
      HeapInv w (Heap.callAll w h calls).1 ∧
        (Heap.callAll w h calls).2 = calls.map (fun ck => (w.pureVal ck.1 ck.2).imm) := by
  induction calls with
  | nil => exact fun hi => ⟨hi, rfl⟩
  | cons ck t ih =>
    intro h hi
    have hc := hi.call ck.1 ck.2
    have := ih hc.1
    simp only [Heap.callAll, List.map_cons]
    exact ⟨this.1, by rw [this.2, hc.2]⟩

/-- `formulate_amplitude` / `define_symbols` in the sound variant: the amplitude and the symbol dict
are the pure ones, and the dict lives at an address that no cache entry refers to -/
theorem alignPhase_spec {v : Variant} (hv : v.dpdSymbolsAliased = false) {w : World} {h : Heap}
    (hi : HeapInv w h) (r : Nat) (a : Align) :
    (alignPhase v w h r a).2.1 = pureAmp w r a ∧
    ((alignPhase v w h r a).1.obj (alignPhase v w h r a).2.2).dict = pureSyms w r a ∧
    HeapInv w (alignPhase v w h r a).1 ∧
    (∀ ck x, (ck, x) ∈ (alignPhase v w h r a).1.cache → x ≠ (alignPhase v w h r a).2.2) := by
  cases a with
  | dpd k =>
    have hc := hi.call (w := w) .dpdAligned [r, k]
    simp only [alignPhase, hv, pureAmp, pureSyms, Bool.false_eq_true, if_false]
    refine ⟨by rw [hc.2], ?_, hc.1.alloc _, hc.1.alloc_fresh _⟩
    rw [Heap.alloc_obj, hc.2]
  | _ => exact ⟨rfl, congrArg Obj.dict (Heap.alloc_obj ..), hi.alloc _, hi.alloc_fresh _⟩

def BInv (b : Builder) : Prop := b.cfg = b.user ∧ b.iterOrder.Perm b.user.topos

theorem orderOf_perm (p set : List Nat) : (orderOf p set).Perm set := by
  unfold orderOf
  split
  · rename_i h; rw [← h]; exact (isort_perm natLe p).symm
  · exact List.Perm.refl _

theorem Cfg.apply_topos (c : Cfg) (f : Field) : (c.apply f).topos = c.topos := by
  cases f <;> rfl

structure SInv (w : World) (s : State) : Prop where
  heap : HeapInv w s.heap
  builders : ∀ b ∈ s.builders, BInv b

theorem SInv.init (w : World) : SInv w State.init :=
  ⟨HeapInv.init w, by intro b hb; simp [State.init] at hb⟩

theorem SInv.binv {w : World} {s : State} (hs : SInv w s) {i : Nat} {b : Builder}
    (hb : s.builders[i]? = some b) : BInv b := hs.builders b (List.mem_of_getElem? hb)

theorem binv_set {l : List Builder} (h : ∀ b ∈ l, BInv b) (i : Nat) (x : Builder) (hx : BInv x) :
    ∀ b ∈ l.set i x, BInv b := by
  intro b hb
  rcases List.mem_or_eq_of_mem_set hb with h1 | h1
  · exact h b h1
  · rw [h1]; exact hx

/-- the world premises: C07's no-collision premise and distinct symbols have distinct names -/
structure WorldOK (w : World) : Prop where
  consistent : ∀ r t₁ t₂ k v₁ v₂, (k, v₁) ∈ w.topoMap r t₁ → (k, v₂) ∈ w.topoMap r t₂ → v₁ = v₂
  names : SymNameInjective w
  /-- distinct amplitude symbols print differently -/
  ampStrs : ∀ a b : List Nat, w.ampStr a = w.ampStr b → a = b

theorem atomsOrderOf_perm (w : World) (p atoms : List (List Nat)) : (atomsOrderOf w p atoms).Perm atoms := by
  unfold atomsOrderOf
  split
  · rename_i h
    exact (isort_perm (strLe w) p).symm.trans (h ▸ isort_perm (strLe w) atoms)
  · exact List.Perm.refl _

/-- with the inner `sorted(..., key=str)` the visiting order of `__define_missing_amplitudes` does
not depend on the iteration order of the atoms set -/
theorem missingOrder_sorted {w : World} (hw : WorldOK w) (p atoms : List (List Nat)) :
    missingOrder true w (atomsOrderOf w p atoms) = isort (strLe w) atoms := by
  simp only [missingOrder, if_true]
  exact isort_eq_of_perm natLe_linOrd.lex w.ampStr (fun a b _ _ => hw.ampStrs a b)
    (atomsOrderOf_perm w p atoms)

theorem kinMerge_KEq {w : World} (hw : WorldOK w) (r : Nat) {o o' : List Nat} (hp : o.Perm o') :
    KEq (kinMerge w r o) (kinMerge w r o') := by
  unfold kinMerge
  refine ⟨dmerge_dequiv_of_perm ?_ (hp.map _), NodupKeys.dmerge _, NodupKeys.dmerge _⟩
  intro m₁ h₁ m₂ h₂ k v₁ v₂ hk₁ hk₂
  obtain ⟨t₁, _, e₁⟩ := List.mem_map.mp h₁
  obtain ⟨t₂, _, e₂⟩ := List.mem_map.mp h₂
  subst e₁; subst e₂
  exact hw.consistent r t₁ t₂ k v₁ v₂ hk₁ hk₂

section
variable {v : Variant} (hv : v.sound) {w : World} (hw : WorldOK w) {s : State} (hs : SInv w s)
include hv hw hs

theorem formulate_spec (i : Nat) (b : Builder) (hb : BInv b) (order : List Nat)
    (atoms : List (List Nat)) :
    (formulate v w s i b order atoms).2 = F w b.reaction b.user ∧
      SInv w (formulate v w s i b order atoms).1 := by
  obtain ⟨hal, hre, hsh, htb, hms⟩ := hv
  have hobs := HeapInv.callAll (w := w) (w.roCalls b.reaction (closeCfg w b.reaction b.user)) hs.heap
  have hperm := orderOf_perm order (closeCfg w b.reaction b.user).topos
  unfold formulate F
  simp only [effCfg, hsh, hre, htb, hms, hb.1, if_true, Bool.false_eq_true, if_false]
  cases herr : w.alignError b.reaction (closeCfg w b.reaction b.user).align with
  | some e => exact ⟨rfl, hobs.1, binv_set hs.builders i _ ⟨rfl, hperm⟩⟩
  | none =>
    obtain ⟨h1, h2, h3, h4⟩ :=
      alignPhase_spec hal hobs.1 b.reaction (closeCfg w b.reaction b.user).align
    refine ⟨?_, h3.set_fresh _ h4 _, binv_set hs.builders i _ ⟨rfl, hperm⟩⟩
    simp only [h1, h2, hobs.2, missingOrder_sorted hw]
    exact congrArg CoreResult.out (core_congr hw.names (kinMerge_KEq hw _ hperm))

theorem step_inv (op : Op) : SInv w (step v w s op).1 := by
  cases op with
  | newBuilder r order =>
    refine ⟨hs.heap, fun b hb => ?_⟩
    rcases List.mem_append.mp hb with h1 | h1
    · exact hs.builders b h1
    · rw [List.mem_singleton.mp h1]
      exact ⟨rfl, orderOf_perm _ _⟩
  | configure i f =>
    simp only [step]
    cases hb : s.builders[i]? with
    | none => exact hs
    | some b =>
      simp only [hv.2.2.1, Bool.false_eq_true, if_false]
      exact ⟨hs.heap, binv_set hs.builders i _
        ⟨congrArg (·.apply f) (hs.binv hb).1, Cfg.apply_topos b.user f ▸ (hs.binv hb).2⟩⟩
  | configureBad i c => exact hs
  | register i t order =>
    simp only [step]
    cases hb : s.builders[i]? with
    | none => exact hs
    | some b =>
      exact ⟨hs.heap, binv_set hs.builders i _
        ⟨(hs.binv hb).1 ▸ rfl, orderOf_perm _ _⟩⟩
  | formulate i order atoms =>
    simp only [step]
    cases hb : s.builders[i]? with
    | none => exact hs
    | some b => exact (formulate_spec hv hw hs i b (hs.binv hb) order atoms).2
  | evict n => exact ⟨hs.heap.evict n, hs.builders⟩

theorem step_output (i : Nat) (order : List Nat) (atoms : List (List Nat)) (b : Builder)
    (hb : s.builders[i]? = some b) :
    (step v w s (.formulate i order atoms)).2 = some (F w b.reaction b.user) := by
  simp only [step, hb]
  rw [(formulate_spec hv hw hs i b (hs.binv hb) order atoms).1]

end

/-- induction over the history, for any invariant-satisfying start state -/
theorem outputsPure_of_inv {v : Variant} (hv : v.sound) {w : World} (hw : WorldOK w) :
    ∀ (ops : List Op) (s : State), SInv w s → OutputsPure v w s ops := by
  intro ops
  induction ops with
  | nil => intro s _; trivial
  | cons op rest ih =>
    intro s hs
    refine ⟨?_, ih _ (step_inv hv hw hs op)⟩
    cases op with
    | formulate i order atoms => exact fun b hb => step_output hv hw hs i order atoms b hb
    | _ => trivial

end Ampverif.C06
