/-
C04, layer (A), arbitrary decay trees. Spins and projections are doubled integers
(`twoJ : ℕ`, projections `∈ projs twoJ = {−twoJ, −twoJ+2, …, twoJ}`); a `RepFamily` is an abstract
family of representations of the proper rotations with integer-indexed entries, for the spins it
declares `ok` (hypotheses, not axioms; an SO(3) family can only provide integer spins). `amp` is the
helicity amplitude of the source for a tree with fixed final-state helicities, `Rotated R` is what a
global rotation does to the helicity frames (layer (K): `frames_covariance`, `hframe_Rz3`,
`second_child_angle`). `amp_rotated`: transformation law at every depth; `intensity_rotated`: the
unpolarised intensity of a coherent sum over any finite set of topologies is invariant. With final
states of any provided spin, `amp_rotated_phase` is the law with a unit phase per final-state helicity
configuration; `intensity_rotated_single` the single-topology intensity and `intensity_rotated_full`
the full tree statement.
-/
import Ampverif.Lemmas.C04Frame
import Ampverif.Lemmas.C04Phase
import Mathlib.Algebra.BigOperators.Intervals

namespace Ampverif.Lemmas.C04
open Matrix

/-- doubled projections of a doubled spin -/
noncomputable def projs (twoJ : ℕ) : Finset ℤ := (Finset.Icc (-(twoJ : ℤ)) twoJ).filter fun m => (m + twoJ) % 2 = 0

theorem projs_zero : projs 0 = {0} := by decide

/-- `e^{i x}` -/
noncomputable def eI (x : ℝ) : ℂ := Complex.exp ((x : ℂ) * Complex.I)

theorem eI_add (x y : ℝ) : eI x * eI y = eI (x + y) := expI_add x y

theorem eI_zero : eI 0 = 1 := expI_zero

theorem star_eI (x : ℝ) : star (eI x) = eI (-x) := expI_conj x

theorem normSq_eI (x : ℝ) : Complex.normSq (eI x) = 1 := expI_normSq x

/-- abstract family of integer-spin representations with integer-indexed entries -/
structure RepFamily where
  /-- the (doubled) spins the family provides -/
  ok : ℕ → Prop
  D : ℕ → Matrix (Fin 3) (Fin 3) ℝ → ℤ → ℤ → ℂ
  support : ∀ j R m m', (m ∉ projs j ∨ m' ∉ projs j) → D j R m m' = 0
  mul : ∀ j, ok j → ∀ R S, IsRot R → IsRot S → ∀ m m',
    D j (R * S) m m' = ∑ k ∈ projs j, D j R m k * D j S k m'
  unitary : ∀ j, ok j → ∀ R, IsRot R → ∀ m ∈ projs j, ∀ m' ∈ projs j,
    ∑ k ∈ projs j, star (D j R k m) * D j R k m' = if m = m' then 1 else 0
  diag : ∀ j, ok j → ∀ (δ : ℝ), ∀ m ∈ projs j, ∀ m' ∈ projs j,
    D j (Rz3 δ) m m' = if m = m' then eI (-((m : ℝ) / 2 * δ)) else 0
  scalar : ∀ R, IsRot R → D 0 R 0 0 = 1

namespace RepFamily
variable (F : RepFamily)

theorem mul_Rz (j : ℕ) (hj : F.ok j) (S : Matrix (Fin 3) (Fin 3) ℝ) (hS : IsRot S) (a : ℝ) (m μ : ℤ) :
    F.D j (S * Rz3 a) m μ = F.D j S m μ * eI (-((μ : ℝ) / 2 * a)) := by
  rw [F.mul j hj S (Rz3 a) hS (Rz3_isRot a)]
  by_cases hμ : μ ∈ projs j
  · rw [Finset.sum_eq_single_of_mem μ hμ, F.diag j hj a μ hμ μ hμ, if_pos rfl]
    intro k hk hne
    rw [F.diag j hj a k hk μ hμ, if_neg hne, mul_zero]
  · rw [F.support j S m μ (Or.inr hμ), zero_mul]
    apply Finset.sum_eq_zero
    intro k _
    rw [F.support j (Rz3 a) k μ (Or.inr hμ), mul_zero]

/-- a rotation about z only multiplies the component `l` by a phase -/
theorem sum_conj_Rz (j : ℕ) (hj : F.ok j) (δ : ℝ) (a : ℤ → ℂ) (l : ℤ) (hl : l ∈ projs j) :
    ∑ k ∈ projs j, star (F.D j (Rz3 δ) l k) * a k = eI ((l : ℝ) / 2 * δ) * a l := by
  rw [Finset.sum_eq_single_of_mem l hl, F.diag j hj δ l hl l hl, if_pos rfl, star_eI, neg_neg]
  intro k hk hne
  rw [F.diag j hj δ l hl k hk, if_neg (Ne.symm hne), star_zero, zero_mul]

end RepFamily

/-- decay tree with fixed final-state helicities; `H` collects couplings and dynamics -/
inductive Tree where
  | leaf (twoJ : ℕ) (twoLam : ℤ)
  | node (twoJ : ℕ) (H : ℤ → ℤ → ℂ) (c₁ c₂ : Tree)

/-- the helicity frames of an event, one per decay node (relative to the parent's frame) -/
inductive Frames where
  | leaf
  | node (h : Matrix (Fin 3) (Fin 3) ℝ) (f₁ f₂ : Frames)

def Tree.twoSpin : Tree → ℕ
  | .leaf j _ => j
  | .node j _ _ _ => j

def Tree.spinlessLeaves : Tree → Prop
  | .leaf j _ => j = 0
  | .node _ _ c₁ c₂ => c₁.spinlessLeaves ∧ c₂.spinlessLeaves

/-- every spin of the tree is provided by the family -/
def Tree.spinsOk (F : RepFamily) : Tree → Prop
  | .leaf j _ => F.ok j
  | .node j _ c₁ c₂ => F.ok j ∧ c₁.spinsOk F ∧ c₂.spinsOk F

/-- the helicity amplitude of the source: `Σ conj D^J_{m, λ₁−λ₂}(h) · H · A¹_{λ₁} · A²_{λ₂}` -/
noncomputable def amp (F : RepFamily) : Tree → Frames → ℤ → ℂ
  | .leaf _ l, _, m => if m = l then 1 else 0
  | .node j H c₁ c₂, .node h f₁ f₂, m =>
      ∑ l₁ ∈ projs c₁.twoSpin, ∑ l₂ ∈ projs c₂.twoSpin,
        star (F.D j h m (l₁ - l₂)) * H l₁ l₂ * amp F c₁ f₁ l₁ * amp F c₂ f₂ l₂
  | .node _ _ _ _, .leaf, _ => 0

inductive Rotated : Matrix (Fin 3) (Fin 3) ℝ → Frames → Frames → Prop where
  | leaf (R) : Rotated R .leaf .leaf
  | node (R h) (f₁ f₂ f₁' f₂' : Frames) (δ : ℝ) : IsRot h → Rotated (Rz3 δ) f₁ f₁' →
      Rotated (Rz3 (-δ)) f₂ f₂' → Rotated R (.node h f₁ f₂) (.node (R * h * Rz3 (-δ)) f₁' f₂')

def Tree.isLeaf : Tree → Prop
  | .leaf _ _ => True
  | .node _ _ _ _ => False

theorem Tree.ok_twoSpin (F : RepFamily) : ∀ t : Tree, t.spinsOk F → F.ok t.twoSpin
  | .leaf _ _, h => h
  | .node _ _ _ _, h => h.1

/-- One decay node. If under the rotation the two children pick up the phases `e^{±i λ δ}` of their
own helicity (times constants `Φ₁`, `Φ₂`), these cancel against the `Rz(−δ)` in the node's frame
(`λ₁ − λ₂` is the helicity along the node's axis) and the node transforms with `D^J(R)`. -/
theorem amp_node_step (F : RepFamily) (j : ℕ) (hj : F.ok j) (H : ℤ → ℤ → ℂ) (c₁ c₂ : Tree)
    {R h : Matrix (Fin 3) (Fin 3) ℝ} (hR : IsRot R) (hh : IsRot h) (δ : ℝ)
    (f₁ f₂ f₁' f₂' : Frames) (Φ₁ Φ₂ : ℂ)
    (hc₁ : ∀ l ∈ projs c₁.twoSpin, amp F c₁ f₁' l = Φ₁ * (eI ((l : ℝ) / 2 * δ) * amp F c₁ f₁ l))
    (hc₂ : ∀ l ∈ projs c₂.twoSpin, amp F c₂ f₂' l = Φ₂ * (eI (-((l : ℝ) / 2 * δ)) * amp F c₂ f₂ l))
    (m : ℤ) :
    amp F (.node j H c₁ c₂) (.node (R * h * Rz3 (-δ)) f₁' f₂') m
      = Φ₁ * Φ₂ * ∑ m' ∈ projs j, star (F.D j R m m') * amp F (.node j H c₁ c₂) (.node h f₁ f₂) m' := by
  have hD : ∀ μ : ℤ, F.D j (R * h * Rz3 (-δ)) m μ
      = (∑ m' ∈ projs j, F.D j R m m' * F.D j h m' μ) * eI ((μ : ℝ) / 2 * δ) := by
    intro μ
    rw [F.mul_Rz j hj (R * h) (hR.mul hh) (-δ) m μ, F.mul j hj R h hR hh]
    congr 2; ring
  simp only [amp, Finset.mul_sum]
  conv_rhs => rw [Finset.sum_comm]
  refine Finset.sum_congr rfl fun l₁ h₁ => ?_
  conv_rhs => rw [Finset.sum_comm]
  refine Finset.sum_congr rfl fun l₂ h₂ => ?_
  have hp : eI (-(((l₁ - l₂ : ℤ) : ℝ) / 2 * δ)) * eI ((l₁ : ℝ) / 2 * δ) * eI (-((l₂ : ℝ) / 2 * δ)) = 1 := by
    rw [eI_add, eI_add, ← eI_zero]; congr 1; push_cast; ring
  rw [hD, hc₁ l₁ h₁, hc₂ l₂ h₂, star_mul', star_eI, star_sum]
  simp only [Finset.sum_mul]
  refine Finset.sum_congr rfl fun m' _ => ?_
  rw [star_mul']
  linear_combination (Φ₁ * Φ₂ * star (F.D j R m m') * star (F.D j h m' (l₁ - l₂)) * H l₁ l₂
    * amp F c₁ f₁ l₁ * amp F c₂ f₂ l₂) * hp

/-- transformation law with final-state spins: a unit phase per final-state helicity
configuration (`R` must be a rotation about z when the tree is a bare leaf), which is 1 when the
final states are spinless. -/
theorem amp_rotated_phase (F : RepFamily) : ∀ (t : Tree), t.spinsOk F →
    ∀ (R : Matrix (Fin 3) (Fin 3) ℝ) (f f' : Frames), IsRot R → Rotated R f f' →
    (t.isLeaf → ∃ δ : ℝ, R = Rz3 δ) →
    ∃ Φ : ℂ, Complex.normSq Φ = 1 ∧ (t.spinlessLeaves → Φ = 1) ∧ ∀ m ∈ projs t.twoSpin,
      amp F t f' m = Φ * ∑ m' ∈ projs t.twoSpin, star (F.D t.twoSpin R m m') * amp F t f m' := by
  intro t
  induction t with
  | leaf j l =>
    intro hok R f f' hR _ hz
    obtain ⟨δ, rfl⟩ := hz trivial
    simp only [Tree.spinsOk] at hok
    simp only [Tree.twoSpin, amp]
    by_cases hl : l ∈ projs j
    · refine ⟨eI (-((l : ℝ) / 2 * δ)), normSq_eI _, fun hs => ?_, fun m hm => ?_⟩
      · simp only [Tree.spinlessLeaves] at hs
        rw [hs, projs_zero, Finset.mem_singleton] at hl
        rw [hl, Int.cast_zero, zero_div, zero_mul, neg_zero, eI_zero]
      · rw [F.sum_conj_Rz j hok δ _ m hm]
        by_cases hml : m = l
        · rw [hml, if_pos rfl, mul_one, eI_add, neg_add_cancel, eI_zero]
        · rw [if_neg hml, mul_zero, mul_zero]
    · refine ⟨1, by simp, fun _ => rfl, fun m hm => ?_⟩
      have hml : m ≠ l := fun h => hl (h ▸ hm)
      rw [if_neg hml, one_mul]
      symm
      apply Finset.sum_eq_zero
      intro k hk
      have : k ≠ l := fun h => hl (h ▸ hk)
      simp [this]
  | node j H c₁ c₂ ih₁ ih₂ =>
    intro hi R f f' hR hrot _
    obtain ⟨hj, hi₁, hi₂⟩ := hi
    cases hrot with
    | leaf => exact ⟨1, by simp, fun _ => rfl, fun m _ => by simp [amp]⟩
    | node _ h f₁ f₂ f₁' f₂' δ hh hr₁ hr₂ =>
      obtain ⟨Φ₁, hΦ₁, hs₁, e₁⟩ := ih₁ hi₁ (Rz3 δ) f₁ f₁' (Rz3_isRot δ) hr₁ (fun _ => ⟨δ, rfl⟩)
      obtain ⟨Φ₂, hΦ₂, hs₂, e₂⟩ := ih₂ hi₂ (Rz3 (-δ)) f₂ f₂' (Rz3_isRot _) hr₂ (fun _ => ⟨-δ, rfl⟩)
      refine ⟨Φ₁ * Φ₂, by rw [Complex.normSq_mul, hΦ₁, hΦ₂, one_mul],
        fun hs => by rw [hs₁ hs.1, hs₂ hs.2, one_mul], fun m _ => ?_⟩
      refine amp_node_step F j hj H c₁ c₂ hR hh δ f₁ f₂ f₁' f₂' Φ₁ Φ₂ (fun l hl => ?_)
        (fun l hl => ?_) m
      · rw [e₁ l hl, F.sum_conj_Rz _ (Tree.ok_twoSpin F c₁ hi₁) δ _ l hl]
      · rw [e₂ l hl, F.sum_conj_Rz _ (Tree.ok_twoSpin F c₂ hi₂) (-δ) _ l hl, mul_neg]

/-- the transformation law, all depths, for spinless final states -/
theorem amp_rotated (F : RepFamily) : ∀ (t : Tree), t.spinsOk F → t.spinlessLeaves →
    ∀ (R : Matrix (Fin 3) (Fin 3) ℝ) (f f' : Frames), IsRot R → Rotated R f f' →
    ∀ m ∈ projs t.twoSpin,
      amp F t f' m = ∑ m' ∈ projs t.twoSpin, star (F.D t.twoSpin R m m') * amp F t f m' := by
  intro t hok hs R f f' hR hrot m hm
  cases t with
  | leaf j l =>
    simp only [Tree.spinlessLeaves] at hs
    subst hs
    simp only [Tree.twoSpin, projs_zero, Finset.mem_singleton] at hm ⊢
    subst hm
    by_cases hl : l = 0
    · subst hl; simp [amp, F.scalar R hR]
    · simp [amp, hl, Ne.symm hl]
  | node j H c₁ c₂ =>
    obtain ⟨Φ, -, h1, e⟩ := amp_rotated_phase F _ hok R f f' hR hrot (fun h => h.elim)
    rw [e m hm, h1 hs, one_mul]

/-- FULL STATEMENT, integer spins, spinless final states, any finite set of topologies with
arbitrary trees: the unpolarised intensity of the coherent sum is rotation invariant. -/
theorem intensity_rotated (F : RepFamily) (T : Type) [Fintype T] (tree : T → Tree) (c : T → ℂ)
    (fr fr' : T → Frames) (R : Matrix (Fin 3) (Fin 3) ℝ) (twoJ : ℕ) (hJ : F.ok twoJ) (hR : IsRot R)
    (ht : ∀ t, (tree t).twoSpin = twoJ ∧ (tree t).spinsOk F ∧ (tree t).spinlessLeaves)
    (hrot : ∀ t, Rotated R (fr t) (fr' t)) :
    ∑ m ∈ projs twoJ, Complex.normSq (∑ t, c t * amp F (tree t) (fr' t) m)
      = ∑ m ∈ projs twoJ, Complex.normSq (∑ t, c t * amp F (tree t) (fr t) m) := by
  apply normSq_sum_unitary (projs twoJ) (F.D twoJ R) (F.unitary twoJ hJ R hR) 1 Complex.normSq_one
  intro m hm
  rw [one_mul]
  have e : ∀ t, amp F (tree t) (fr' t) m
      = ∑ m' ∈ projs twoJ, star (F.D twoJ R m m') * amp F (tree t) (fr t) m' := by
    intro t
    obtain ⟨rfl, h2, h3⟩ := ht t
    exact amp_rotated F (tree t) h2 h3 R (fr t) (fr' t) hR (hrot t) m hm
  simp_rw [e, Finset.mul_sum]
  rw [Finset.sum_comm]
  refine Finset.sum_congr rfl fun m' _ => Finset.sum_congr rfl fun t _ => ?_
  ring

/-- single topology, final states with ANY spin: the unpolarised intensity is invariant -/
theorem intensity_rotated_single (F : RepFamily) (t : Tree) (c : ℂ) (f f' : Frames)
    (R : Matrix (Fin 3) (Fin 3) ℝ) (hR : IsRot R) (hok : t.spinsOk F) (hrot : Rotated R f f') :
    ∑ m ∈ projs t.twoSpin, Complex.normSq (c * amp F t f' m)
      = ∑ m ∈ projs t.twoSpin, Complex.normSq (c * amp F t f m) := by
  cases t with
  | leaf j l => simp [amp]
  | node j H c₁ c₂ =>
    obtain ⟨Φ, hΦ, -, e⟩ := amp_rotated_phase F (.node j H c₁ c₂) hok R f f' hR hrot (fun h => h.elim)
    refine normSq_sum_unitary (projs j) (F.D j R) (F.unitary j hok.1 R hR) Φ hΦ _ _ fun m hm => ?_
    rw [e m hm, Finset.mul_sum, Finset.mul_sum, Finset.mul_sum]
    refine Finset.sum_congr rfl fun m' _ => ?_
    rw [Tree.twoSpin]
    ring

/-- FULL STATEMENT on trees: any finite set of topologies with spinless final states, or a single
topology with final states of any (provided) spin. -/
theorem intensity_rotated_full (F : RepFamily) (T : Type) [Fintype T] (tree : T → Tree) (c : T → ℂ)
    (fr fr' : T → Frames) (R : Matrix (Fin 3) (Fin 3) ℝ) (twoJ : ℕ) (hJ : F.ok twoJ) (hR : IsRot R)
    (ht : ∀ t, (tree t).twoSpin = twoJ ∧ (tree t).spinsOk F)
    (hcase : (∀ t, (tree t).spinlessLeaves) ∨ Subsingleton T)
    (hrot : ∀ t, Rotated R (fr t) (fr' t)) :
    ∑ m ∈ projs twoJ, Complex.normSq (∑ t, c t * amp F (tree t) (fr' t) m)
      = ∑ m ∈ projs twoJ, Complex.normSq (∑ t, c t * amp F (tree t) (fr t) m) := by
  rcases hcase with hs | hsub
  · exact intensity_rotated F T tree c fr fr' R twoJ hJ hR (fun t => ⟨(ht t).1, (ht t).2, hs t⟩) hrot
  · rcases isEmpty_or_nonempty T with he | ⟨⟨t₀⟩⟩
    · simp
    · simp_rw [Fintype.sum_subsingleton _ t₀]
      rw [← (ht t₀).1]
      exact intensity_rotated_single F (tree t₀) (c t₀) (fr t₀) (fr' t₀) R hR (ht t₀).2 (hrot t₀)

end Ampverif.Lemmas.C04
