/-
Polynomial path = Hankel definition of the Blatt–Weisskopf factor, L = 0..10.

The regenerated `SphericalHankel1_L x` is `u · x⁻¹ · w · e^{ix}` with `|u| = 1` and `w` a polynomial
in `x⁻¹`, so `|h_L(x)|² = y²·(re² w + im² w)` with `y = x⁻¹`: a polynomial in `y`, which
`hankel_norm_L` identifies as `y²·P̃_L(y²)`, `P̃_L` the REVERSED denominator of the table entry.
`polyEval_reverse` turns `P̃_L(1/z)` into `P_L(z)/z^L`, and `hankel_eq_table` concludes that
`|h(1)|²/(|h(√z)|² z)` is the entry's rational function.
-/
import Ampverif.Gen.C12
import Mathlib.Tactic.Ring
import Mathlib.Tactic.FieldSimp
import Mathlib.Tactic.LinearCombination
import Mathlib.Analysis.SpecialFunctions.Pow.Real

namespace Ampverif.Lemmas.C12
open Ampverif.Gen.C12

theorem polyEval_append (l₁ l₂ : List ℚ) (z : ℝ) :
    polyEval (l₁ ++ l₂) z = polyEval l₁ z + z ^ l₁.length * polyEval l₂ z := by
  induction l₁ with
  | nil => simp [polyEval]
  | cons a as ih => simp only [List.cons_append, polyEval, ih, List.length_cons]; ring

/-- The reversed coefficient list is the reciprocal polynomial: `z^(n+1)·P̃(1/z) = z·P(z)`. -/
theorem polyEval_reverse (l : List ℚ) {z : ℝ} (hz : z ≠ 0) :
    z ^ l.length * polyEval l.reverse z⁻¹ = z * polyEval l z := by
  induction l with
  | nil => simp [polyEval]
  | cons a as ih =>
    rw [List.reverse_cons, polyEval_append, List.length_reverse, List.length_cons, pow_succ', mul_add,
      mul_assoc, ih]
    have h : z ^ as.length * z⁻¹ ^ as.length = 1 := by rw [← mul_pow, mul_inv_cancel₀ hz, one_pow]
    simp only [polyEval]
    linear_combination (z * a) * h

/-- If `|h(x)|² = y²·P̃(y²)`, `y = x⁻¹`, for the reversed denominator of a well-formed entry, then the
Hankel form `H = |h(1)|²/(|h(√z)|² z)` agrees for `z > 0` with a polynomial path `B` that is the
entry's rational function. -/
theorem hankel_eq_table (e : BWEntry) (hwf : e.WF) {B H : ℝ → ℝ} {h : ℝ → ℂ}
    (hB : ∀ z, B z = e.eval z)
    (hH : ∀ z, H z = z⁻¹ * ‖h 1‖ ^ 2 * (‖h (Real.sqrt z)‖ ^ 2)⁻¹)
    (hn : ∀ x : ℝ, ‖h x‖ ^ 2 = x⁻¹ ^ 2 * polyEval e.den.reverse (x⁻¹ ^ 2))
    (z : ℝ) (hz : 0 < z) : H z = B z := by
  have hr : polyEval e.den.reverse z⁻¹ = polyEval e.den z / z ^ e.L := by
    have := polyEval_reverse e.den hz.ne'
    rw [hwf.len, pow_succ'] at this
    rw [eq_div_iff (pow_ne_zero _ hz.ne')]
    exact mul_left_cancel₀ hz.ne' (by linear_combination this)
  rw [hB, hH, hn, hn, inv_one, one_pow, polyEval_one, List.sum_reverse, hwf.norm, inv_pow,
    Real.sq_sqrt hz.le, hr]
  unfold BWEntry.eval
  field_simp

theorem exists_sqrt {z : ℝ} (hz : 0 < z) : ∃ x : ℝ, 0 < x ∧ z = x ^ 2 ∧ Real.sqrt z = x :=
  ⟨Real.sqrt z, Real.sqrt_pos.mpr hz, (Real.sq_sqrt hz.le).symm, rfl⟩

/-- `|v·w·e^{ix}|² = y²·|w|²` for a prefactor `v` of modulus `y = x⁻¹`. -/
theorem norm_sq_hankel {v w : ℂ} {x : ℝ} (hv : ‖v‖ ^ 2 = x⁻¹ ^ 2) :
    ‖v * w * Complex.exp (Complex.I * (x : ℂ))‖ ^ 2 = x⁻¹ ^ 2 * (w.re ^ 2 + w.im ^ 2) := by
  rw [norm_mul, norm_mul, mul_pow, mul_pow, hv, Complex.sq_norm w, Complex.normSq_apply,
    mul_comm Complex.I, Complex.norm_exp_ofReal_mul_I]
  ring

theorem hankel_norm_0 (x : ℝ) :
    ‖SphericalHankel1_0 x‖ ^ 2 = x⁻¹ ^ 2 * polyEval bwEntry_0.den.reverse (x⁻¹ ^ 2) := by
  unfold SphericalHankel1_0
  rw [← mul_one (_ * ((x⁻¹ : ℝ) : ℂ)), norm_sq_hankel (by simp)]
  simp [bwEntry_0, polyEval]

theorem hankel_norm_1 (x : ℝ) :
    ‖SphericalHankel1_1 x‖ ^ 2 = x⁻¹ ^ 2 * polyEval bwEntry_1.den.reverse (x⁻¹ ^ 2) := by
  unfold SphericalHankel1_1
  rw [norm_sq_hankel (by simp)]
  simp only [bwEntry_1, List.reverse, List.reverseAux, polyEval, Complex.add_re, Complex.add_im,
    Complex.mul_re, Complex.mul_im, Complex.ofReal_re, Complex.ofReal_im, Complex.I_re, Complex.I_im]
  push_cast
  ring

theorem hankel_norm_2 (x : ℝ) :
    ‖SphericalHankel1_2 x‖ ^ 2 = x⁻¹ ^ 2 * polyEval bwEntry_2.den.reverse (x⁻¹ ^ 2) := by
  unfold SphericalHankel1_2
  rw [norm_sq_hankel (by simp)]
  simp only [bwEntry_2, List.reverse, List.reverseAux, polyEval, Complex.add_re, Complex.add_im,
    Complex.mul_re, Complex.mul_im, Complex.ofReal_re, Complex.ofReal_im, Complex.I_re, Complex.I_im]
  push_cast
  ring

theorem hankel_norm_3 (x : ℝ) :
    ‖SphericalHankel1_3 x‖ ^ 2 = x⁻¹ ^ 2 * polyEval bwEntry_3.den.reverse (x⁻¹ ^ 2) := by
  unfold SphericalHankel1_3
  rw [norm_sq_hankel (by simp)]
  simp only [bwEntry_3, List.reverse, List.reverseAux, polyEval, Complex.add_re, Complex.add_im,
    Complex.mul_re, Complex.mul_im, Complex.ofReal_re, Complex.ofReal_im, Complex.I_re, Complex.I_im]
  push_cast
  ring

theorem hankel_norm_4 (x : ℝ) :
    ‖SphericalHankel1_4 x‖ ^ 2 = x⁻¹ ^ 2 * polyEval bwEntry_4.den.reverse (x⁻¹ ^ 2) := by
  unfold SphericalHankel1_4
  rw [norm_sq_hankel (by simp)]
  simp only [bwEntry_4, List.reverse, List.reverseAux, polyEval, Complex.add_re, Complex.add_im,
    Complex.mul_re, Complex.mul_im, Complex.ofReal_re, Complex.ofReal_im, Complex.I_re, Complex.I_im]
  push_cast
  ring

theorem hankel_norm_5 (x : ℝ) :
    ‖SphericalHankel1_5 x‖ ^ 2 = x⁻¹ ^ 2 * polyEval bwEntry_5.den.reverse (x⁻¹ ^ 2) := by
  unfold SphericalHankel1_5
  rw [norm_sq_hankel (by simp)]
  simp only [bwEntry_5, List.reverse, List.reverseAux, polyEval, Complex.add_re, Complex.add_im,
    Complex.mul_re, Complex.mul_im, Complex.ofReal_re, Complex.ofReal_im, Complex.I_re, Complex.I_im]
  push_cast
  ring

theorem hankel_norm_6 (x : ℝ) :
    ‖SphericalHankel1_6 x‖ ^ 2 = x⁻¹ ^ 2 * polyEval bwEntry_6.den.reverse (x⁻¹ ^ 2) := by
  unfold SphericalHankel1_6
  rw [norm_sq_hankel (by simp)]
  simp only [bwEntry_6, List.reverse, List.reverseAux, polyEval, Complex.add_re, Complex.add_im,
    Complex.mul_re, Complex.mul_im, Complex.ofReal_re, Complex.ofReal_im, Complex.I_re, Complex.I_im]
  push_cast
  ring

theorem hankel_norm_7 (x : ℝ) :
    ‖SphericalHankel1_7 x‖ ^ 2 = x⁻¹ ^ 2 * polyEval bwEntry_7.den.reverse (x⁻¹ ^ 2) := by
  unfold SphericalHankel1_7
  rw [norm_sq_hankel (by simp)]
  simp only [bwEntry_7, List.reverse, List.reverseAux, polyEval, Complex.add_re, Complex.add_im,
    Complex.mul_re, Complex.mul_im, Complex.ofReal_re, Complex.ofReal_im, Complex.I_re, Complex.I_im]
  push_cast
  ring

theorem hankel_norm_8 (x : ℝ) :
    ‖SphericalHankel1_8 x‖ ^ 2 = x⁻¹ ^ 2 * polyEval bwEntry_8.den.reverse (x⁻¹ ^ 2) := by
  unfold SphericalHankel1_8
  rw [norm_sq_hankel (by simp)]
  simp only [bwEntry_8, List.reverse, List.reverseAux, polyEval, Complex.add_re, Complex.add_im,
    Complex.mul_re, Complex.mul_im, Complex.ofReal_re, Complex.ofReal_im, Complex.I_re, Complex.I_im]
  push_cast
  ring

theorem hankel_norm_9 (x : ℝ) :
    ‖SphericalHankel1_9 x‖ ^ 2 = x⁻¹ ^ 2 * polyEval bwEntry_9.den.reverse (x⁻¹ ^ 2) := by
  unfold SphericalHankel1_9
  rw [norm_sq_hankel (by simp)]
  simp only [bwEntry_9, List.reverse, List.reverseAux, polyEval, Complex.add_re, Complex.add_im,
    Complex.mul_re, Complex.mul_im, Complex.ofReal_re, Complex.ofReal_im, Complex.I_re, Complex.I_im]
  push_cast
  ring

theorem hankel_norm_10 (x : ℝ) :
    ‖SphericalHankel1_10 x‖ ^ 2 = x⁻¹ ^ 2 * polyEval bwEntry_10.den.reverse (x⁻¹ ^ 2) := by
  unfold SphericalHankel1_10
  rw [norm_sq_hankel (by simp)]
  simp only [bwEntry_10, List.reverse, List.reverseAux, polyEval, Complex.add_re, Complex.add_im,
    Complex.mul_re, Complex.mul_im, Complex.ofReal_re, Complex.ofReal_im, Complex.I_re, Complex.I_im]
  push_cast
  ring

end Ampverif.Lemmas.C12
