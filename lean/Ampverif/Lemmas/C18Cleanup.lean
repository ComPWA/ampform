/-
Helper lemmas for C18: `PoolSum.cleanup`.  The value of a pool sum is expressed through what
`cleanup` keeps, substitutes and skips; `cleanup` looks at the index symbols and the pool SIZES only,
so it commutes with evaluating the pools.
-/
import Ampverif.Lemmas.C18Subst

namespace Ampverif.Lemmas.C18
open Ampverif.Model

theorem lookup_litPairs (c : List (Sym × Q)) (s : Sym) :
    lookup (litPairs c) s = (lookupQ c s).map Expr.rat := by
  induction c with
  | nil => rfl
  | cons p c ih =>
    have ih' : lookup (c.map (fun p => (p.1, Expr.rat p.2))) s = (lookupQ c s).map Expr.rat := ih
    by_cases h : s = p.1 <;> simp [litPairs, lookup, lookupQ, h, ih']

theorem litPairs_filter (c : List (Sym × Q)) (f : Sym → Bool) :
    (litPairs c).filter (fun p => f p.1) = litPairs (c.filter (fun p => f p.1)) := by
  simp only [litPairs, List.filter_map]
  rfl

theorem lookupQ_append_single (c : List (Sym × Q)) (i : Sym) (q : Q) (s : Sym) :
    lookupQ (c ++ [(i, q)]) s = match lookupQ c s with
      | some r => some r
      | none => if s = i then some q else none := by
  induction c with
  | nil => simp [lookupQ]
  | cons p c ih =>
    obtain ⟨k, r⟩ := p
    by_cases h : s = k
    · simp [lookupQ, h]
    · simp [lookupQ, h, ih]

theorem qEnv_append_single (c : List (Sym × Q)) (i : Sym) (q : Q) (ρ : Env) :
    qEnv (c ++ [(i, q)]) ρ = qEnv c (upd ρ i q) := by
  funext s
  simp only [qEnv, lookupQ_append_single]
  cases lookupQ c s with
  | some r => rfl
  | none => by_cases h : s = i <;> simp [upd, h]

theorem not_mem_names_kept {α : Type} (fb : List Sym) (ixs : List (Sym × List α)) (i : Sym) (h : i ∉ names ixs) :
    i ∉ names (cleanupKept fb ixs) := by
  intro hm
  obtain ⟨p, hp, rfl⟩ := List.mem_map.mp hm
  exact h (List.mem_map.mpr ⟨p, (List.mem_filter.mp (List.mem_filter.mp hp).1).1, rfl⟩)

/-- the value of a pool sum, expressed through what `cleanup` keeps. -/
theorem evalSum_cleanup (fb : List Sym) (k : Env → Q)
    (hk : ∀ ρ1 ρ2 : Env, (∀ s ∈ fb, ρ1 s = ρ2 s) → k ρ1 = k ρ2) (ixs : List QBinder) :
    ∀ ρ : Env, (names ixs).Nodup → (∀ p ∈ ixs, p.2 ≠ []) →
      evalSum ixs ρ k
        = (cleanupMult fb ixs : Q) *
          evalSum (cleanupKept fb ixs) ρ (fun ρ' => k (qEnv (cleanupSingles fb ixs).reverse ρ')) := by
  induction ixs with
  | nil =>
    intro ρ _ _
    simp [evalSum, cleanupMult, cleanupKept, cleanupUsed, cleanupSingles, qEnv_nil]
  | cons p rest ih =>
    intro ρ hnd hne
    obtain ⟨i, pool⟩ := p
    rw [names_cons, List.nodup_cons] at hnd
    have hne' : ∀ p ∈ rest, p.2 ≠ [] := fun p hp => hne p (List.mem_cons_of_mem _ hp)
    have hpool : pool ≠ [] := hne (i, pool) List.mem_cons_self
    by_cases hu : i ∈ fb
    · -- the index occurs in the summand
      match pool, hpool with
      | [q], _ =>
        have e1 : cleanupMult fb ((i, [q]) :: rest) = cleanupMult fb rest := by
          simp [cleanupMult, hu]
        have e2 : cleanupKept fb ((i, [q]) :: rest) = cleanupKept fb rest := by
          simp [cleanupKept, cleanupUsed, hu]
        have e3 : cleanupSingles fb ((i, [q]) :: rest) = (i, q) :: cleanupSingles fb rest := by
          simp [cleanupSingles, cleanupUsed, hu]
        rw [e1, e2, e3, List.reverse_cons]
        simp only [evalSum, List.map_cons, List.map_nil, List.sum_cons, List.sum_nil, add_zero]
        rw [ih (upd ρ i q) hnd.2 hne', evalSum_upd_of_not_mem _ _ _ i q (not_mem_names_kept fb rest i hnd.1)]
        simp only [qEnv_append_single]
      | q1 :: q2 :: tl, _ =>
        have e1 : cleanupMult fb ((i, q1 :: q2 :: tl) :: rest) = cleanupMult fb rest := by
          simp [cleanupMult, hu]
        have e2 : cleanupKept fb ((i, q1 :: q2 :: tl) :: rest) = (i, q1 :: q2 :: tl) :: cleanupKept fb rest := by
          simp [cleanupKept, cleanupUsed, hu]
        have e3 : cleanupSingles fb ((i, q1 :: q2 :: tl) :: rest) = cleanupSingles fb rest := by
          simp [cleanupSingles, cleanupUsed, hu]
        rw [e1, e2, e3]
        generalize q1 :: q2 :: tl = pl
        simp only [evalSum]
        rw [← List.sum_map_mul_left]
        congr 1
        exact List.map_congr_left fun q _ => ih (upd ρ i q) hnd.2 hne'
    · -- the index does not occur in the summand: `cleanup` skips it
      have e1 : cleanupMult fb ((i, pool) :: rest) = pool.length * cleanupMult fb rest := by
        simp [cleanupMult, hu]
      have e2 : cleanupKept fb ((i, pool) :: rest) = cleanupKept fb rest := by
        simp [cleanupKept, cleanupUsed, hu]
      have e3 : cleanupSingles fb ((i, pool) :: rest) = cleanupSingles fb rest := by
        simp [cleanupSingles, cleanupUsed, hu]
      rw [e1, e2, e3]
      simp only [evalSum]
      have hconst : ∀ q : Q, evalSum rest (upd ρ i q) k = evalSum rest ρ k := fun q =>
        evalSum_agree fb k hk rest _ _ fun s hs _ => upd_other _ _ fun h => hu (h ▸ hs)
      rw [List.map_congr_left (fun q _ => hconst q), List.map_const', List.sum_replicate, nsmul_eq_mul,
        ih ρ hnd.2 hne']
      push_cast
      ring

theorem cleanupMult_eq_one {α : Type} (fb : List Sym) (ixs : List (Sym × List α))
    (h : ∀ p ∈ ixs, p.1 ∉ fb → p.2.length = 1) : cleanupMult fb ixs = 1 := by
  induction ixs with
  | nil => simp [cleanupMult]
  | cons p rest ih =>
    have ihr := ih (fun p hp => h p (List.mem_cons_of_mem _ hp))
    unfold cleanupMult at ihr ⊢
    by_cases hu : p.1 ∈ fb
    · simp [hu] at ihr ⊢; exact ihr
    · have := h p List.mem_cons_self hu
      simp [hu, this] at ihr ⊢; exact ihr

theorem cleanupMult_evalBinders (I : Interp) (fb : List Sym) (ρ : Env) (ixs : List Binder) :
    cleanupMult fb (evalBinders I ixs ρ) = cleanupMult fb ixs := by
  simp [evalBinders_eq_map, cleanupMult, List.filter_map, Function.comp_def]

theorem cleanupKept_evalBinders (I : Interp) (fb : List Sym) (ρ : Env) (ixs : List Binder) :
    cleanupKept fb (evalBinders I ixs ρ) = evalBinders I (cleanupKept fb ixs) ρ := by
  simp [evalBinders_eq_map, cleanupKept, cleanupUsed, List.filter_map, Function.comp_def]

theorem cleanupSingles_evalBinders (I : Interp) (fb : List Sym) (ρ : Env) (ixs : List Binder) :
    cleanupSingles fb (evalBinders I ixs ρ) = evalPairs I (cleanupSingles fb ixs) ρ := by
  simp only [evalBinders_eq_map, cleanupSingles, cleanupUsed, evalPairs, List.filter_map,
    List.filterMap_map, List.map_filterMap, Function.comp_def]
  congr 1
  funext p
  rcases p with ⟨i, _ | ⟨a, _ | _⟩⟩ <;> rfl

/-- the values `cleanup` inserts are pool values. -/
theorem cleanupSingles_vals (fb : List Sym) (ixs : List Binder) (hn : noPsumBinders ixs = true) :
    ∀ p ∈ cleanupSingles fb ixs, noPsum p.2 = true ∧ ∀ s ∈ syms p.2, s ∈ symsBinders ixs := by
  intro p hp
  simp only [cleanupSingles, cleanupUsed, List.mem_filterMap, List.mem_filter] at hp
  obtain ⟨⟨i, pool⟩, ⟨hq, _⟩, h⟩ := hp
  match pool, h with
  | [a], h => exact pool_value hn hq (by simp [← Option.some.inj h])

end Ampverif.Lemmas.C18
