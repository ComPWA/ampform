/-
The denominators of the regenerated three-channel entries: the two of the non-relativistic class
differ by a sign, and each is `± i` times the determinant of the matrix that is inverted.
-/
import Ampverif.Gen.C09N3
import Ampverif.Lemmas.C09Entries

namespace Ampverif.Lemmas.C09
open Ampverif.Gen.C09N3 Matrix

theorem nrT3_den2_eq (a b c d e f g h k : ℂ) :
    nrT3_den2 a b c d e f g h k = -nrT3_den1 a b c d e f g h k := by
  simp only [nrT3_den1, nrT3_den2]; ring

theorem nrT3_den1_eq_det (K : Matrix (Fin 3) (Fin 3) ℂ) :
    nrT3_den1 (K 0 0) (K 0 1) (K 0 2) (K 1 0) (K 1 1) (K 1 2) (K 2 0) (K 2 1) (K 2 2)
      = Complex.I * (D K).det := by
  rw [Matrix.det_fin_three]
  simp [D, nrT3_den1, Matrix.sub_apply, Matrix.smul_apply]
  grind only [Complex.I_sq]

theorem relT3_den1_eq_det (ρ : Fin 3 → ℂ) (K : Matrix (Fin 3) (Fin 3) ℂ) :
    relT3_den1 (ρ 0) (ρ 1) (ρ 2) (K 0 0) (K 0 1) (K 0 2) (K 1 0) (K 1 1) (K 1 2) (K 2 0) (K 2 1)
        (K 2 2)
      = -(Complex.I * (1 - Complex.I • (Matrix.diagonal ρ * K)).det) := by
  rw [Matrix.det_fin_three]
  simp [relT3_den1, Matrix.sub_apply, Matrix.smul_apply, Matrix.diagonal_mul]
  grind only [Complex.I_sq]

end Ampverif.Lemmas.C09
