/-
C01: the xor statement for all three alignments. The disjointness argument on abstract lists
(`xor_abstract`); the pieces of `result` under names of their own; where the symbols contributed by the
amplitude definitions, by AxisAngleAlignment and by DalitzPlotDecomposition come from; `xor_of_dpd_ok`
puts them together.
-/
import Ampverif.Lemmas.C01Chains

namespace Ampverif.Model.C01

/-- the disjointness argument, independent of where the lists come from -/
theorem xor_abstract (chainP moved alignP adapter extra : List Name) (s : Name)
    (hP : ∀ n ∈ chainP, isParamName n = true)
    (hA : ∀ k ∈ adapter, isKinName k = true)
    (hE : ∀ k ∈ extra, isKinName k = true)
    (hME : ∀ k ∈ moved, k ∉ extra)
    (hAP : ∀ k ∈ alignP, k ∉ adapter.filter (fun k => k ∉ moved) ∧ k ∉ extra)
    (hs : s ∈ chainP ∨ s ∈ adapter ∨ s ∈ extra) :
    (s ∈ chainP ++ moved ++ alignP ∧ s ∉ adapter.filter (fun k => k ∉ moved) ++ extra)
    ∨ (s ∉ chainP ++ moved ++ alignP ∧ s ∈ adapter.filter (fun k => k ∉ moved) ++ extra) := by
  rcases hs with hs | hs | hs
  · left
    refine ⟨List.mem_append_left _ (List.mem_append_left _ hs), ?_⟩
    intro hc
    rcases List.mem_append.1 hc with hc | hc
    · exact classes_disjoint s ⟨hP s hs, hA s (List.mem_filter.1 hc).1⟩
    · exact classes_disjoint s ⟨hP s hs, hE s hc⟩
  · by_cases hm : s ∈ moved
    · left
      refine ⟨List.mem_append_left _ (List.mem_append_right _ hm), ?_⟩
      intro hc
      rcases List.mem_append.1 hc with hc | hc
      · have := (List.mem_filter.1 hc).2; simp [hm] at this
      · exact hME s hm hc
    · right
      have hf : s ∈ adapter.filter (fun k => k ∉ moved) := List.mem_filter.2 ⟨hs, by simp [hm]⟩
      refine ⟨?_, List.mem_append_left _ hf⟩
      intro hc
      simp only [List.mem_append] at hc
      rcases hc with (hc | hc) | hc
      · exact classes_disjoint s ⟨hP s hc, hA s hs⟩
      · exact hm hc
      · exact (hAP s hc).1 hf
  · right
    refine ⟨?_, List.mem_append_right _ hs⟩
    intro hc
    simp only [List.mem_append] at hc
    rcases hc with (hc | hc) | hc
    · exact classes_disjoint s ⟨hP s hc, hE s hs⟩
    · exact hME s hc hs
    · exact (hAP s hc).2 hs

/-- kinematic variables the adapter registers and `formulate` does not move to the parameters -/
def present (v : Variant) (r : Reaction) (cfg : Config) : List Name :=
  (adapterKeys v r cfg).filter (fun k => k ∉ movedMasses r cfg)

def zetasOf (r : Reaction) (cfg : Config) : List (Name × List Name) :=
  match cfg.align with
  | .dpd ref => dpdZetas r ref
  | _ => []

def remainingOf (v : Variant) (r : Reaction) (cfg : Config) : List Name :=
  dpdRemaining (present v r cfg) (zetasOf r cfg)

/-- kinematic variables that the alignment adds -/
def extraKeys (v : Variant) (r : Reaction) (cfg : Config) : List Name :=
  match cfg.align with
  | .none => []
  | .axis => axisKeys r
  | .dpd _ => dpdReadded cfg (remainingOf v r cfg) ++ (zetasOf r cfg).map (·.1)

/-- free symbols that the alignment adds -/
def alignFree (r : Reaction) (cfg : Config) : List Name :=
  match cfg.align with
  | .none => []
  | .axis => axisFree r
  | .dpd _ => (zetasOf r cfg).map (·.1)

/-- free symbols of the definitions of the amplitude symbols in `rf` -/
def ampsFree (v : Variant) (r : Reaction) (cfg : Config) (rf : List AmpKey) : List Name :=
  rf.flatMap (fun k =>
    match dictGet? k (zeroDefsOf v r rf (registeredOf v r (transOuts v r cfg))) with
    | some a => a.free
    | none => [])

theorem result_refs (v : Variant) (r : Reaction) (cfg : Config) : (result v r cfg).refs = refs v r cfg := rfl

theorem result_defs (v : Variant) (r : Reaction) (cfg : Config) :
    (result v r cfg).defs = zeroDefsOf v r (refs v r cfg) (registeredOf v r (transOuts v r cfg)) := rfl

theorem params_eq (v : Variant) (r : Reaction) (cfg : Config) :
    params v r cfg = (transOuts v r cfg).flatMap TOut.params ++ movedMasses r cfg
      ++ alignParams cfg (remainingOf v r cfg) := rfl

theorem freeSyms_eq (v : Variant) (r : Reaction) (cfg : Config) :
    freeSyms v r cfg = ampsFree v r cfg (refs v r cfg) ++ alignFree r cfg := rfl

theorem kinvars_eq (v : Variant) (r : Reaction) (cfg : Config) :
    kinvars v r cfg = present v r cfg ++ extraKeys v r cfg := by
  unfold kinvars kinvarsDeps result extraKeys remainingOf zetasOf present
  cases cfg.align <;> simp [List.map_map, Function.comp_def]

theorem refs_of_not_axis (v : Variant) (r : Reaction) (cfg : Config) (hal : cfg.align ≠ .axis) :
    refs v r cfg = productKeys r (pools r) := by
  unfold refs
  split
  · rfl
  · rfl
  · contradiction

theorem zeroDefsOf_get (v : Variant) (r : Reaction) (rf : List AmpKey) (reg : List (AmpKey × AmpDef))
    (k : AmpKey) (a : AmpDef) (h : dictGet? k (zeroDefsOf v r rf reg) = some a) :
    dictGet? k reg = some a ∨ a.free = [] := by
  unfold zeroDefsOf at h
  split at h
  · exact .inl h
  · exact addMissing_get _ _ _ _ h
  · exact addMissing_get _ _ _ _ h

theorem chainTopo_mem_registeredTopos (v : Variant) (hreg : v.regCombTopos = true) (r : Reaction) (cfg : Config)
    (t : Transition) (ht : t ∈ r.transitions) (ch : Chain) (hch : ch ∈ t.chains) :
    r.tree ch.topo ∈ registeredTopos v r cfg := by
  simp only [registeredTopos, hreg, if_true, mem_dedup, List.mem_append, List.mem_map, List.mem_flatMap]
  exact .inr ⟨t, ht, ch, hch, rfl⟩

theorem free_amps_class (v : Variant) (hreg : v.regCombTopos = true) (r : Reaction) (cfg : Config)
    (hwf : ∀ t ∈ registeredTopos v r cfg, t.wf = true) (rf : List AmpKey) (s : Name)
    (hs : s ∈ ampsFree v r cfg rf) :
    s ∈ (transOuts v r cfg).flatMap TOut.params ∨ s ∈ adapterKeys v r cfg := by
  simp only [ampsFree, List.mem_flatMap] at hs
  obtain ⟨k, _, hs⟩ := hs
  generalize ha : dictGet? k _ = def? at hs
  obtain _ | a := def?
  · cases hs
  replace hs : s ∈ a.free := hs
  rcases zeroDefsOf_get _ _ _ _ _ _ ha with hreg' | h0
  · obtain ⟨o, ho, hso⟩ := registeredOf_freeFrom v r _ _ (dictGet?_mem _ _ _ hreg') s hs
    obtain ⟨t, ht, rfl⟩ := transOuts_mem v r cfg o ho
    rcases tout_free_class v r cfg _ ho s hso with hp | ⟨ch, hch, ni, hni, hk⟩
    · exact .inl (List.mem_flatMap.2 ⟨_, ho, hp⟩)
    · have htree := chainTopo_mem_registeredTopos v hreg r cfg t ht ch hch
      exact .inr (List.mem_flatMap.2 ⟨_, htree, kinSyms_registered _ (hwf _ htree) ni hni s hk⟩)
  · rw [h0] at hs
    cases hs

theorem topoGroups_registered (v : Variant) (r : Reaction) (cfg : Config) :
    ∀ tg ∈ topoGroups r r.transitions, tg.1 ∈ registeredTopos v r cfg := by
  intro tg htg
  obtain ⟨t, ht, hk⟩ := (groupByKey_mem _ _ tg htg).1
  simp only [registeredTopos, mem_dedup, List.mem_append]
  left
  split
  · simp only [List.mem_append, List.mem_map]; left; exact ⟨t, ht, hk.symm⟩
  · simp only [List.mem_map]; exact ⟨t, ht, hk.symm⟩

/-- angle symbols on the path to a final state are helicity-child symbols of nodes of the tree -/
theorem pathAngles_sub (t : Tree) : ∀ (b : Bool) (anc : List Name) (e : Int) (a : List Name) (d : Nat),
    pathAngles t b anc e = some (a, d) → a ⊆ (nodeInfos t b anc).flatMap NodeInfo.kinSyms := by
  induction t with
  | leaf e0 =>
    intro b anc e a d h
    simp only [pathAngles] at h
    split at h
    · cases h; exact List.nil_subset _
    · cases h
  | node e0 n l r ihl ihr =>
    intro b anc e a d h
    simp only [pathAngles] at h
    simp only [nodeInfos, List.flatMap_cons, List.flatMap_append]
    -- the node's own pair is the head of its `kinSyms`; the rest comes from the child the path goes through
    have here {a' L : List Name} (h : a' ⊆ L) {pair more : List Name} : pair ++ a' ⊆ (pair ++ more) ++ L :=
      List.append_subset.2
        ⟨List.subset_append_of_subset_left _ (List.subset_append_left _ _), List.subset_append_of_subset_right _ h⟩
    split at h
    next a' d' hl =>
      cases h
      exact here (List.subset_append_of_subset_left _ (ihl _ _ _ _ _ hl))
    next =>
      split at h
      next a' d' hr =>
        cases h
        exact here (List.subset_append_of_subset_right _ (ihr _ _ _ _ _ hr))
      next => cases h

/-- Wigner-angle keys are kinematic-variable names and do not start with `m` (109) -/
theorem wigner_class (t : Tree) (e : Int) :
    ∀ k ∈ wignerAngleNames t e, isKinName k = true ∧ k.head? ≠ some 109 := by
  intro k hk
  simp only [wignerAngleNames, List.mem_cons, List.mem_nil_iff, or_false] at hk
  rcases hk with rfl | rfl | rfl <;> exact ⟨rfl, nofun⟩

theorem axisKeys_class (r : Reaction) : ∀ k ∈ axisKeys r, isKinName k = true ∧ k.head? ≠ some 109 := by
  intro k hk
  simp only [axisKeys, List.mem_flatMap] at hk
  obtain ⟨tg, _, e, _, hk⟩ := hk
  split at hk
  · split at hk
    · exact wigner_class _ _ k hk
    · cases hk
  · cases hk

theorem stableMasses_mem (cfg : Config) (k : Name) (hk : k ∈ stableMasses cfg) :
    ∃ ids, cfg.stable = some ids ∧ ∃ i ∈ ids, k = n!"m_" ++ intName i := by
  unfold stableMasses at hk
  split at hk
  · cases hk
  · rename_i ids hids
    obtain ⟨i, hi, rfl⟩ := List.mem_map.1 hk
    exact ⟨ids, hids, i, hi, rfl⟩

theorem scalarMass_mem (r : Reaction) (cfg : Config) (k : Name) (hk : k ∈ scalarMass r cfg) :
    ∃ t rest, r.transitions = t :: rest ∧ k = n!"m_" ++ digitsOf (finalIds r t) := by
  unfold scalarMass at hk
  split at hk
  · split at hk
    · cases hk
    · rename_i t rest htr
      exact ⟨t, rest, htr, List.mem_singleton.1 hk⟩
  · cases hk

theorem moved_head (r : Reaction) (cfg : Config) : ∀ k ∈ movedMasses r cfg, k.head? = some 109 := by
  intro k hk
  rcases List.mem_append.1 hk with hk | hk
  · obtain ⟨_, _, _, _, rfl⟩ := stableMasses_mem cfg k hk
    rfl
  · obtain ⟨_, _, _, rfl⟩ := scalarMass_mem r cfg k hk
    rfl

theorem axisFree_class (v : Variant) (r : Reaction) (cfg : Config)
    (hwf : ∀ t ∈ registeredTopos v r cfg, t.wf = true) :
    ∀ s ∈ axisFree r, s ∈ adapterKeys v r cfg ∨ s ∈ axisKeys r := by
  intro s hs
  simp only [axisFree, List.mem_flatMap] at hs
  obtain ⟨tg, htg, e, he, hs⟩ := hs
  have hreg := topoGroups_registered v r cfg tg htg
  split at hs
  · rename_i a d hp
    rcases List.mem_append.1 hs with hs | hs
    · left
      obtain ⟨ni, hni, hk⟩ := List.mem_flatMap.1 (pathAngles_sub tg.1 true [] e a d hp hs)
      exact List.mem_flatMap.2 ⟨tg.1, hreg, kinSyms_registered _ (hwf _ hreg) ni hni s hk⟩
    · right
      split at hs
      · simp only [axisKeys, List.mem_flatMap]
        refine ⟨tg, htg, e, he, ?_⟩
        rw [hp]
        simp only
        rename_i hd
        simp [hd, hs]
      · cases hs
  · cases hs

/-- the mass symbols of the zeta expressions (rotated state 0..3, subsystems 1..3), by evaluation -/
theorem zetaMasses_class :
    ∀ rot ∈ List.range 4, ∀ a ∈ [1, 2, 3], ∀ ref ∈ [1, 2, 3], ∀ m ∈ zetaMasses rot a ref,
      isKinName m = true ∧ m ≠ n!"m_123" := by
  decide +kernel

theorem spectator_range (t : Tree) (sp : Int) (h : spectator t = some sp) : sp = 1 ∨ sp = 2 ∨ sp = 3 := by
  unfold spectator at h
  split at h
  · have hm := List.mem_of_mem_head? h
    have := (List.mem_filter.1 hm).1
    simpa using this
  · cases h

/-- every zeta of the model is `zetaMasses rot a ref` with arguments in the finite range above; its name
starts with the backslash (92) of `\zeta` -/
theorem dpdZetas_shape (r : Reaction) (ref : Nat) (href : ref = 1 ∨ ref = 2 ∨ ref = 3) :
    ∀ z ∈ dpdZetas r ref, z.1.head? = some 92 ∧ isKinName z.1 = true ∧
      ∀ m ∈ z.2, isKinName m = true ∧ m ≠ n!"m_123" := by
  intro z hz
  unfold dpdZetas at hz
  split at hz
  · cases hz
  · simp only [List.mem_flatMap] at hz
    obtain ⟨tg, _, hz⟩ := hz
    split at hz
    · cases hz
    · rename_i sp hsp
      simp only [List.mem_map, List.mem_filter] at hz
      obtain ⟨i, ⟨hi, _⟩, rfl⟩ := hz
      refine ⟨rfl, rfl, ?_⟩
      have ha : sp.toNat ∈ [1, 2, 3] := by rcases spectator_range _ _ hsp with h | h | h <;> simp [h]
      have hr : ref ∈ [1, 2, 3] := by rcases href with h | h | h <;> simp [h]
      exact zetaMasses_class i hi _ ha _ hr

theorem finalIds_of_outer (r : Reaction) (h : outerIds r = [0, 1, 2, 3]) :
    ∃ t0 rest, r.transitions = t0 :: rest ∧ finalIds r t0 = [1, 2, 3] := by
  unfold outerIds at h
  split at h
  · cases h
  · rename_i t0 rest htr
    exact ⟨t0, rest, htr, (List.cons.inj h).2⟩

theorem dpd_ok_of_noerror (v : Variant) (r : Reaction) (cfg : Config) (h : errorOf v r cfg = none) (ref : Nat)
    (hal : cfg.align = .dpd ref) :
    outerIds r = [0, 1, 2, 3] ∧ (ref = 1 ∨ ref = 2 ∨ ref = 3) ∧
      (∀ ids, cfg.stable = some ids → ∀ i ∈ ids, i = 1 ∨ i = 2 ∨ i = 3) := by
  unfold errorOf at h
  split at h
  · cases h
  simp only [ite_some_eq_none, Bool.not_eq_true] at h
  obtain ⟨_, _, hdpd, hst, _⟩ := h
  simp only [dpdBad, hal, Bool.or_eq_false_iff, decide_eq_false_iff_not, Decidable.not_not,
    Bool.not_eq_false', Bool.or_eq_true, decide_eq_true_eq] at hdpd
  obtain ⟨⟨houter, _⟩, href⟩ := hdpd
  refine ⟨houter, by simpa [or_assoc] using href, ?_⟩
  intro ids hids i hi
  obtain ⟨t0, rest, htr, hfin⟩ := finalIds_of_outer r houter
  simp only [stableBad, hids, htr, hfin, List.any_eq_false, decide_eq_true_eq, Decidable.not_not] at hst
  simpa using hst i hi

theorem stableMasses_ne_m0 (cfg : Config)
    (hstable : ∀ ids, cfg.stable = some ids → ∀ i ∈ ids, i = 1 ∨ i = 2 ∨ i = 3) :
    ∀ k ∈ stableMasses cfg, k ≠ mN 0 := by
  intro k hk
  obtain ⟨ids, hids, i, hi, rfl⟩ := stableMasses_mem cfg k hk
  rcases hstable ids hids i hi with h | h | h <;> subst h <;> decide

theorem scalarMass_dpd (r : Reaction) (cfg : Config) (houter : outerIds r = [0, 1, 2, 3]) :
    ∀ k ∈ scalarMass r cfg, k = n!"m_123" := by
  intro k hk
  obtain ⟨t, rest, htr, rfl⟩ := scalarMass_mem r cfg k hk
  obtain ⟨t0, _, htr0, hfin⟩ := finalIds_of_outer r houter
  rw [htr] at htr0
  cases htr0
  rw [hfin]
  rfl

/-- The xor statement, from what it needs: combinatorics topologies registered, well-formed trees, and for
DalitzPlotDecomposition a relabelled three-body reaction with a valid reference and stable ids among 1, 2, 3. -/
theorem xor_of_dpd_ok (v : Variant) (hreg : v.regCombTopos = true) (r : Reaction) (cfg : Config)
    (hwf : ∀ t ∈ registeredTopos v r cfg, t.wf = true)
    (hdpd : ∀ ref, cfg.align = .dpd ref → outerIds r = [0, 1, 2, 3] ∧ (ref = 1 ∨ ref = 2 ∨ ref = 3) ∧
      (∀ ids, cfg.stable = some ids → ∀ i ∈ ids, i = 1 ∨ i = 2 ∨ i = 3)) :
    ∀ s ∈ freeSyms v r cfg,
      (s ∈ params v r cfg ∧ s ∉ kinvars v r cfg) ∨ (s ∉ params v r cfg ∧ s ∈ kinvars v r cfg) := by
  intro s hs
  rw [params_eq, kinvars_eq]
  rw [freeSyms_eq, List.mem_append] at hs
  have hP := chainParams_class v r cfg
  have hA := adapterKeys_class v r cfg hwf
  have hamps := free_amps_class v hreg r cfg hwf (refs v r cfg) s
  cases hal : cfg.align with
  | none =>
    simp only [extraKeys, alignParams, alignFree, hal, List.not_mem_nil, or_false] at hs ⊢
    exact xor_abstract _ _ _ _ _ s hP hA nofun (fun _ _ => List.not_mem_nil) nofun ((hamps hs).imp_right .inl)
  | axis =>
    simp only [extraKeys, alignParams, alignFree, hal] at hs ⊢
    refine xor_abstract _ _ _ _ _ s hP hA (fun k hk => (axisKeys_class r k hk).1)
      (fun k hk hc => (axisKeys_class r k hc).2 (moved_head r cfg k hk)) nofun ?_
    rcases hs with hs | hs
    · exact (hamps hs).imp_right .inl
    · exact .inr (axisFree_class v r cfg hwf s hs)
  | dpd ref =>
    obtain ⟨houter, href, hstable⟩ := hdpd ref hal
    have hshape := dpdZetas_shape r ref href
    have hzeta : ∀ k ∈ (dpdZetas r ref).map (·.1), k.head? = some 92 ∧ isKinName k = true := by
      intro k hk
      obtain ⟨z, hz, rfl⟩ := List.mem_map.1 hk
      exact ⟨(hshape z hz).1, (hshape z hz).2.1⟩
    have hrem : ∀ k ∈ remainingOf v r cfg, k ∉ present v r cfg ∧ isKinName k = true ∧ k ≠ n!"m_123" := by
      intro k hk
      simp only [remainingOf, zetasOf, hal, dpdRemaining, mem_dedup, List.mem_filter, List.mem_flatMap] at hk
      obtain ⟨⟨z, hz, hkz⟩, hnp⟩ := hk
      exact ⟨by simpa using hnp, (hshape z hz).2.2 k hkz⟩
    simp only [extraKeys, alignParams, alignFree, zetasOf, hal] at hs ⊢
    refine xor_abstract _ _ _ _ _ s hP hA ?_ ?_ ?_ ?_
    · intro k hk
      rcases List.mem_append.1 hk with hk | hk
      · exact (hrem k (List.mem_filter.1 hk).1).2.1
      · exact (hzeta k hk).2
    · -- moved masses are neither re-added nor zeta names
      intro k hk hc
      rcases List.mem_append.1 hc with hc | hc
      · obtain ⟨hkr, hkeep⟩ := List.mem_filter.1 hc
        rcases List.mem_append.1 hk with hk | hk
        · simp [stableMasses_ne_m0 cfg hstable k hk, hk] at hkeep
        · exact (hrem k hkr).2.2 (scalarMass_dpd r cfg houter k hk)
      · exact absurd ((moved_head r cfg k hk).symm.trans (hzeta k hc).1) (by decide)
    · -- the scalar `m_0` (a parameter) is neither registered, re-added nor a zeta name
      intro k hk
      simp only [dpdParamMasses, List.mem_filter, Bool.and_eq_true, decide_eq_true_eq] at hk
      obtain ⟨hkr, hk0, hsc⟩ := hk
      refine ⟨(hrem k hkr).1, fun hc => ?_⟩
      rcases List.mem_append.1 hc with hc | hc
      · have hkeep := (List.mem_filter.1 hc).2
        simp [hk0, hsc] at hkeep
      · have h92 := (hzeta k hc).1
        rw [hk0] at h92
        cases h92
    · rcases hs with hs | hs
      · exact (hamps hs).imp_right .inl
      · exact .inr (.inr (List.mem_append_right _ hs))

end Ampverif.Model.C01
