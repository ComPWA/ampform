/-
C05 — the pools of the DPD-aligned amplitude are the helicity sets of the reaction.

`_formulate_aligned_amplitude` sums the primed helicity of every outer state over the helicities
collected from the reaction's transitions (`_collect_outer_state_helicities`). Consequence: the
aligned amplitude is NOT a function of topology, particles and reference subsystem alone — two
reactions whose helicity sets differ never have the same aligned amplitude, so whatever
remembers an aligned amplitude (the `functools.cache` on `_formulate_aligned_amplitude`) has to
tell them apart. The correspondence run drives the real code through histories of such reactions.
-/
import Ampverif.Lemmas.C05Spec

namespace Ampverif.Lemmas.C05Pools
open Ampverif.Model.C05Align Ampverif.Lemmas.C05Spec

/-- summed pools of the DPD skeleton: per outer state, in order, its amplitude index over the
state's observed helicities — whatever the topology, the spins and the reference subsystem -/
theorem dpd_sums (ref : Int) (t : Tree) (states : List StateInfo) (specs : List Spec)
    (h : dpdSpecs ref t states = some specs) :
    (flatten specs).sums = states.map fun s => (Var.inner 0 s.e, s.observed) := by
  obtain ⟨sp, _, rfl⟩ := dpdSpecs_eq_some.mp h
  rw [flatten_sums, List.flatMap_map, List.map_eq_flatMap]
  simp only [dpdOne_sums]

theorem dpd_outer (ref : Int) (t : Tree) (states : List StateInfo) (specs : List Spec)
    (h : dpdSpecs ref t states = some specs) :
    (flatten specs).outer = states.map fun s => (Var.outer s.e, s.observed) := by
  obtain ⟨sp, _, rfl⟩ := dpdSpecs_eq_some.mp h
  simp [flatten_outer]

end Ampverif.Lemmas.C05Pools
