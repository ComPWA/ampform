/-
Helper lemmas for C11 about the regenerated definitions `Ampverif.Gen.C11.*`:
closed forms of q², and the value of every definition in each region of the real s axis
(the sign of `s` and of `q²` decides which branch of every root is taken).
-/
import Ampverif.Gen.C11
import Ampverif.Lemmas.C11Branch
import Mathlib.Tactic.Ring
import Mathlib.Tactic.FieldSimp
import Mathlib.Tactic.Linarith
import Mathlib.Tactic.Positivity

namespace Ampverif.Lemmas.C11
open Ampverif.Gen.C11

theorem q2_eq (s m1 m2 : ℝ) :
    BreakupMomentumSquared s m1 m2 = (s - (m1 + m2) ^ 2) * (s - (m1 - m2) ^ 2) / (4 * s) := by
  unfold BreakupMomentumSquared
  ring

theorem four_s_q2 {s : ℝ} (hs : s ≠ 0) (m1 m2 : ℝ) :
    4 * s * BreakupMomentumSquared s m1 m2 = (s - (m1 + m2) ^ 2) * (s - (m1 - m2) ^ 2) := by
  rw [q2_eq, mul_div_cancel₀ _ (mul_ne_zero four_ne_zero hs)]

theorem q2_at_threshold (m1 m2 : ℝ) : BreakupMomentumSquared ((m1 + m2) ^ 2) m1 m2 = 0 := by
  unfold BreakupMomentumSquared; ring

/-- above threshold `s > 0` and `q² > 0` (masses non-negative) -/
theorem above_pos {s m1 m2 : ℝ} (h1 : 0 ≤ m1) (h2 : 0 ≤ m2) (h : (m1 + m2) ^ 2 < s) :
    0 < s ∧ 0 < BreakupMomentumSquared s m1 m2 := by
  have hs : 0 < s := lt_of_le_of_lt (sq_nonneg _) h
  refine ⟨hs, ?_⟩
  rw [q2_eq]
  have h3 : 0 < s - (m1 - m2) ^ 2 := by linarith [mul_nonneg h1 h2]
  have h4 : 0 < s - (m1 + m2) ^ 2 := by linarith
  exact div_pos (mul_pos h4 h3) (by positivity)

/-- between pseudo-threshold and threshold `s > 0` and `q² < 0` -/
theorem between_neg {s m1 m2 : ℝ} (hlo : (m1 - m2) ^ 2 < s) (hhi : s < (m1 + m2) ^ 2) :
    0 < s ∧ BreakupMomentumSquared s m1 m2 < 0 := by
  have hs : 0 < s := lt_of_le_of_lt (sq_nonneg _) hlo
  refine ⟨hs, ?_⟩
  rw [q2_eq]
  have h3 : 0 < s - (m1 - m2) ^ 2 := by linarith
  have h4 : s - (m1 + m2) ^ 2 < 0 := by linarith
  apply div_neg_of_neg_of_pos _ (by positivity)
  exact mul_neg_of_neg_of_pos h4 h3

theorem ComplexSqrt_of_nonneg {x : ℝ} (hx : 0 ≤ x) : ComplexSqrt x = ((Real.sqrt x : ℝ) : ℂ) := by
  unfold ComplexSqrt
  rw [if_neg (not_lt.mpr hx), csqrt_ofReal_of_nonneg hx]

theorem ComplexSqrt_of_neg {x : ℝ} (hx : x < 0) :
    ComplexSqrt x = Complex.I * ((Real.sqrt (-x) : ℝ) : ℂ) := by
  unfold ComplexSqrt
  rw [if_pos hx, neg_one_mul, csqrt_ofReal_of_nonneg (neg_pos.mpr hx).le]

theorem ComplexSqrt_sq (x : ℝ) : ComplexSqrt x ^ 2 = (x : ℂ) := by
  rcases lt_or_ge x 0 with hx | hx
  · rw [ComplexSqrt_of_neg hx, mul_pow, Complex.I_sq, ← Complex.ofReal_pow,
      Real.sq_sqrt (neg_pos.mpr hx).le, Complex.ofReal_neg, neg_one_mul, neg_neg]
  · rw [ComplexSqrt_of_nonneg hx, ← Complex.ofReal_pow, Real.sq_sqrt hx]

theorem rhoAbs_nonneg (s m1 m2 : ℝ) : 0 ≤ PhaseSpaceFactorAbs s m1 m2 := by
  unfold PhaseSpaceFactorAbs; positivity

theorem rhoAbs_pos {s m1 m2 : ℝ} (hs : s ≠ 0) (hq : BreakupMomentumSquared s m1 m2 ≠ 0) :
    0 < PhaseSpaceFactorAbs s m1 m2 := by
  unfold PhaseSpaceFactorAbs; positivity

theorem rhoAbs_at_threshold (m1 m2 : ℝ) : PhaseSpaceFactorAbs ((m1 + m2) ^ 2) m1 m2 = 0 := by
  unfold PhaseSpaceFactorAbs
  rw [q2_at_threshold, abs_zero, Real.sqrt_zero, mul_zero]

theorem rhoAbs_of_pos_pos {s m1 m2 : ℝ} (hs : 0 ≤ s) (hq : 0 ≤ BreakupMomentumSquared s m1 m2) :
    PhaseSpaceFactorAbs s m1 m2 = 2 * Real.sqrt (BreakupMomentumSquared s m1 m2) / Real.sqrt s := by
  unfold PhaseSpaceFactorAbs
  rw [abs_of_nonneg hs, abs_of_nonneg hq]
  ring

theorem rho_of_pos_pos {s m1 m2 : ℝ} (hs : 0 ≤ s) (hq : 0 ≤ BreakupMomentumSquared s m1 m2) :
    PhaseSpaceFactor s m1 m2 = ((PhaseSpaceFactorAbs s m1 m2 : ℝ) : ℂ) := by
  unfold PhaseSpaceFactor PhaseSpaceFactorAbs
  rw [csqrt_ofReal_of_nonneg hs, csqrt_ofReal_of_nonneg hq, abs_of_nonneg hs, abs_of_nonneg hq]
  push_cast; rfl

theorem rho_of_pos_neg {s m1 m2 : ℝ} (hs : 0 ≤ s) (hq : BreakupMomentumSquared s m1 m2 < 0) :
    PhaseSpaceFactor s m1 m2 = Complex.I * ((PhaseSpaceFactorAbs s m1 m2 : ℝ) : ℂ) := by
  unfold PhaseSpaceFactor PhaseSpaceFactorAbs
  rw [csqrt_ofReal_of_nonneg hs, csqrt_ofReal_of_neg hq, abs_of_nonneg hs, abs_of_neg hq]
  push_cast; ring

theorem rhoComplex_of_pos_pos {s m1 m2 : ℝ} (hs : 0 ≤ s)
    (hq : 0 ≤ BreakupMomentumSquared s m1 m2) :
    PhaseSpaceFactorComplex s m1 m2 = ((PhaseSpaceFactorAbs s m1 m2 : ℝ) : ℂ) := by
  unfold PhaseSpaceFactorComplex PhaseSpaceFactorAbs
  rw [csqrt_ofReal_of_nonneg hs, ComplexSqrt_of_nonneg hq, abs_of_nonneg hs, abs_of_nonneg hq]
  push_cast; rfl

theorem rhoComplex_of_pos_neg {s m1 m2 : ℝ} (hs : 0 ≤ s)
    (hq : BreakupMomentumSquared s m1 m2 < 0) :
    PhaseSpaceFactorComplex s m1 m2 = Complex.I * ((PhaseSpaceFactorAbs s m1 m2 : ℝ) : ℂ) := by
  unfold PhaseSpaceFactorComplex PhaseSpaceFactorAbs
  rw [csqrt_ofReal_of_nonneg hs, ComplexSqrt_of_neg hq, abs_of_nonneg hs, abs_of_neg hq]
  push_cast; ring

/-- both roots are `i√(-·)` and the two factors `i` cancel -/
theorem rhoComplex_of_neg_neg {s m1 m2 : ℝ} (hs : s < 0)
    (hq : BreakupMomentumSquared s m1 m2 < 0) :
    PhaseSpaceFactorComplex s m1 m2 = ((PhaseSpaceFactorAbs s m1 m2 : ℝ) : ℂ) := by
  unfold PhaseSpaceFactorComplex PhaseSpaceFactorAbs
  rw [csqrt_ofReal_of_neg hs, ComplexSqrt_of_neg hq, abs_of_neg hs, abs_of_neg hq, mul_inv,
    mul_assoc, mul_mul_mul_comm, inv_mul_cancel₀ Complex.I_ne_zero, one_mul]
  push_cast; ring

theorem eqMass_of_neg {s : ℝ} (hs : s < 0) (m1 m2 : ℝ) :
    EqualMassPhaseSpaceFactor s m1 m2
      = Complex.I * ((Real.pi⁻¹ : ℝ) : ℂ) * ((PhaseSpaceFactorAbs s m1 m2 : ℝ) : ℂ)
        * ((Real.log |(-1 + PhaseSpaceFactorAbs s m1 m2)⁻¹
            * (1 + PhaseSpaceFactorAbs s m1 m2)| : ℝ) : ℂ) := by
  unfold EqualMassPhaseSpaceFactor
  rw [if_pos hs]

theorem eqMass_of_above {s m1 m2 : ℝ} (h : (m1 + m2) ^ 2 < s) :
    EqualMassPhaseSpaceFactor s m1 m2
      = Complex.I * ((Real.pi⁻¹ : ℝ) : ℂ) * ((PhaseSpaceFactorAbs s m1 m2 : ℝ) : ℂ)
          * ((Real.log |(-1 + PhaseSpaceFactorAbs s m1 m2)⁻¹
              * (1 + PhaseSpaceFactorAbs s m1 m2)| : ℝ) : ℂ)
        + ((PhaseSpaceFactorAbs s m1 m2 : ℝ) : ℂ) := by
  unfold EqualMassPhaseSpaceFactor
  rw [if_neg (not_lt.mpr ((sq_nonneg _).trans h.le)), if_pos h]

theorem eqMass_of_le {s m1 m2 : ℝ} (hs : 0 ≤ s) (h : s ≤ (m1 + m2) ^ 2) :
    EqualMassPhaseSpaceFactor s m1 m2
      = ((2 : ℝ) : ℂ) * Complex.I * ((Real.pi⁻¹ : ℝ) : ℂ) * ((PhaseSpaceFactorAbs s m1 m2 : ℝ) : ℂ)
        * ((Real.arctan (PhaseSpaceFactorAbs s m1 m2)⁻¹ : ℝ) : ℂ) := by
  unfold EqualMassPhaseSpaceFactor
  rw [if_neg (not_lt.mpr hs), if_neg (not_lt.mpr h)]

theorem eqMass_at_threshold (m1 m2 : ℝ) :
    EqualMassPhaseSpaceFactor ((m1 + m2) ^ 2) m1 m2 = 0 := by
  rw [eqMass_of_le (sq_nonneg _) le_rfl, rhoAbs_at_threshold, Complex.ofReal_zero, mul_zero,
    zero_mul]

end Ampverif.Lemmas.C11
