/-
C03 — lemmas about the three-switch prefactor rule of `Model/C03ParityRule.lean`: under the sound
rule the factor is a product over the NODES of the chain (a list homomorphism: multiplicities count).
-/
import Ampverif.Lemmas.C03Parity
import Ampverif.Model.C03ParityRule

namespace Ampverif.Lemmas.C03Parity
open Ampverif.Model.C03

/-- with `perNode = true` the three-switch rule is the two-switch rule of `Model/C03Parity.lean`. -/
theorem prefactorR_perNode (r : Rule) (h : r.perNode = true) (f : Flags) (m : Mapping) (c : Chain) :
    prefactorR r f m c = prefactor r.v f m c := by
  unfold prefactorR
  simp [h]

theorem prefactorValR_sound (r : Rule) (hs : r.sound) (f : Flags) (m : Mapping) (c : Chain) :
    prefactorValR r f m c = flippedProduct f m c := by
  obtain ⟨hv, hp⟩ := hs
  unfold prefactorValR
  rw [prefactorR_perNode r hp]
  exact prefactorVal_sound r.v hv f m c

/-- the product is over the list of nodes: it is multiplicative under concatenation. -/
theorem flippedProduct_append (f : Flags) (m : Mapping) (c₁ c₂ : Chain) :
    flippedProduct f m (c₁ ++ c₂) = flippedProduct f m c₁ * flippedProduct f m c₂ := by
  simp only [flippedProduct_eq_prod, List.map_append, List.prod_append]

/-- a node that occurs `k` times contributes its factor `k` times. -/
theorem flippedProduct_replicate (f : Flags) (m : Mapping) (n : Node) (k : Nat) :
    flippedProduct f m (List.replicate k n) = nodeFactor f m n ^ k := by
  rw [flippedProduct_eq_prod, List.map_replicate, List.prod_replicate]

end Ampverif.Lemmas.C03Parity
