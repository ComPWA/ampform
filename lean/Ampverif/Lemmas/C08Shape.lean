/-
Every regenerated family of `Gen/C08.lean` ends in a 4×4 matrix literal (resp. a 4-vector literal) of named
entries. This file says what the entries of such a literal have to be for it to be one of the reference matrices
`boostEx`, `boostZEx`, `rotYEx`, `rotZEx`, `metricEx` at a given argument (products of two literals are taken
entry by entry with `mul_literal` of `Lemmas/C08Boost.lean`). A family then only supplies its radicand and a few scalar identities, or (wrapped momenta)
the value of its named argument vector; no matrix is taken apart entry by entry in the property file.
-/
import Ampverif.Gen.C08
import Ampverif.Lemmas.C08Boost
import Mathlib.Analysis.SpecialFunctions.Trigonometric.Basic

namespace Ampverif.Lemmas.C08
open Matrix Ampverif.Gen.C08

/- The metric contributes the literal coefficients `0`, `1`, `-1` to the named vectors `<family>_v<k>_<i>`;
with this arithmetic in the set, `simp only [c08_vectors]` evaluates a chain of space inversions. -/
attribute [c08_vectors] zero_mul one_mul mul_one add_zero zero_add neg_mul neg_neg

/-- Unfold the regenerated entry definitions (and the named intermediate vectors) and evaluate
`!![…] i j` / `![…] i` at literal indices. -/
macro "c08_unfold" : tactic =>
  `(tactic| simp only [c08_entries, c08_vectors, Matrix.of_apply, Matrix.cons_val', Matrix.cons_val_zero,
      Matrix.cons_val_one, Matrix.cons_val, Fin.zero_eta, Fin.mk_one, Fin.reduceFinMk, Fin.isValue])

/-- A symmetric literal whose entries have the shape of `BoostMatrix` in the components `v` of its argument,
with `r` for the radicand, is `boostEx` at `v`. -/
theorem boostEx_ext {v0 v1 v2 v3 r a b1 b2 b3 c11 c12 c13 c22 c23 c33 : ℝ}
    (hr : r = boostEx_rad v0 v1 v2 v3)
    (ha : a = (Real.sqrt r)⁻¹)
    (hb1 : b1 = -((Real.sqrt r)⁻¹ * v0⁻¹ * v1))
    (hb2 : b2 = -((Real.sqrt r)⁻¹ * v0⁻¹ * v2))
    (hb3 : b3 = -((Real.sqrt r)⁻¹ * v0⁻¹ * v3))
    (hc11 : c11 = 1 + (v1 ^ 2 + v2 ^ 2 + v3 ^ 2)⁻¹ * ((Real.sqrt r)⁻¹ - 1) * v1 ^ 2)
    (hc12 : c12 = (v1 ^ 2 + v2 ^ 2 + v3 ^ 2)⁻¹ * ((Real.sqrt r)⁻¹ - 1) * v1 * v2)
    (hc13 : c13 = (v1 ^ 2 + v2 ^ 2 + v3 ^ 2)⁻¹ * ((Real.sqrt r)⁻¹ - 1) * v1 * v3)
    (hc22 : c22 = 1 + (v1 ^ 2 + v2 ^ 2 + v3 ^ 2)⁻¹ * ((Real.sqrt r)⁻¹ - 1) * v2 ^ 2)
    (hc23 : c23 = (v1 ^ 2 + v2 ^ 2 + v3 ^ 2)⁻¹ * ((Real.sqrt r)⁻¹ - 1) * v2 * v3)
    (hc33 : c33 = 1 + (v1 ^ 2 + v2 ^ 2 + v3 ^ 2)⁻¹ * ((Real.sqrt r)⁻¹ - 1) * v3 ^ 2) :
    !![a, b1, b2, b3; b1, c11, c12, c13; b2, c12, c22, c23; b3, c13, c23, c33]
      = boostEx v0 v1 v2 v3 := by
  subst hr ha hb1 hb2 hb3 hc11 hc12 hc13 hc22 hc23 hc33
  ext i j
  fin_cases i <;> fin_cases j <;> c08_unfold <;> ring

/-- A family with a wrapped momentum is, by unfolding alone (`hM` is `rfl`, or `boostCode0_eq` at the
family's named argument vector `v`), a boost matrix at `v`; what is left is the value `w` of `v`. -/
theorem boostEx_congr {M : Matrix (Fin 4) (Fin 4) ℝ} {v0 v1 v2 v3 w0 w1 w2 w3 : ℝ}
    (hM : M = boostEx v0 v1 v2 v3) (h0 : v0 = w0) (h1 : v1 = w1) (h2 : v2 = w2) (h3 : v3 = w3) :
    M = boostEx w0 w1 w2 w3 := by
  rw [hM, h0, h1, h2, h3]

/-- The code printed with `cse=True` computes `γ` first, from its argument vector `v` as `boostCode1` does;
the subterms the other entries share vary from family to family and are compared as field expressions in
`γ` and `v`. A caller passes `hg` as `by rfl`: the tactic runs once the literal is known, so unifying it
with the `00` entry of the family finds `v`. -/
theorem boostCse_ext {v0 v1 v2 v3 w0 w1 w2 w3 g b1 b2 b3 c11 c12 c13 c22 c23 c33 : ℝ}
    (hg : g = 1 * (Real.sqrt (boostCode1_rad v0 v1 v2 v3))⁻¹)
    (hb1 : b1 = -(g * v0⁻¹ * v1))
    (hb2 : b2 = -(g * v0⁻¹ * v2))
    (hb3 : b3 = -(g * v0⁻¹ * v3))
    (hc11 : c11 = 1 + (v1 ^ 2 + v2 ^ 2 + v3 ^ 2)⁻¹ * (g - 1) * v1 ^ 2)
    (hc12 : c12 = (v1 ^ 2 + v2 ^ 2 + v3 ^ 2)⁻¹ * (g - 1) * v1 * v2)
    (hc13 : c13 = (v1 ^ 2 + v2 ^ 2 + v3 ^ 2)⁻¹ * (g - 1) * v1 * v3)
    (hc22 : c22 = 1 + (v1 ^ 2 + v2 ^ 2 + v3 ^ 2)⁻¹ * (g - 1) * v2 ^ 2)
    (hc23 : c23 = (v1 ^ 2 + v2 ^ 2 + v3 ^ 2)⁻¹ * (g - 1) * v2 * v3)
    (hc33 : c33 = 1 + (v1 ^ 2 + v2 ^ 2 + v3 ^ 2)⁻¹ * (g - 1) * v3 ^ 2)
    (h0 : v0 = w0) (h1 : v1 = w1) (h2 : v2 = w2) (h3 : v3 = w3) :
    !![g, b1, b2, b3; b1, c11, c12, c13; b2, c12, c22, c23; b3, c13, c23, c33]
      = boostEx w0 w1 w2 w3 := by
  refine boostEx_congr ?_ h0 h1 h2 h3
  apply boostEx_ext (r := boostCode1_rad v0 v1 v2 v3) (by unfold boostCode1_rad boostEx_rad; ring) <;>
    simp only [*] <;> ring

/-- The same for `BoostZMatrix(β)`: four entries carry the argument, the others are the literals `0`, `1`. -/
theorem boostZEx_ext {b β r g g' n n' : ℝ} (hb : b = β) (hr : r = boostZEx_rad β)
    (hg : g = (Real.sqrt r)⁻¹) (hn : n = -(b * (Real.sqrt r)⁻¹))
    (hn' : n' = -(b * (Real.sqrt r)⁻¹)) (hg' : g' = (Real.sqrt r)⁻¹) :
    !![g, 0, 0, n; 0, 1, 0, 0; 0, 0, 1, 0; n', 0, 0, g'] = boostZEx β := by
  subst hb hr hg hn hn' hg'
  ext i j
  fin_cases i <;> fin_cases j <;> c08_unfold

theorem rotYEx_ext {b a c s s' c' : ℝ} (hb : b = a) (hc : c = Real.cos b) (hs : s = Real.sin b)
    (hs' : s' = -Real.sin b) (hc' : c' = Real.cos b) :
    !![1, 0, 0, 0; 0, c, 0, s; 0, 0, 1, 0; 0, s', 0, c'] = rotYEx a := by
  subst hb hc hs hs' hc'
  ext i j
  fin_cases i <;> fin_cases j <;> c08_unfold

theorem rotZEx_ext {b a c s s' c' : ℝ} (hb : b = a) (hc : c = Real.cos b) (hs : s = -Real.sin b)
    (hs' : s' = Real.sin b) (hc' : c' = Real.cos b) :
    !![1, 0, 0, 0; 0, c, s, 0; 0, s', c', 0; 0, 0, 0, 1] = rotZEx a := by
  subst hb hc hs hs' hc'
  ext i j
  fin_cases i <;> fin_cases j <;> c08_unfold

theorem metricEx_ext {a b c : ℝ} (ha : a = -1) (hb : b = -1) (hc : c = -1) :
    !![1, 0, 0, 0; 0, a, 0, 0; 0, 0, b, 0; 0, 0, 0, c] = metricEx := by
  subst ha hb hc
  rfl

end Ampverif.Lemmas.C08
