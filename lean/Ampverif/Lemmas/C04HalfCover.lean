/-
C04, layer (I), J = 1/2, continued.
* the atan2 branch cut: `Phi = atan2(p_y, p_x)` jumps from φ (just above the negative x axis) to −φ
  (just below); the continuous continuation would be 2π − φ; D^{1/2} at these two values of the
  same direction differs by a SIGN (`branch_cut_sign_half`), D¹ does not (`branch_cut_no_sign_one`).
  This is the mechanism of the known finding "axis-angle alignment with half-integer spins".
* the covering SU(2) → SO(3) on the regenerated matrices (`adj_Dh`) and the homomorphism property of
  SymPy's D^{1/2} UP TO A SIGN (`Dh_mul_sign`).
-/
import Ampverif.Lemmas.C04Half
import Mathlib.LinearAlgebra.Matrix.Determinant.Basic

namespace Ampverif.Lemmas.C04
open Matrix Ampverif.Gen.C04

theorem PhiOf_on_cut : PhiOf (-1) 0 = Real.pi := by
  unfold PhiOf
  have : (⟨-1, 0⟩ : ℂ) = -1 := by apply Complex.ext <;> simp
  rw [this, Complex.arg_neg_one]

theorem arg_above_cut_ne_pi (y : ℝ) (hy : 0 < y) : Complex.arg ⟨-1, y⟩ ≠ Real.pi := by
  rw [Ne, Complex.arg_eq_pi_iff]
  exact fun h => hy.ne' h.2

theorem PhiOf_below_cut (y : ℝ) (hy : 0 < y) : PhiOf (-1) (-y) = -PhiOf (-1) y := by
  unfold PhiOf
  have hc : (⟨-1, -y⟩ : ℂ) = (starRingEnd ℂ) ⟨-1, y⟩ := by apply Complex.ext <;> simp
  rw [hc, Complex.arg_conj, if_neg (arg_above_cut_ne_pi y hy)]

theorem PhiOf_above_cut (y : ℝ) (hy : 0 < y) : Real.pi / 2 < PhiOf (-1) y ∧ PhiOf (-1) y < Real.pi := by
  unfold PhiOf
  constructor
  · by_contra h
    rw [not_lt, Complex.arg_le_pi_div_two_iff] at h
    rcases h with h | h
    · simp at h; linarith
    · simp at h; linarith
  · exact lt_of_le_of_ne (Complex.arg_le_pi _) (arg_above_cut_ne_pi y hy)

/-- Crossing the cut: just above the negative x axis `atan2` gives φ (close to π), just below it
gives −φ, whereas the continuous continuation is 2π − φ. Both describe the same direction, but for
spin 1/2 the two choices differ by a SIGN … -/
theorem branch_cut_sign_half (φ β γ : ℝ) : Dh (-φ) β γ = -Dh (2 * Real.pi - φ) β γ := by
  rw [show 2 * Real.pi - φ = -φ + 2 * Real.pi by ring, Dh_two_pi, neg_neg]

/-- … and for spin 1 they do not. -/
theorem branch_cut_no_sign_one (φ β γ : ℝ) : D1 (-φ) β γ = D1 (2 * Real.pi - φ) β γ := by
  rw [show 2 * Real.pi - φ = -φ + 2 * Real.pi by ring, D1_two_pi]

/-- `v·σ` (Pauli matrices) -/
def pauli (v : Fin 3 → ℝ) : Matrix (Fin 2) (Fin 2) ℂ :=
  !![(v 2 : ℂ), (v 0 : ℂ) - Complex.I * (v 1 : ℂ); (v 0 : ℂ) + Complex.I * (v 1 : ℂ), -(v 2 : ℂ)]

theorem pauli_vec (x y z : ℝ) :
    pauli ![x, y, z] = !![(z : ℂ), (x : ℂ) - Complex.I * y; (x : ℂ) + Complex.I * y, -(z : ℂ)] := rfl

theorem ce_eq (x : ℝ) : ce x = (Real.cos x : ℂ) + (Real.sin x : ℂ) * Complex.I := cexp_mul_I x

theorem ce_mul_neg (x : ℝ) : ce x * ce (-x) = 1 := by rw [ce_add, add_neg_cancel, ce_zero]

theorem diag_conj (p q x y z t : ℂ) :
    !![p, 0; 0, q] * !![z, x; y, t] * !![q, 0; 0, p] = !![p * q * z, p * p * x; q * q * y, p * q * t] := by
  rw [Matrix.mul_fin_two, Matrix.mul_fin_two]
  refine mat2_congr ?_ ?_ ?_ ?_ <;> ring

/-- `uz(a) (v·σ) uz(a)† = (Rz(a) v)·σ`: the off-diagonal entries `v₀ ∓ i v₁` are multiplied by
`e^{∓ia}` -/
theorem adj_uz (a : ℝ) (v : Fin 3 → ℝ) : uz a * pauli v * (uz a)ᴴ = pauli (Rz3 a *ᵥ v) := by
  have e1 : ce (-a / 2) * ce (-a / 2) = ce (-a) := by rw [ce_add, add_halves]
  have e2 : ce (a / 2) * ce (a / 2) = ce a := by rw [ce_add, add_halves]
  have e3 : ce (-a / 2) * ce (a / 2) = 1 := by rw [ce_add, neg_div, neg_add_cancel, ce_zero]
  rw [uz_conjTranspose, uz, uz, neg_neg, pauli, diag_conj, e1, e2, e3, Rz3_mulVec, pauli_vec, ce_eq, ce_eq,
    Real.cos_neg, Real.sin_neg]
  push_cast
  refine mat2_congr (one_mul _) ?_ ?_ (one_mul _) <;>
    linear_combination ((v 1 : ℂ) * Complex.sin a) * Complex.I_mul_I

/-- conjugation of `v·σ` (entries `z`, `x ∓ iy`) by the plane rotation with cosine `c` and sine `s`:
the double-angle rotation of `(z, x)` -/
theorem rot_conj (c s x y z : ℂ) (h : c * c + s * s = 1) :
    !![c, -s; s, c] * !![z, x - Complex.I * y; x + Complex.I * y, -z] * !![c, s; -s, c]
      = !![(c * c - s * s) * z - 2 * s * c * x, ((c * c - s * s) * x + 2 * s * c * z) - Complex.I * y;
           ((c * c - s * s) * x + 2 * s * c * z) + Complex.I * y, -((c * c - s * s) * z - 2 * s * c * x)] := by
  rw [Matrix.mul_fin_two, Matrix.mul_fin_two]
  refine mat2_congr ?_ ?_ ?_ ?_
  · ring
  · linear_combination (-(Complex.I * y)) * h
  · linear_combination (Complex.I * y) * h
  · ring

/-- `uy(b) (v·σ) uy(b)† = (Ry(b) v)·σ` -/
theorem adj_uy (b : ℝ) (v : Fin 3 → ℝ) : uy b * pauli v * (uy b)ᴴ = pauli (Ry3 b *ᵥ v) := by
  have hc : Real.cos b = Real.cos (b / 2) * Real.cos (b / 2) - Real.sin (b / 2) * Real.sin (b / 2) := by
    rw [← Real.cos_add, add_halves]
  have hs : Real.sin b = 2 * Real.sin (b / 2) * Real.cos (b / 2) := by
    rw [← Real.sin_two_mul, mul_div_cancel₀ b two_ne_zero]
  have h1 : ((Real.cos (b / 2) : ℝ) : ℂ) * (Real.cos (b / 2) : ℝ)
      + ((Real.sin (b / 2) : ℝ) : ℂ) * (Real.sin (b / 2) : ℝ) = 1 := by
    rw [← sq, ← sq]
    exact_mod_cast Real.cos_sq_add_sin_sq (b / 2)
  rw [uy_conjTranspose, uy, uy, neg_div, Real.cos_neg, Real.sin_neg, Complex.ofReal_neg, neg_neg, pauli,
    rot_conj _ _ _ _ _ h1, Ry3_mulVec, pauli_vec, hc, hs]
  push_cast
  refine mat2_congr ?_ ?_ ?_ ?_ <;> ring

/-- the adjoint action of SymPy's D^{1/2}(α,β,γ) on `v·σ` is the Euler rotation `Rz(α)Ry(β)Rz(γ)`:
the two-to-one covering SU(2) → SO(3) on the regenerated matrices -/
theorem adj_Dh (α β γ : ℝ) (v : Fin 3 → ℝ) :
    Dh α β γ * pauli v * (Dh α β γ)ᴴ = pauli (euler α β γ *ᵥ v) := by
  rw [Dh_factor, Matrix.conjTranspose_mul, Matrix.conjTranspose_mul, euler, ← Matrix.mulVec_mulVec,
    ← Matrix.mulVec_mulVec, ← adj_uz, ← adj_uy, ← adj_uz]
  simp only [Matrix.mul_assoc]

theorem det_uz (a : ℝ) : (uz a).det = 1 := by
  rw [uz, Matrix.det_fin_two_of, mul_zero, sub_zero, ce_add, neg_div, neg_add_cancel, ce_zero]

theorem det_uy (b : ℝ) : (uy b).det = 1 := by
  rw [uy, Matrix.det_fin_two_of, neg_mul, sub_neg_eq_add, ← sq, ← sq]
  exact_mod_cast Real.cos_sq_add_sin_sq (b / 2)

theorem det_Dh (α β γ : ℝ) : (Dh α β γ).det = 1 := by
  rw [Dh_factor, Matrix.det_mul, Matrix.det_mul, det_uz, det_uy, det_uz]; ring

/-- a 2×2 matrix commuting with every `v·σ` is a multiple of the identity -/
theorem scalar_of_commute (V : Matrix (Fin 2) (Fin 2) ℂ) (h : ∀ v, V * pauli v = pauli v * V) :
    V = V 0 0 • (1 : Matrix (Fin 2) (Fin 2) ℂ) := by
  have hz := h ![0, 0, 1]
  have hx := h ![1, 0, 0]
  have z01 := congrFun (congrFun hz 0) 1
  have z10 := congrFun (congrFun hz 1) 0
  have x01 := congrFun (congrFun hx 0) 1
  simp [pauli, Matrix.mul_apply, Fin.sum_univ_two] at z01 z10 x01
  have e01 : V 0 1 = 0 := by linear_combination (-(1 : ℂ) / 2) * z01
  have e10 : V 1 0 = 0 := by linear_combination ((1 : ℂ) / 2) * z10
  ext i j
  fin_cases i <;> fin_cases j <;> simp [e01, e10, x01]

/-- HOMOMORPHISM UP TO THE SU(2) SIGN: whenever the Euler rotations compose,
`Rz(α)Ry(β)Rz(γ) · Rz(α')Ry(β')Rz(γ') = Rz(α'')Ry(β'')Rz(γ'')`, SymPy's D^{1/2} matrices compose up
to a sign. -/
theorem Dh_mul_sign (α β γ α' β' γ' α'' β'' γ'' : ℝ)
    (h : euler α β γ * euler α' β' γ' = euler α'' β'' γ'') :
    Dh α β γ * Dh α' β' γ' = Dh α'' β'' γ'' ∨ Dh α β γ * Dh α' β' γ' = -Dh α'' β'' γ'' := by
  set U := Dh α β γ * Dh α' β' γ' with hU
  set W := Dh α'' β'' γ'' with hW
  have uU : Uᴴ * U = 1 := by
    rw [hU, Matrix.conjTranspose_mul]
    calc (Dh α' β' γ')ᴴ * (Dh α β γ)ᴴ * (Dh α β γ * Dh α' β' γ')
        = (Dh α' β' γ')ᴴ * ((Dh α β γ)ᴴ * Dh α β γ) * Dh α' β' γ' := by simp only [Matrix.mul_assoc]
      _ = 1 := by rw [Dh_unitary, Matrix.mul_one, Dh_unitary]
  have uW : Wᴴ * W = 1 := Dh_unitary _ _ _
  have uW' : W * Wᴴ = 1 := mul_eq_one_comm.mp uW
  have hadj : ∀ v, U * pauli v * Uᴴ = W * pauli v * Wᴴ := by
    intro v
    rw [hW, adj_Dh, ← h, ← Matrix.mulVec_mulVec, ← adj_Dh, ← adj_Dh, hU, Matrix.conjTranspose_mul]
    simp only [Matrix.mul_assoc]
  have hcomm : ∀ v, (Wᴴ * U) * pauli v = pauli v * (Wᴴ * U) := by
    intro v
    have : Wᴴ * (U * pauli v * Uᴴ) * U = Wᴴ * (W * pauli v * Wᴴ) * U := by rw [hadj v]
    calc Wᴴ * U * pauli v = Wᴴ * (U * pauli v * Uᴴ) * U := by
          simp only [Matrix.mul_assoc]; rw [uU, Matrix.mul_one]
      _ = Wᴴ * (W * pauli v * Wᴴ) * U := this
      _ = pauli v * (Wᴴ * U) := by
          simp only [← Matrix.mul_assoc]; rw [uW, Matrix.one_mul]
  have hs := scalar_of_commute _ hcomm
  set lam := (Wᴴ * U) 0 0 with hl
  have hdet : (Wᴴ * U).det = 1 := by
    have dW : W.det = 1 := det_Dh _ _ _
    have dU : U.det = 1 := by rw [hU, Matrix.det_mul, det_Dh, det_Dh, one_mul]
    rw [Matrix.det_mul, Matrix.det_conjTranspose, dW, dU]; simp
  have hl2 : lam * lam = 1 := by
    rw [hs, Matrix.det_smul, Matrix.det_one] at hdet
    simpa [pow_two] using hdet
  have hUW : U = lam • W := by
    calc U = W * (Wᴴ * U) := by rw [← Matrix.mul_assoc, uW', Matrix.one_mul]
      _ = lam • W := by rw [hs, Matrix.mul_smul, Matrix.mul_one]
  rcases mul_self_eq_one_iff.mp hl2 with h1 | h1
  · left; rw [hUW, h1, one_smul]
  · right; rw [hUW, h1, neg_one_smul]

end Ampverif.Lemmas.C04
