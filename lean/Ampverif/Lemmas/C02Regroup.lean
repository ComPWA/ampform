/-
C02 — the regrouping argument: the builder's (spin group × topology × own projection) cells,
written into a last-writer-wins dict and read back through the PoolSum, add up to the helicity
formula's "all graphs with these outer projections".
-/
import Ampverif.Lemmas.C02Denote

namespace Ampverif.Lemmas.C02Regroup
open Ampverif.Model.C03 Ampverif.Model.C02 Ampverif.Lemmas.C02Lists Ampverif.Lemmas.C02Denote

variable {R : Type} [CommRing R]

structure WF (ts : List Transition) : Prop where
  isobar : ∀ t ∈ ts, ∀ g ∈ t.symmetrise, g.isobar = true
  base : ∀ a ∈ ts, ∀ b ∈ ts, (a.baseName = b.baseName ↔ a.topo = b.topo)
  key : ∀ a ∈ ts, ∀ b ∈ ts, a.spinKey ≠ b.spinKey →
    ∀ g ∈ a.symmetrise, ∀ g' ∈ b.symmetrise, g.outer ≠ g'.outer

theorem wf_of_check (ts : List Transition) (h : wellFormed ts = true) : WF ts := by
  rw [wellFormed, Bool.and_eq_true, List.all_eq_true, List.all_eq_true] at h
  refine ⟨fun t ht g hg => List.all_eq_true.mp (h.1 t ht) g hg, fun a ha b hb => ?_,
    fun a ha b hb hne g hg g' hg' => ?_⟩
  all_goals
    have hab := List.all_eq_true.mp (h.2 a ha) b hb
    rw [Bool.and_eq_true] at hab
  · exact decide_eq_decide.mp (eq_of_beq hab.1)
  · rcases Bool.or_eq_true_iff.mp hab.2 with e | e
    · exact absurd (of_decide_eq_true e) hne
    · have := List.all_eq_true.mp (List.all_eq_true.mp e g hg) g' hg'
      exact of_decide_eq_false ((Bool.not_eq_true' _).mp this)

variable (ι : Interp R) (v : Variant) (cfg : Config) (m : Mapping) (sel : List DecayKey)

/-- coherent contribution of transition `t` (all its symmetrised graphs) to configuration `h`. -/
def gval (h : List Int) (t : Transition) : R :=
  denTerms ι ((t.symmetrise.filter fun g => g.outer = h).map (Transition.term v cfg m sel))

theorem denTerms_graphs_filter (h : List Int) (c : List Transition) :
    denTerms ι (((graphsOf c).filter fun g => g.outer = h).map (Transition.term v cfg m sel))
      = (c.map (gval ι v cfg m sel h)).sum := by
  unfold graphsOf gval denTerms
  rw [List.filter_flatMap, List.map_flatMap, sum_flatMap]

/-- reading the `byProjection` entries at `h` gives exactly the graphs with outer projections `h`. -/
theorem sum_byProjection (h : List Int) (gs : List Transition) :
    ((byProjection v cfg m sel gs).map fun e => if e.1 = h then denTerms ι e.2 else 0).sum
      = denTerms ι ((gs.filter fun g => g.outer = h).map (Transition.term v cfg m sel)) := by
  have hnone : h ∉ dedupFirst (gs.map Transition.outer) →
      denTerms ι ((gs.filter fun g => g.outer = h).map (Transition.term v cfg m sel)) = 0 := by
    intro hm
    have hnil : (gs.filter fun g => g.outer = h) = [] := List.filter_eq_nil_iff.mpr fun g hg e =>
      hm ((mem_dedupFirst _ _).mpr (of_decide_eq_true e ▸ List.mem_map_of_mem hg))
    rw [hnil]
    rfl
  rw [byProjection, List.map_map]
  exact sum_ite_eq_apply (nodup_dedupFirst _) h _ hnone

def symOf (w : AmpDef) : String × List Int := (w.base, w.idx)

/-- summing the looked-up amplitudes over the bases picks every write with index `h` once. -/
theorem sum_bases (ws : List AmpDef) (bases : List String) (h : List Int)
    (hws : (ws.map symOf).Nodup) (hb : bases.Nodup) (hmem : ∀ w ∈ ws, w.base ∈ bases) :
    (bases.map fun b => denTerms ι (lookupLast ws b h)).sum
      = (ws.map fun w => if w.idx = h then denTerms ι w.terms else 0).sum := by
  let F : Option AmpDef → R := fun o => denTerms ι (match o with | some w => w.terms | none => [])
  have hlook : (bases.map fun b => denTerms ι (lookupLast ws b h))
      = (bases.map fun b => (b, h)).map fun q => F (ws.reverse.find? fun w => symOf w = q) := by
    rw [List.map_map]
    refine List.map_congr_left fun b _ => ?_
    have : (fun w : AmpDef => decide (w.base = b ∧ w.idx = h)) = fun w => decide (symOf w = (b, h)) :=
      funext fun w => decide_eq_decide.mpr (by rw [symOf, Prod.mk.injEq])
    rw [lookupLast, this]
    rfl
  have hq : (bases.map fun b => (b, h)).Nodup := hb.map fun _ _ e => congrArg Prod.fst e
  rw [hlook, sum_find? symOf F rfl hq _ (by rw [List.map_reverse]; exact List.nodup_reverse.mpr hws),
    List.map_reverse, List.sum_reverse]
  refine congrArg List.sum (List.map_congr_left fun w hw => ite_congr ?_ (fun _ => rfl) (fun _ => rfl))
  rw [List.mem_map]
  exact propext ⟨fun ⟨b, _, e⟩ => (congrArg Prod.snd e).symm, fun e => ⟨w.base, hmem w hw, by rw [symOf, e]⟩⟩

theorem mem_cellWrites (c : List Transition) (w : AmpDef) (hw : w ∈ cellWrites v true cfg m sel c) :
    w.base = (c.headD default).baseName ∧ ∃ t ∈ c, ∃ g ∈ t.symmetrise, w.idx = g.outer := by
  rw [cellWrites, if_pos rfl, byProjection, List.map_map] at hw
  obtain ⟨h', hh', rfl⟩ := List.mem_map.mp hw
  obtain ⟨g, hg, rfl⟩ := List.mem_map.mp ((mem_dedupFirst _ _).mp hh')
  obtain ⟨t, ht, hgt⟩ := List.mem_flatMap.mp hg
  exact ⟨rfl, t, ht, g, hgt, rfl⟩

theorem cellWrites_syms_nodup (c : List Transition) :
    ((cellWrites v true cfg m sel c).map symOf).Nodup := by
  rw [cellWrites, if_pos rfl, byProjection, List.map_map, List.map_map]
  exact (nodup_dedupFirst _).map fun a b e => congrArg Prod.snd e

/-- all writes of the repaired builder. -/
def writesOf (ts : List Transition) : List AmpDef :=
  (cellsOf ts).flatMap fun g => g.flatMap (cellWrites v true cfg m sel)

def basesOf (ts : List Transition) : List String :=
  (groupByFirst Transition.topo ts).map fun c => (c.headD default).baseName

theorem impl_writes (ts : List Transition) :
    (impl v true cfg ts).writes
      = writesOf v cfg (registerAll cfg.flags (ts.map Transition.chain)) (selectorKeys ts) ts := rfl

theorem impl_bases (own : Bool) (ts : List Transition) :
    (impl v own cfg ts).bases = basesOf ts := rfl

theorem impl_compA (own : Bool) (ts : List Transition) :
    (impl v own cfg ts).compA = (cellsOf ts).flatMap fun g => g.flatMap fun c => c.flatMap fun t =>
      t.symmetrise.map fun gr => ("A_{" ++ gr.amplitudeName cfg ++ "}",
        gr.term v cfg (registerAll cfg.flags (ts.map Transition.chain)) (selectorKeys ts)) := rfl

/-- a cell of the builder: its members are transitions of `ts` with one spin key and one topology;
its head is a member. -/
theorem of_mem_cellsOf (ts : List Transition) (g : List (List Transition)) (hg : g ∈ cellsOf ts)
    (c : List Transition) (hc : c ∈ g) :
    (∀ t ∈ c, t ∈ ts) ∧ c.headD default ∈ c
      ∧ (∀ t ∈ c, t.spinKey = (c.headD default).spinKey) ∧ (∀ t ∈ c, t.topo = (c.headD default).topo) := by
  obtain ⟨G, hG, rfl⟩ := List.mem_map.mp hg
  have hhead := headD_mem_cell hc
  exact ⟨fun t ht => mem_of_mem_cell hG (mem_of_mem_cell hc ht), hhead,
    fun t ht => key_eq_of_mem_cell hG (mem_of_mem_cell hc ht) (mem_of_mem_cell hc hhead),
    fun t ht => key_eq_of_mem_cell hc ht hhead⟩

/-- the heads of different topology cells of a sublist of `ts` have different amplitude bases. -/
theorem heads_base_ne (ts : List Transition) (wf : WF ts) (G : List Transition) (hG : ∀ t ∈ G, t ∈ ts) :
    (groupByFirst Transition.topo G).Pairwise fun c c' =>
      (c.headD default).baseName ≠ (c'.headD default).baseName := by
  refine (groupByFirst_pairwise Transition.topo G).imp_of_mem fun {c c'} hc hc' hne e => ?_
  have hh := headD_mem_cell hc
  have hh' := headD_mem_cell hc'
  exact hne _ hh _ hh' ((wf.base _ (hG _ (mem_of_mem_cell hc hh)) _ (hG _ (mem_of_mem_cell hc' hh'))).mp e)

theorem basesOf_nodup (ts : List Transition) (wf : WF ts) : (basesOf ts).Nodup :=
  List.pairwise_map.mpr (heads_base_ne ts wf ts fun _ ht => ht)

theorem base_mem_basesOf (ts : List Transition) (wf : WF ts) (t : Transition) (ht : t ∈ ts) :
    t.baseName ∈ basesOf ts := by
  obtain ⟨c, hc, htc⟩ := exists_cell_of_mem Transition.topo ht
  have hh := headD_mem_cell hc
  exact List.mem_map.mpr
    ⟨c, hc, (wf.base _ (mem_of_mem_cell hc hh) _ ht).mpr (key_eq_of_mem_cell hc hh htc)⟩

theorem writes_base_mem (ts : List Transition) (wf : WF ts) (w : AmpDef)
    (hw : w ∈ writesOf v cfg m sel ts) : w.base ∈ basesOf ts := by
  obtain ⟨g, hg, hw⟩ := List.mem_flatMap.mp hw
  obtain ⟨c, hc, hw⟩ := List.mem_flatMap.mp hw
  have cf := of_mem_cellsOf ts g hg c hc
  rw [(mem_cellWrites v cfg m sel c w hw).1]
  exact base_mem_basesOf ts wf _ (cf.1 _ cf.2.1)

theorem writes_syms_nodup (ts : List Transition) (wf : WF ts) :
    ((writesOf v cfg m sel ts).map symOf).Nodup := by
  rw [writesOf, List.map_flatMap, List.nodup_flatMap, cellsOf, List.pairwise_map]
  constructor
  · -- inside one spin group: different topology cells write different bases
    intro g hg
    obtain ⟨G, hG, rfl⟩ := List.mem_map.mp hg
    rw [List.map_flatMap, List.nodup_flatMap]
    refine ⟨fun c _ => cellWrites_syms_nodup v cfg m sel c, ?_⟩
    refine (heads_base_ne ts wf G fun _ => mem_of_mem_cell hG).imp fun {c c'} hne s hs hs' => ?_
    obtain ⟨w, hw, rfl⟩ := List.mem_map.mp hs
    obtain ⟨w', hw', e⟩ := List.mem_map.mp hs'
    rw [← (mem_cellWrites v cfg m sel c w hw).1, ← (mem_cellWrites v cfg m sel c' w' hw').1] at hne
    exact hne (congrArg Prod.fst e).symm
  · -- different spin groups write different outer projections
    refine (groupByFirst_pairwise Transition.spinKey ts).imp_of_mem fun {G G'} hG hG' hne s hs hs' => ?_
    obtain ⟨w, hw, rfl⟩ := List.mem_map.mp hs
    obtain ⟨w', hw', e⟩ := List.mem_map.mp hs'
    obtain ⟨c, hc, hwc⟩ := List.mem_flatMap.mp hw
    obtain ⟨c', hc', hwc'⟩ := List.mem_flatMap.mp hw'
    obtain ⟨_, t, ht, gr, hgr, hi⟩ := mem_cellWrites v cfg m sel c w hwc
    obtain ⟨_, t', ht', gr', hgr', hi'⟩ := mem_cellWrites v cfg m sel c' w' hwc'
    have htG := mem_of_mem_cell hc ht
    have htG' := mem_of_mem_cell hc' ht'
    refine wf.key t (mem_of_mem_cell hG htG) t' (mem_of_mem_cell hG' htG') (hne t htG t' htG')
      gr hgr gr' hgr' ?_
    rw [← hi, ← hi']
    exact (congrArg Prod.snd e).symm

theorem sum_cellWrites (h : List Int) (c : List Transition) :
    ((cellWrites v true cfg m sel c).map fun w => if w.idx = h then denTerms ι w.terms else 0).sum
      = denTerms ι (((graphsOf c).filter fun g => g.outer = h).map (Transition.term v cfg m sel)) := by
  rw [cellWrites, if_pos rfl, List.map_map]
  exact sum_byProjection ι v cfg m sel h (graphsOf c)

theorem sum_writes (h : List Int) (ts : List Transition) :
    ((writesOf v cfg m sel ts).map fun w => if w.idx = h then denTerms ι w.terms else 0).sum
      = denTerms ι (((graphsOf ts).filter fun g => g.outer = h).map (Transition.term v cfg m sel)) := by
  rw [writesOf, sum_flatMap, denTerms_graphs_filter]
  simp only [sum_flatMap, sum_cellWrites, denTerms_graphs_filter]
  rw [cellsOf, List.map_map]
  simp only [Function.comp_def, sum_groupByFirst]

/-- the graphs the formula sums coherently at `h` carry the terms the builder writes for the graphs
with outer projections `h`. -/
theorem spec_graphs_at (h : List Int) (ts : List Transition) (wf : WF ts) :
    ((spec v cfg ts).graphs.filter fun g => g.1 = h).map (·.2)
      = ((graphsOf ts).filter fun g => g.outer = h).map
          (Transition.term v cfg (registerAll cfg.flags (ts.map Transition.chain)) (selectorKeys ts)) := by
  have hgraphs : (spec v cfg ts).graphs = (graphsOf ts).map fun g =>
      (g.outer, g.specTerm v cfg (registerAll cfg.flags (ts.map Transition.chain))) :=
    List.map_flatMap.symm
  rw [hgraphs, List.filter_map, List.map_map]
  refine (map_term_eq_specTerm v cfg _ _ _ (fun g hg => ?_) (fun g hg => ?_)).symm
  all_goals
    obtain ⟨t, ht, hgt⟩ := List.mem_flatMap.mp (List.mem_filter.mp hg).1
  · exact wf.isobar t ht g hgt
  · exact mem_selectorKeys ts t ht g hgt

end Ampverif.Lemmas.C02Regroup
