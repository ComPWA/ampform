/-
C01: the two name classes are disjoint; every kinematic symbol a node of a tree uses is registered by
the adapter for that tree, and every adapter key is a kinematic-variable name.
-/
import Ampverif.Lemmas.C01Lists

namespace Ampverif.Model.C01

/-- a parameter name has `{` as third character, or starts with `\G` -/
theorem isParamName_shape (n : Name) (h : isParamName n = true) :
    n[2]? = some 123 ∨ n[1]? = some 71 := by
  unfold isParamName at h
  split at h
  -- one goal per arm of `isParamName`: the five `x_{`, then `\Gamma_{`, then the rest
  iterate 5 exact .inl rfl
  · exact .inr rfl
  · cases h

/-- a kinematic-variable name has neither -/
theorem isKinName_shape (n : Name) (h : isKinName n = true) :
    n[2]? ≠ some 123 ∧ n[1]? ≠ some 71 := by
  unfold isKinName at h
  split at h
  -- one goal per arm of `isKinName`: `phi_`, `theta_`, then `m_<digit>`, then the four Greek prefixes, the rest
  iterate 2 exact ⟨nofun, nofun⟩
  · refine ⟨?_, nofun⟩
    simp only [isDigit, Bool.and_eq_true, decide_eq_true_eq] at h
    simp only [List.getElem?_cons_succ, List.getElem?_cons_zero, ne_eq, Option.some.injEq]
    omega
  iterate 4 exact ⟨nofun, nofun⟩
  · cases h

theorem classes_disjoint (n : Name) : ¬ (isParamName n = true ∧ isKinName n = true) := by
  intro ⟨h1, h2⟩
  have hk := isKinName_shape n h2
  rcases isParamName_shape n h1 with h | h
  · exact hk.1 h
  · exact hk.2 h

theorem phiSym_isKin (c : Tree) (anc : List Name) : isKinName (phiSym c anc) = true := rfl

theorem thetaSym_isKin (c : Tree) (anc : List Name) : isKinName (thetaSym c anc) = true := rfl

theorem leaves_ne_nil (t : Tree) : t.leaves ≠ [] := by
  induction t with
  | leaf e => simp [Tree.leaves]
  | node e n l r ihl _ => simp [Tree.leaves, ihl]

theorem leaves_nonneg (t : Tree) (h : t.wf = true) : ∀ i ∈ t.leaves, 0 ≤ i := by
  induction t with
  | leaf e => simp [Tree.leaves, Tree.wf] at *; exact h
  | node e n l r ihl ihr =>
    simp only [Tree.wf, Bool.and_eq_true] at h
    intro i hi
    simp only [Tree.leaves, List.mem_append] at hi
    rcases hi with hi | hi
    · exact ihl h.1.1 i hi
    · exact ihr h.1.2 i hi

theorem label_head (t : Tree) (h : t.wf = true) : ∃ c rest, label t = c :: rest ∧ isDigit c = true := by
  apply digitsOf_head
  · exact sortBy_ne_nil _ _ (leaves_ne_nil t)
  · intro i hi
    exact leaves_nonneg t h i ((mem_sortBy _ _ _).1 hi)

theorem massSym_isKin (t : Tree) (h : t.wf = true) : isKinName (massSym t) = true := by
  obtain ⟨c, rest, hc, hd⟩ := label_head t h
  simp [massSym, hc, isKinName, hd]

theorem subtrees_wf (t : Tree) (h : t.wf = true) : ∀ s ∈ t.subtrees, s.wf = true := by
  induction t with
  | leaf e => intro s hs; simp [Tree.subtrees] at hs; subst hs; exact h
  | node e n l r ihl ihr =>
    intro s hs
    simp only [Tree.subtrees, List.mem_cons, List.mem_append] at hs
    have h' := h
    simp only [Tree.wf, Bool.and_eq_true] at h'
    rcases hs with hs | hs | hs
    · subst hs; exact h
    · exact ihl h'.1.1 s hs
    · exact ihr h'.1.2 s hs

theorem self_mem_subtrees (t : Tree) : t ∈ t.subtrees := by
  cases t <;> simp [Tree.subtrees]

theorem subtrees_left (e : Int) (n : Nat) (l r : Tree) {s : Tree} (h : s ∈ l.subtrees) :
    s ∈ (Tree.node e n l r).subtrees :=
  List.mem_cons_of_mem _ (List.mem_append_left _ h)

theorem subtrees_right (e : Int) (n : Nat) (l r : Tree) {s : Tree} (h : s ∈ r.subtrees) :
    s ∈ (Tree.node e n l r).subtrees :=
  List.mem_cons_of_mem _ (List.mem_append_right _ h)

theorem nodeInfos_spec (t : Tree) (b : Bool) (anc : List Name) :
    ∀ ni ∈ nodeInfos t b anc,
      ni.self ∈ t.subtrees ∧ ni.l ∈ t.subtrees ∧ ni.r ∈ t.subtrees ∧
      ni.self = Tree.node ni.self.edge ni.nid ni.l ni.r := by
  induction t generalizing b anc with
  | leaf e => intro ni h; cases h
  | node e n l r ihl ihr =>
    intro ni h
    simp only [nodeInfos, List.mem_cons, List.mem_append] at h
    rcases h with rfl | h | h
    · exact ⟨self_mem_subtrees _, subtrees_left e n l r (self_mem_subtrees l),
        subtrees_right e n l r (self_mem_subtrees r), rfl⟩
    · obtain ⟨h1, h2, h3, h4⟩ := ihl _ _ ni h
      exact ⟨subtrees_left e n l r h1, subtrees_left e n l r h2, subtrees_left e n l r h3, h4⟩
    · obtain ⟨h1, h2, h3, h4⟩ := ihr _ _ ni h
      exact ⟨subtrees_right e n l r h1, subtrees_right e n l r h2, subtrees_right e n l r h3, h4⟩

theorem infos_distinct (t : Tree) (h : t.wf = true) (ni : NodeInfo) (hni : ni ∈ t.infos) :
    attached ni.l ≠ attached ni.r := by
  obtain ⟨h1, _, _, h4⟩ := nodeInfos_spec t true [] ni hni
  have hw := subtrees_wf t h _ h1
  rw [h4] at hw
  simp only [Tree.wf, Bool.and_eq_true, decide_eq_true_eq] at hw
  exact hw.2

theorem c1_mem_walkStates (ni : NodeInfo) (h : attached ni.l ≠ attached ni.r) : ni.c1 ∈ ni.walkStates := by
  unfold NodeInfo.walkStates NodeInfo.c1
  by_cases hl : ni.l.isLeaf = true
  · by_cases hr : ni.r.isLeaf = true
    · simp [hl, hr]
    · have hopp : opposite ni.r ni.l = !opposite ni.l ni.r := by
        unfold opposite
        exact lexLtInt_swap _ _ h
      simp only [hl, hr, Bool.and_false, Bool.false_eq_true, if_false, if_true, List.nil_append, List.append_nil,
        List.mem_singleton, hopp]
      cases opposite ni.l ni.r <;> simp
  · simp [hl]

theorem massSym_mem_adapterKeysOf (t s : Tree) (h : s ∈ t.subtrees) : massSym s ∈ adapterKeysOf t :=
  List.mem_append_right _ (List.mem_map.2 ⟨s, h, rfl⟩)

theorem angles_mem_adapterKeysOf (t : Tree) (ni : NodeInfo) (hni : ni ∈ t.infos) (c : Tree)
    (hc : c ∈ ni.walkStates) : phiSym c ni.anc ∈ adapterKeysOf t ∧ thetaSym c ni.anc ∈ adapterKeysOf t := by
  have h : ∀ x ∈ [phiSym c ni.anc, thetaSym c ni.anc], x ∈ adapterKeysOf t := fun x hx =>
    List.mem_append_left _ (List.mem_flatMap.2 ⟨ni, hni, List.mem_flatMap.2 ⟨c, hc, hx⟩⟩)
  exact ⟨h _ List.mem_cons_self, h _ (List.mem_cons_of_mem _ List.mem_cons_self)⟩

/-- coverage: the adapter registers every kinematic symbol that a node of this tree uses -/
theorem kinSyms_registered (t : Tree) (h : t.wf = true) (ni : NodeInfo) (hni : ni ∈ t.infos) :
    ∀ s ∈ ni.kinSyms, s ∈ adapterKeysOf t := by
  have hang := angles_mem_adapterKeysOf t ni hni ni.c1 (c1_mem_walkStates ni (infos_distinct t h ni hni))
  obtain ⟨h1, h2, h3, _⟩ := nodeInfos_spec t true [] ni hni
  have hc1 : ni.c1 ∈ t.subtrees := by unfold NodeInfo.c1; split <;> assumption
  have hc2 : ni.c2 ∈ t.subtrees := by unfold NodeInfo.c2; split <;> assumption
  intro s hs
  simp only [NodeInfo.kinSyms, List.mem_cons, List.mem_nil_iff, or_false] at hs
  rcases hs with rfl | rfl | rfl | rfl | rfl
  · exact hang.1
  · exact hang.2
  · exact massSym_mem_adapterKeysOf t _ h1
  · exact massSym_mem_adapterKeysOf t _ hc1
  · exact massSym_mem_adapterKeysOf t _ hc2

theorem adapterKeysOf_isKin (t : Tree) (h : t.wf = true) : ∀ k ∈ adapterKeysOf t, isKinName k = true := by
  intro k hk
  simp only [adapterKeysOf, List.mem_append, adapterAngles, adapterMasses, List.mem_flatMap, List.mem_map] at hk
  rcases hk with ⟨ni, _, s, _, hs⟩ | ⟨s, hs, rfl⟩
  · simp only [List.mem_cons, List.mem_nil_iff, or_false] at hs
    rcases hs with rfl | rfl
    · exact phiSym_isKin _ _
    · exact thetaSym_isKin _ _
  · exact massSym_isKin s (subtrees_wf t h s hs)

end Ampverif.Model.C01
