/-
The Gram determinant of three four-vectors `Q, a, b`, written in their six products, and the
cosine `gramCos` of the angle between `a` and `b` seen from `Q`.

`Gram` is the Gram matrix of the momenta `p₁, p₂, p₃` of an event, `C3` the coefficients of a
combination `x₁p₁ + x₂p₂ + x₃p₃`; `G.cos Q a b` is `gramCos` of three such combinations. Every
arccos argument of `Gen/C19.lean` is `± G.cos` of a row `(Q, a, b)` (`Lemmas/C19Cos`); that
`|G.cos Q a b| ≤ 1` where `det G ≥ 0` (`Gram.row_det`: the Gram determinant of a row is
`det(Q,a,b)² · det G`) and that it is `V4.covCos` of the three combinations are proved here once.

`GramMasses G` says that the library's seven mass symbols are the squares of `p₁, p₂, p₃`, the
three pairs and the total in `G`; this is what an event gives (`Masses.gram`) and what
`σ₁+σ₂+σ₃ = Σ m²` alone gives. `GramMasses.kibble` expands the library's `Kibble` once for all
these lemmas: it is `−64 m₀² det G`.
-/
import Ampverif.Gen.C19
import Ampverif.Lemmas.C19Attr
import Ampverif.Lemmas.C19Vec

namespace Ampverif.Lemmas.C19
open Ampverif.Gen.C19

/-- determinant of `[[q,t,u],[t,s,w],[u,w,r]]`: `q = Q·Q`, `s = a·a`, `r = b·b`, `t = Q·a`,
`u = Q·b`, `w = a·b` -/
def gram3 (q s r t u w : ℝ) : ℝ := q * s * r + 2 * t * u * w - q * w ^ 2 - s * u ^ 2 - r * t ^ 2

/-- `V4.covCos Q a b` as a function of the six products -/
noncomputable def gramCos (q s r t u w : ℝ) : ℝ :=
  (t * u - q * w) / (Real.sqrt (t ^ 2 - q * s) * Real.sqrt (u ^ 2 - q * r))

theorem gramCos_comm (q s r t u w : ℝ) : gramCos q s r t u w = gramCos q r s u t w := by
  unfold gramCos
  rw [mul_comm t u, mul_comm (Real.sqrt _) (Real.sqrt _)]

theorem V4.covCos_eq_gramCos (Q a b : V4) :
    V4.covCos Q a b
      = gramCos (V4.dot Q Q) (V4.dot a a) (V4.dot b b) (V4.dot Q a) (V4.dot Q b) (V4.dot a b) :=
  rfl

/-- the defect in the Cauchy–Schwarz inequality of the form `H_Q` is `Q²` times the Gram
determinant -/
theorem gram_defect (q s r t u w : ℝ) :
    (t ^ 2 - q * s) * (u ^ 2 - q * r) - (t * u - q * w) ^ 2 = q * gram3 q s r t u w := by
  unfold gram3; ring

theorem abs_gramCos_le_one {q s r t u w : ℝ} (h : 0 ≤ q * gram3 q s r t u w) :
    |gramCos q s r t u w| ≤ 1 := by
  apply abs_ratio_le_one
  intro _ _
  linarith [gram_defect q s r t u w]

/-- a cosine printed as `(√A)⁻¹ (√B)⁻¹ N` with `A, B` Källén functions: these are `4 ×` the
radicands and numerator of `gramCos` -/
theorem ratio_eq_gramCos {A B N q s r t u w : ℝ} (hA : A = 4 * (t ^ 2 - q * s))
    (hB : B = 4 * (u ^ 2 - q * r)) (hN : N = 4 * (t * u - q * w)) :
    (Real.sqrt A)⁻¹ * (Real.sqrt B)⁻¹ * N = gramCos q s r t u w := by
  have h4 : Real.sqrt 4 = 2 := by
    rw [show (4 : ℝ) = 2 ^ 2 by norm_num]; exact Real.sqrt_sq (by norm_num)
  rw [hA, hB, hN, Real.sqrt_mul (by norm_num), Real.sqrt_mul (by norm_num), h4, gramCos,
    div_eq_mul_inv, mul_inv, mul_inv, mul_inv]
  ring

theorem ratio_eq_neg_gramCos {A B N q s r t u w : ℝ} (hA : A = 4 * (t ^ 2 - q * s))
    (hB : B = 4 * (u ^ 2 - q * r)) (hN : -N = 4 * (t * u - q * w)) :
    (Real.sqrt A)⁻¹ * (Real.sqrt B)⁻¹ * N = -gramCos q s r t u w := by
  rw [← ratio_eq_gramCos hA hB hN]; ring

structure C3 where
  x1 : ℝ
  x2 : ℝ
  x3 : ℝ

instance : Add C3 := ⟨fun a b => ⟨a.x1 + b.x1, a.x2 + b.x2, a.x3 + b.x3⟩⟩

theorem C3.add_def (a b : C3) : a + b = ⟨a.x1 + b.x1, a.x2 + b.x2, a.x3 + b.x3⟩ := rfl

/-- Gram matrix `[[s₁,d₁₂,d₁₃],[d₁₂,s₂,d₂₃],[d₁₃,d₂₃,s₃]]` of `p₁, p₂, p₃` -/
structure Gram where
  s1 : ℝ
  s2 : ℝ
  s3 : ℝ
  d12 : ℝ
  d13 : ℝ
  d23 : ℝ

namespace Gram
variable (G : Gram) {Q a b : C3} {x m : ℝ}

def dot (x y : C3) : ℝ :=
  x.x1 * y.x1 * G.s1 + x.x2 * y.x2 * G.s2 + x.x3 * y.x3 * G.s3 + (x.x1 * y.x2 + x.x2 * y.x1) * G.d12
    + (x.x1 * y.x3 + x.x3 * y.x1) * G.d13 + (x.x2 * y.x3 + x.x3 * y.x2) * G.d23

def det : ℝ := gram3 G.s1 G.s2 G.s3 G.d12 G.d13 G.d23

/-- cosine of the angle between the combinations `a` and `b` seen from the combination `Q` -/
noncomputable def cos (Q a b : C3) : ℝ :=
  gramCos (G.dot Q Q) (G.dot a a) (G.dot b b) (G.dot Q a) (G.dot Q b) (G.dot a b)

attribute [gram_eval] dot cos mul_one mul_zero one_mul zero_mul add_zero zero_add

theorem dot_comm (x y : C3) : G.dot x y = G.dot y x := by unfold dot; ring

theorem dot_add_left (a b c : C3) : G.dot (a + b) c = G.dot a c + G.dot b c := by
  simp only [dot, C3.add_def]; ring

theorem dot_add_right (a b c : C3) : G.dot a (b + c) = G.dot a b + G.dot a c := by
  simp only [dot, C3.add_def]; ring

theorem cos_comm (Q a b : C3) : G.cos Q a b = G.cos Q b a := by
  unfold cos; rw [gramCos_comm, G.dot_comm a b]

/-- `λ((a+b)², a², b²) = 4 ((a·b)² − a² b²)`: a Källén function of three squares in `G` is `4 ×` the
radicand of the cosines seen from `a`. -/
theorem kallen_dot {a b c : C3} {u v w : ℝ} (hc : c = a + b) (hu : u = G.dot c c)
    (hv : v = G.dot a a) (hw : w = G.dot b b) :
    Kallen u v w = 4 * (G.dot a b ^ 2 - G.dot a a * G.dot b b) := by
  rw [hu, hv, hw, hc, Kallen, dot_add_left, dot_add_right, dot_add_right, G.dot_comm b a]
  ring

/-- seen from `a`, the component along `a` does not count -/
theorem radicand_add {a b c : C3} (hc : c = a + b) :
    G.dot a c ^ 2 - G.dot a a * G.dot c c = G.dot a b ^ 2 - G.dot a a * G.dot b b := by
  rw [hc, dot_add_left, dot_add_right, dot_add_right, G.dot_comm b a]
  ring

theorem row_det (Q a b : C3) :
    gram3 (G.dot Q Q) (G.dot a a) (G.dot b b) (G.dot Q a) (G.dot Q b) (G.dot a b)
      = (Q.x1 * (a.x2 * b.x3 - a.x3 * b.x2) - Q.x2 * (a.x1 * b.x3 - a.x3 * b.x1)
          + Q.x3 * (a.x1 * b.x2 - a.x2 * b.x1)) ^ 2 * G.det := by
  unfold gram3 dot det gram3
  ring

variable {G}

theorem abs_cos_le (hq : m ^ 2 = G.dot Q Q) (hG : 0 ≤ G.det) : |G.cos Q a b| ≤ 1 := by
  apply abs_gramCos_le_one
  rw [row_det, ← hq]
  exact mul_nonneg (sq_nonneg m) (mul_nonneg (sq_nonneg _) hG)

theorem abs_le_of_eq_cos (hx : x = G.cos Q a b) (hq : m ^ 2 = G.dot Q Q) (hG : 0 ≤ G.det) :
    |x| ≤ 1 :=
  hx ▸ abs_cos_le hq hG

theorem abs_le_of_eq_neg_cos (hx : x = -G.cos Q a b) (hq : m ^ 2 = G.dot Q Q) (hG : 0 ≤ G.det) :
    |x| ≤ 1 := by
  rw [hx, abs_neg]
  exact abs_cos_le hq hG

end Gram

/-- coefficients of the momentum with index `n`: particle `n` for `n = 1, 2, 3`, else the parent
`p₁ + p₂ + p₃` -/
def coef : Nat → C3
  | 1 => ⟨1, 0, 0⟩
  | 2 => ⟨0, 1, 0⟩
  | 3 => ⟨0, 0, 1⟩
  | _ => ⟨1, 1, 1⟩

/-- The seven mass symbols are the squares, in `G`, of `p₁, p₂, p₃`, of the pairs `p_i + p_j` and
of `p₁ + p₂ + p₃`. -/
structure GramMasses (G : Gram) (m_0 m_1 m_2 m_3 m_12 m_13 m_23 : ℝ) : Prop where
  h0 : m_0 ^ 2 = G.dot ⟨1, 1, 1⟩ ⟨1, 1, 1⟩
  h1 : m_1 ^ 2 = G.dot ⟨1, 0, 0⟩ ⟨1, 0, 0⟩
  h2 : m_2 ^ 2 = G.dot ⟨0, 1, 0⟩ ⟨0, 1, 0⟩
  h3 : m_3 ^ 2 = G.dot ⟨0, 0, 1⟩ ⟨0, 0, 1⟩
  h12 : m_12 ^ 2 = G.dot ⟨1, 1, 0⟩ ⟨1, 1, 0⟩
  h13 : m_13 ^ 2 = G.dot ⟨1, 0, 1⟩ ⟨1, 0, 1⟩
  h23 : m_23 ^ 2 = G.dot ⟨0, 1, 1⟩ ⟨0, 1, 1⟩

section
variable {G : Gram} {m_0 m_1 m_2 m_3 m_12 m_13 m_23 : ℝ}

theorem GramMasses.of_constraint
    (hc : m_12 ^ 2 + m_13 ^ 2 + m_23 ^ 2 = m_0 ^ 2 + m_1 ^ 2 + m_2 ^ 2 + m_3 ^ 2) :
    GramMasses ⟨m_1 ^ 2, m_2 ^ 2, m_3 ^ 2, (m_12 ^ 2 - m_1 ^ 2 - m_2 ^ 2) / 2,
      (m_13 ^ 2 - m_1 ^ 2 - m_3 ^ 2) / 2, (m_23 ^ 2 - m_2 ^ 2 - m_3 ^ 2) / 2⟩
      m_0 m_1 m_2 m_3 m_12 m_13 m_23 := by
  constructor <;> simp only [gram_eval]
  · linear_combination -hc
  all_goals ring

theorem GramMasses.exists_sq_coef (h : GramMasses G m_0 m_1 m_2 m_3 m_12 m_13 m_23) (n : Nat) :
    ∃ m : ℝ, m ^ 2 = G.dot (coef n) (coef n) := by
  unfold coef
  split
  exacts [⟨_, h.h1⟩, ⟨_, h.h2⟩, ⟨_, h.h3⟩, ⟨_, h.h0⟩]

theorem GramMasses.kibble (h : GramMasses G m_0 m_1 m_2 m_3 m_12 m_13 m_23) :
    Kibble (m_23 ^ 2) (m_13 ^ 2) (m_12 ^ 2) m_0 m_1 m_2 m_3 = -(64 * m_0 ^ 2 * G.det) := by
  unfold Kibble
  rw [h.h0, h.h1, h.h2, h.h3, h.h12, h.h13, h.h23]
  simp only [Kallen, gram_eval, Gram.det, gram3]
  ring

theorem GramMasses.det_nonneg (h : GramMasses G m_0 m_1 m_2 m_3 m_12 m_13 m_23) (hm : m_0 ≠ 0)
    (hK : Kibble (m_23 ^ 2) (m_13 ^ 2) (m_12 ^ 2) m_0 m_1 m_2 m_3 ≤ 0) : 0 ≤ G.det := by
  rw [h.kibble] at hK
  have h64 : 0 < 64 * m_0 ^ 2 := by positivity
  exact nonneg_of_mul_nonneg_right (by linarith) h64

end

namespace V4
variable (p1 p2 p3 : V4)

def gram : Gram := ⟨dot p1 p1, dot p2 p2, dot p3 p3, dot p1 p2, dot p1 p3, dot p2 p3⟩

def lin (c : C3) : V4 :=
  ⟨c.x1 * p1.E + c.x2 * p2.E + c.x3 * p3.E, c.x1 * p1.x + c.x2 * p2.x + c.x3 * p3.x,
    c.x1 * p1.y + c.x2 * p2.y + c.x3 * p3.y, c.x1 * p1.z + c.x2 * p2.z + c.x3 * p3.z⟩

theorem dot_lin (c d : C3) : dot (lin p1 p2 p3 c) (lin p1 p2 p3 d) = (gram p1 p2 p3).dot c d := by
  simp only [lin, dot, gram, Gram.dot]; ring

variable {p1 p2 p3}

theorem lin_100 : lin p1 p2 p3 ⟨1, 0, 0⟩ = p1 := by apply ext_of <;> simp [lin]
theorem lin_010 : lin p1 p2 p3 ⟨0, 1, 0⟩ = p2 := by apply ext_of <;> simp [lin]
theorem lin_001 : lin p1 p2 p3 ⟨0, 0, 1⟩ = p3 := by apply ext_of <;> simp [lin]
theorem lin_110 : lin p1 p2 p3 ⟨1, 1, 0⟩ = p1 + p2 := by apply ext_of <;> simp [lin]
theorem lin_101 : lin p1 p2 p3 ⟨1, 0, 1⟩ = p1 + p3 := by apply ext_of <;> simp [lin]
theorem lin_011 : lin p1 p2 p3 ⟨0, 1, 1⟩ = p2 + p3 := by apply ext_of <;> simp [lin]
theorem lin_111 : lin p1 p2 p3 ⟨1, 1, 1⟩ = p1 + p2 + p3 := by apply ext_of <;> simp [lin]
theorem lin_110_swap : lin p1 p2 p3 ⟨1, 1, 0⟩ = p2 + p1 := by apply ext_of <;> simp [lin, add_comm]
theorem lin_101_swap : lin p1 p2 p3 ⟨1, 0, 1⟩ = p3 + p1 := by apply ext_of <;> simp [lin, add_comm]
theorem lin_011_swap : lin p1 p2 p3 ⟨0, 1, 1⟩ = p3 + p2 := by apply ext_of <;> simp [lin, add_comm]

/-- the right-hand side is the body of `Props.C19.pick`, which a lemma file cannot name; the property
theorems use this up to unfolding `pick`. -/
theorem lin_coef : ∀ n, lin p1 p2 p3 (coef n) =
    match n with
    | 1 => p1
    | 2 => p2
    | 3 => p3
    | _ => p1 + p2 + p3
  | 0 => lin_111
  | 1 => lin_100
  | 2 => lin_010
  | 3 => lin_001
  | _ + 4 => lin_111

/-- the cosine of a row in the Gram matrix of an event is the covariant cosine of the three
combinations -/
theorem cos_gram {cQ ca cb : C3} {Q a b : V4} (hQ : lin p1 p2 p3 cQ = Q) (ha : lin p1 p2 p3 ca = a)
    (hb : lin p1 p2 p3 cb = b) : (gram p1 p2 p3).cos cQ ca cb = covCos Q a b := by
  subst hQ ha hb
  simp only [Gram.cos, covCos_eq_gramCos, dot_lin]

variable {x : ℝ} {cQ ca cb : C3} {Q a b : V4}

theorem eq_covCos (hx : x = (gram p1 p2 p3).cos cQ ca cb) (hQ : lin p1 p2 p3 cQ = Q)
    (ha : lin p1 p2 p3 ca = a) (hb : lin p1 p2 p3 cb = b) : x = covCos Q a b :=
  hx.trans (cos_gram hQ ha hb)

theorem eq_neg_covCos (hx : x = -(gram p1 p2 p3).cos cQ ca cb) (hQ : lin p1 p2 p3 cQ = Q)
    (ha : lin p1 p2 p3 ca = a) (hb : lin p1 p2 p3 cb = b) : x = -covCos Q a b :=
  hx.trans (congrArg Neg.neg (cos_gram hQ ha hb))

end V4

/-- the masses of an event are the invariants of the Gram matrix of its momenta -/
theorem Masses.gram {p1 p2 p3 : V4} {m_0 m_1 m_2 m_3 m_12 m_13 m_23 : ℝ}
    (h : Masses p1 p2 p3 m_0 m_1 m_2 m_3 m_12 m_13 m_23) :
    GramMasses (V4.gram p1 p2 p3) m_0 m_1 m_2 m_3 m_12 m_13 m_23 :=
  ⟨h.h0.trans (by rw [← V4.dot_lin, V4.lin_111]), h.h1.trans (by rw [← V4.dot_lin, V4.lin_100]),
    h.h2.trans (by rw [← V4.dot_lin, V4.lin_010]), h.h3.trans (by rw [← V4.dot_lin, V4.lin_001]),
    h.h12.trans (by rw [← V4.dot_lin, V4.lin_110]), h.h13.trans (by rw [← V4.dot_lin, V4.lin_101]),
    h.h23.trans (by rw [← V4.dot_lin, V4.lin_011])⟩

end Ampverif.Lemmas.C19
