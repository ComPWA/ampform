/-
Which calls of the shared history model are K-matrix calls, and what the unitarity hypotheses of C09
ask of one item of a result; an item that honours the arguments of its call meets them.
-/
import Ampverif.Model.C10History

namespace Ampverif.Lemmas.C09History
open Ampverif.C10History

/-- The two classes of C09. -/
def isKMatrix (a : Args) : Bool := a.cls == Cls.nrK || a.cls == Cls.relK

/-- What the unitarity hypotheses need from one item of a result, for a predicate `good` on factor
objects and the arguments `a` of the call. -/
def Item.guarded (good : Factor → Prop) (a : Args) : Item → Prop
  | .width _ _ f l d => good f ∧ f = a.phsp ∧ l = a.angMom ∧ d = a.radius
  | .formFactor _ l d => l = a.angMom ∧ d = a.radius
  | .rho _ n => a.phsp.node = some n

theorem guarded_of_honours (good : Factor → Prop) (a : Args) (hg : good a.phsp) (it : Item)
    (h : it.honours a = true) : Item.guarded good a it := by
  cases it with
  | width r i f l d =>
    simp only [Item.honours, Bool.and_eq_true, beq_iff_eq] at h
    obtain ⟨⟨hf, hl⟩, hd⟩ := h
    exact ⟨hf ▸ hg, hf, hl, hd⟩
  | formFactor i l d =>
    simp only [Item.honours, Bool.and_eq_true, beq_iff_eq] at h
    exact h
  | rho i n =>
    simp only [Item.honours, beq_iff_eq] at h
    exact h

end Ampverif.Lemmas.C09History
