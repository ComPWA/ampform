/-
C07: every assignment of the helicity-angle recursion belongs to a decay node and has the shape
`WriteOf` (for both variants of `angleSource`), every decay node gets one; facts about the decay
nodes of a tree and about the dictionaries built from the assignments.
-/
import Ampverif.Lemmas.C07Names

namespace Ampverif.Lemmas.C07
open Ampverif.Model.Topology

theorem leaves_nodup {t : Tree} (hw : WF t) : t.leaves.Nodup := by
  induction t with
  | leaf i => simp [Tree.leaves]
  | node i a b iha ihb =>
    obtain ⟨_, _, hwa, hwb, hdis⟩ := hw.node_inv
    simp only [Tree.leaves, List.nodup_append]
    refine ⟨iha hwa, ihb hwb, ?_⟩
    intro x hx y hy hxy
    subst hxy
    exact hdis x (leaf_mem_ids hx) (leaf_mem_ids hy)

/-- the two children of every decay node have different final states -/
def DistinctKids : Tree → Prop
  | .leaf _ => True
  | .node _ a b => a.attached ≠ b.attached ∧ DistinctKids a ∧ DistinctKids b

theorem distinctKids_of_wf {t : Tree} (hw : WF t) : DistinctKids t := by
  induction t with
  | leaf i => trivial
  | node i a b iha ihb =>
    obtain ⟨_, _, hwa, hwb, _⟩ := hw.node_inv
    exact ⟨attached_ne_of_wf hw, iha hwa, ihb hwb⟩

theorem forall_mem_nodesOf_node {P : List (List Int) × Tree × Tree → Prop}
    {chain : List (List Int)} {i : Int} {a b : Tree} :
    (∀ n ∈ nodesOf chain (.node i a b), P n) ↔ P (chain, a, b) ∧
      (∀ n ∈ nodesOf (chain ++ [a.attached]) a, P n) ∧ ∀ n ∈ nodesOf (chain ++ [b.attached]) b, P n := by
  simp only [nodesOf, List.forall_mem_cons, List.forall_mem_append]

theorem nodesOf_distinct : ∀ (s : Tree) (chain : List (List Int)), DistinctKids s →
    ∀ n ∈ nodesOf chain s, n.2.1.attached ≠ n.2.2.attached := by
  intro s
  induction s with
  | leaf i => intro chain _ n hn; cases hn
  | node i a b iha ihb =>
    intro chain hd
    exact forall_mem_nodesOf_node.2 ⟨hd.1, iha _ hd.2.1, ihb _ hd.2.2⟩

abbrev NodeCtx := List (List Int) × Tree × Tree

def NodeCtx.hel (n : NodeCtx) : Tree := helicityChild n.2.1 n.2.2
def NodeCtx.opp (n : NodeCtx) : Tree := oppositeChild n.2.1 n.2.2

/-- what an assignment made for the decay node `n` looks like: it is named after the helicity
child in the node's chain of frames, carries that chain, and measures either the helicity child
(always so when the angles are sourced from the helicity state; in the pinned source only when
that child decays itself or the opposite-helicity child is a final state) or — pinned source
only — the DECAYING opposite-helicity child. -/
def WriteOf (v : Variant) (n : NodeCtx) (w : Write) : Prop :=
  w.suffix = renderName n.hel.attached n.1 ∧ w.desc.chain = n.1 ∧
  ((w.desc.target = n.hel.attached ∧
      (v.angleSource = .helicityState ∨ n.opp.isLeaf = true ∨ n.hel.isLeaf = false)) ∨
   (v.angleSource = .decaying ∧ w.desc.target = n.opp.attached ∧ n.opp.isLeaf = false))

theorem desc_ext {d d' : Desc} (hc : d.chain = d'.chain) (ht : d.target = d'.target) : d = d' := by
  cases d; cases d'; cases hc; cases ht; rfl

theorem write_ext {w w' : Write} (hs : w.suffix = w'.suffix) (hd : w.desc = w'.desc) : w = w' := by
  cases w; cases w'; cases hs; cases hd; rfl

theorem WriteOf.swap {v : Variant} {chain : List (List Int)} {a b : Tree} {w : Write}
    (hne : a.attached ≠ b.attached) (h : WriteOf v (chain, b, a) w) : WriteOf v (chain, a, b) w := by
  unfold WriteOf NodeCtx.hel NodeCtx.opp at *
  rwa [(helicityChild_swap hne).1, (helicityChild_swap hne).2] at h

theorem childWrite_sound {v : Variant} {chain : List (List Int)} {c sib : Tree} {w : Write}
    (h : w ∈ childWrite v chain c sib) : WriteOf v (chain, c, sib) w := by
  unfold childWrite at h
  split at h
  · cases h
  · rename_i hl
    rw [Bool.not_eq_true] at hl
    rw [List.mem_singleton] at h
    subst h
    refine ⟨rfl, rfl, ?_⟩
    simp only [NodeCtx.hel, NodeCtx.opp, helicityChild, oppositeChild]
    by_cases hgt : lexGt c.attached sib.attached = true
    · -- `c` is the opposite-helicity child and decays
      simp only [hgt, if_true]
      rcases v with ⟨_ | _⟩
      · exact Or.inr ⟨rfl, rfl, hl⟩
      · exact Or.inl ⟨rfl, Or.inl rfl⟩
    · -- `c` is the helicity child and decays: it is measured under either source
      simp only [hgt]
      refine Or.inl ⟨?_, Or.inr (Or.inr hl)⟩
      rcases v with ⟨_ | _⟩ <;> rfl

/-- every assignment made for a decay node has the shape `WriteOf` -/
theorem nodeWrites_sound {v : Variant} {chain : List (List Int)} {a b : Tree} {w : Write}
    (hne : a.attached ≠ b.attached) (h : w ∈ nodeWrites v (chain, a, b)) :
    WriteOf v (chain, a, b) w := by
  simp only [nodeWrites, List.mem_append] at h
  rcases h with h | h | h
  · split at h
    · rename_i hab
      rw [Bool.and_eq_true] at hab
      rw [List.mem_singleton] at h
      subst h
      refine ⟨rfl, rfl, Or.inl ⟨rfl, Or.inr (Or.inl ?_)⟩⟩
      unfold NodeCtx.opp oppositeChild
      split
      · exact hab.1
      · exact hab.2
    · cases h
  · exact childWrite_sound h
  · exact (childWrite_sound h).swap hne

/-- every decay node gets at least one assignment -/
theorem nodeWrites_ne_nil (v : Variant) (n : NodeCtx) : nodeWrites v n ≠ [] := by
  obtain ⟨chain, a, b⟩ := n
  cases a <;> cases b <;> simp [nodeWrites, childWrite, Tree.isLeaf]

theorem angleWrites_sound {v : Variant} {t : Tree} (hw : WF t) {w : Write}
    (h : w ∈ angleWrites v t) : ∃ n ∈ nodesOf [] t, WriteOf v n w := by
  obtain ⟨n, hn, hm⟩ := (mem_angleWrites v hw).1 h
  exact ⟨n, hn, nodeWrites_sound (nodesOf_distinct t [] (distinctKids_of_wf hw) n hn) hm⟩

theorem angleWrites_complete {v : Variant} {t : Tree} (hw : WF t) {n : NodeCtx}
    (hn : n ∈ nodesOf [] t) : ∃ w ∈ angleWrites v t, WriteOf v n w := by
  obtain ⟨w, hm⟩ := List.exists_mem_of_ne_nil _ (nodeWrites_ne_nil v n)
  exact ⟨w, (mem_angleWrites v hw).2 ⟨n, hn, hm⟩,
    nodeWrites_sound (nodesOf_distinct t [] (distinctKids_of_wf hw) n hn) hm⟩

/-- with the angles sourced from the helicity state, `WriteOf` leaves only the documented
assignment -/
theorem writeOf_documented {v : Variant} (hv : v.angleSource = .helicityState) {n : NodeCtx}
    {w : Write} (h : WriteOf v n w) : w = docWrite n := by
  obtain ⟨h1, h2, ⟨h3, _⟩ | ⟨h3, _⟩⟩ := h
  · exact write_ext h1 (desc_ext h2 h3)
  · rw [hv] at h3; cases h3

/-- with `angleSource = decaying` and at most one decaying child, the measured momentum is determined by
the final states of the two children: the opposite-helicity child if it decays, else the helicity
child -/
theorem writeOf_decaying_target {n : NodeCtx} {w : Write} (h : WriteOf Variant.pinned n w)
    (hnd : n.2.1.isLeaf = true ∨ n.2.2.isLeaf = true) :
    w.desc.target = if n.opp.attached.length = 1 then n.hel.attached else n.opp.attached := by
  have hho : n.hel.isLeaf = false → n.opp.isLeaf = true := by
    unfold NodeCtx.hel NodeCtx.opp helicityChild oppositeChild
    split <;> rcases hnd with h | h <;> simp [h]
  obtain ⟨_, _, ⟨h3, h4⟩ | ⟨_, h3, h4⟩⟩ := h
  · rcases h4 with h4 | h4 | h4
    · cases h4
    · rw [if_pos ((isLeaf_iff_length _).1 h4), h3]
    · rw [if_pos ((isLeaf_iff_length _).1 (hho h4)), h3]
  · rw [if_neg (fun hl => by rw [(isLeaf_iff_length _).2 hl] at h4; cases h4), h3]

theorem subtree_leaves_subset {t s : Tree} (h : s ∈ t.subtrees) : ∀ x ∈ s.leaves, x ∈ t.leaves := by
  induction t with
  | leaf i => simp [Tree.subtrees] at h; subst h; intro x hx; exact hx
  | node i a b iha ihb =>
    simp [Tree.subtrees] at h
    rcases h with rfl | h | h
    · intro x hx; exact hx
    · intro x hx; simp [Tree.leaves]; exact Or.inl (iha h x hx)
    · intro x hx; simp [Tree.leaves]; exact Or.inr (ihb h x hx)

theorem digitIds_attached {t : Tree} (h : DigitIds t.leaves) : DigitIds t.attached :=
  fun i hi => h i (mem_sortInts.1 hi)

theorem digitIds_subtree {t s : Tree} (hd : DigitIds t.leaves) (hs : s ∈ t.subtrees) :
    DigitIds s.attached :=
  digitIds_attached (fun x hx => hd x (subtree_leaves_subset hs x hx))

/-- chains and children of the nodes only mention final states of the tree -/
theorem nodesOf_digits : ∀ (s : Tree) (chain : List (List Int)), DigitIds s.leaves →
    (∀ S ∈ chain, DigitIds S) → ∀ n ∈ nodesOf chain s,
      (∀ S ∈ n.1, DigitIds S) ∧ DigitIds n.2.1.leaves ∧ DigitIds n.2.2.leaves := by
  intro s
  induction s with
  | leaf i => intro chain _ _ n hn; cases hn
  | node i a b iha ihb =>
    intro chain hd hc
    have hda : DigitIds a.leaves := fun x hx => hd x (List.mem_append_left _ hx)
    have hdb : DigitIds b.leaves := fun x hx => hd x (List.mem_append_right _ hx)
    have snoc : ∀ {c : Tree}, DigitIds c.leaves → ∀ S ∈ chain ++ [c.attached], DigitIds S := by
      intro c hdc S hS
      rcases List.mem_append.1 hS with hS | hS
      · exact hc S hS
      · rw [List.mem_singleton.1 hS]; exact digitIds_attached hdc
    exact forall_mem_nodesOf_node.2 ⟨⟨hc, hda, hdb⟩, iha _ hda (snoc hda), ihb _ hdb (snoc hdb)⟩

theorem hel_opp_digits {n : NodeCtx} (ha : DigitIds n.2.1.leaves) (hb : DigitIds n.2.2.leaves) :
    DigitIds n.hel.attached ∧ DigitIds n.opp.attached := by
  unfold NodeCtx.hel NodeCtx.opp helicityChild oppositeChild
  by_cases h : lexGt n.2.1.attached n.2.2.attached = true <;>
    simp [h, digitIds_attached ha, digitIds_attached hb]

/-- the subsystem a node decays in is the last element of its chain (or all final states) -/
theorem nodesOf_frame : ∀ (s : Tree) (chain : List (List Int)), ∀ n ∈ nodesOf chain s,
    ∃ rest, n.1 = chain ++ rest ∧
      sortInts (n.2.1.leaves ++ n.2.2.leaves) = rest.getLast?.getD s.attached := by
  intro s
  induction s with
  | leaf i => intro chain n hn; cases hn
  | node i a b iha ihb =>
    intro chain
    have below : ∀ c : Tree, (∀ n ∈ nodesOf (chain ++ [c.attached]) c, ∃ rest,
          n.1 = chain ++ [c.attached] ++ rest ∧
            sortInts (n.2.1.leaves ++ n.2.2.leaves) = rest.getLast?.getD c.attached) →
        ∀ n ∈ nodesOf (chain ++ [c.attached]) c, ∃ rest, n.1 = chain ++ rest ∧
          sortInts (n.2.1.leaves ++ n.2.2.leaves)
            = rest.getLast?.getD (Tree.node i a b).attached := by
      intro c ih n hn
      obtain ⟨rest, h1, h2⟩ := ih n hn
      refine ⟨c.attached :: rest, by simp [h1], ?_⟩
      rw [h2, List.getLast?_cons]; rfl
    exact forall_mem_nodesOf_node.2
      ⟨⟨[], (List.append_nil _).symm, rfl⟩, below a (iha _), below b (ihb _)⟩

/-- no decay node has two decaying children -/
def NoDoubleDecay : Tree → Prop
  | .leaf _ => True
  | .node _ a b => (a.isLeaf = true ∨ b.isLeaf = true) ∧ NoDoubleDecay a ∧ NoDoubleDecay b

def decNoDoubleDecay : (t : Tree) → Decidable (NoDoubleDecay t)
  | .leaf _ => isTrue trivial
  | .node _ a b =>
    match decNoDoubleDecay a, decNoDoubleDecay b with
    | isTrue ha, isTrue hb =>
      if h : a.isLeaf = true ∨ b.isLeaf = true then isTrue ⟨h, ha, hb⟩
      else isFalse (fun hh => h hh.1)
    | isFalse ha, _ => isFalse (fun hh => ha hh.2.1)
    | _, isFalse hb => isFalse (fun hh => hb hh.2.2)

instance (t : Tree) : Decidable (NoDoubleDecay t) := decNoDoubleDecay t

theorem nodesOf_noDouble : ∀ (s : Tree) (chain : List (List Int)), NoDoubleDecay s →
    ∀ n ∈ nodesOf chain s, n.2.1.isLeaf = true ∨ n.2.2.isLeaf = true := by
  intro s
  induction s with
  | leaf i => intro chain _ n hn; cases hn
  | node i a b iha ihb =>
    intro chain hnd
    exact forall_mem_nodesOf_node.2 ⟨hnd.1, iha _ hnd.2.1, ihb _ hnd.2.2⟩

/-- helicity and opposite child together are the two children -/
theorem hel_opp_perm (n : NodeCtx) :
    (n.hel.attached ++ n.opp.attached).Perm (sortInts (n.2.1.leaves ++ n.2.2.leaves)) := by
  have pa := attached_perm n.2.1
  have pb := attached_perm n.2.2
  have base : (n.2.1.attached ++ n.2.2.attached).Perm (sortInts (n.2.1.leaves ++ n.2.2.leaves)) :=
    (List.Perm.append pa pb).trans (sortInts_perm _).symm
  unfold NodeCtx.hel NodeCtx.opp helicityChild oppositeChild
  by_cases h : lexGt n.2.1.attached n.2.2.attached = true
  · simp only [h, if_true]
    exact List.perm_append_comm.trans base
  · simp only [h]
    exact base

theorem mem_dictSet {β : Type} (d : List (List Char × β)) (k : List Char) (x : β) :
    ∀ kv ∈ dictSet d k x, kv ∈ d ∨ kv = (k, x) := by
  induction d with
  | nil => intro kv h; exact .inr (List.mem_singleton.1 h)
  | cons hd tl ih =>
    intro kv h
    simp only [dictSet] at h
    split at h
    · rename_i hk
      exact (List.mem_cons.1 h).symm.imp (List.mem_cons_of_mem _) (hk ▸ ·)
    · rcases List.mem_cons.1 h with h | h
      · exact .inl (h ▸ List.mem_cons_self)
      · exact (ih kv h).imp_left (List.mem_cons_of_mem _)

/-- every entry of a dictionary built by assignments is one of the assignments -/
theorem mem_dictUpdate {β : Type} (ws : List (List Char × β)) : ∀ (d : List (List Char × β)),
    ∀ kv ∈ dictUpdate d ws, kv ∈ d ∨ kv ∈ ws := by
  induction ws with
  | nil => intro d kv h; exact .inl h
  | cons w rest ih =>
    intro d kv h
    rcases ih (dictSet d w.1 w.2) kv h with h | h
    · rcases mem_dictSet d w.1 w.2 kv h with h | rfl
      · exact .inl h
      · exact .inr List.mem_cons_self
    · exact .inr (List.mem_cons_of_mem _ h)

/-- every entry of `compute_invariant_masses` is the mass of the final states below an edge -/
theorem mem_invariantMasses {top : Tree} {order : List Int} {kv : List Char × Def}
    (h : kv ∈ invariantMasses top order) :
    ∃ s ∈ top.subtrees, kv = (massNameOf s.attached, Def.mass s.attached) := by
  rcases mem_dictUpdate _ _ kv h with h | h
  · cases h
  · simp only [massWrites, List.mem_filterMap] at h
    obtain ⟨e, _, he⟩ := h
    unfold determineAttached massName determineAttached at he
    cases hf : find? top e with
    | none => simp [hf] at he
    | some s =>
      simp [hf] at he
      exact ⟨s, find_mem_subtrees hf, by rw [← he]; simp [massNameOf]⟩

/-- an entry of one topology's dictionary is the `phi` or `theta` of an angle assignment, or a mass -/
theorem mem_topologyWrites {v : Variant} {top : Tree} {order : List Int} {x : List Char × Def}
    (hx : x ∈ topologyWrites v top order) :
    (∃ w ∈ angleWrites v top, x = (['p', 'h', 'i'] ++ w.suffix, Def.phi w.desc) ∨
        x = (['t', 'h', 'e', 't', 'a'] ++ w.suffix, Def.theta w.desc)) ∨
      ∃ s ∈ top.subtrees, x = (massNameOf s.attached, Def.mass s.attached) := by
  rcases List.mem_append.1 hx with hx | hx
  · left
    rcases mem_dictUpdate _ _ x hx with h | h
    · cases h
    · obtain ⟨w, hwm, hx⟩ := List.mem_flatMap.1 h
      exact ⟨w, hwm, by simpa [Write.entries] using hx⟩
  · exact Or.inr (mem_invariantMasses hx)

theorem mem_createExpressions (v : Variant) : ∀ (tops : List (Tree × List Int))
    (acc : List (List Char × Def)),
    ∀ kv ∈ tops.foldl (fun acc t => dictUpdate acc (topologyWrites v t.1 t.2)) acc,
      kv ∈ acc ∨ ∃ t ∈ tops, kv ∈ topologyWrites v t.1 t.2 := by
  intro tops
  induction tops with
  | nil => intro acc kv h; exact Or.inl (by simpa using h)
  | cons t rest ih =>
    intro acc kv h
    simp only [List.foldl_cons] at h
    rcases ih _ kv h with h | ⟨t', ht', h⟩
    · rcases mem_dictUpdate _ _ kv h with h | h
      · exact Or.inl h
      · exact Or.inr ⟨t, by simp, h⟩
    · exact Or.inr ⟨t', by simp [ht'], h⟩

/-- the two nodes behind two equally named assignments -/
theorem same_name_nodes {v : Variant} {t1 t2 : Tree} (h1 : WF t1) (h2 : WF t2)
    (d1 : DigitIds t1.leaves) (d2 : DigitIds t2.leaves)
    {w1 w2 : Write} (m1 : w1 ∈ angleWrites v t1) (m2 : w2 ∈ angleWrites v t2)
    (e : w1.suffix = w2.suffix) :
    ∃ n1 ∈ nodesOf [] t1, ∃ n2 ∈ nodesOf [] t2, WriteOf v n1 w1 ∧ WriteOf v n2 w2 ∧
      (NodeCtx.hel n1).attached = (NodeCtx.hel n2).attached ∧ n1.1 = n2.1 := by
  obtain ⟨n1, hn1, o1⟩ := angleWrites_sound h1 m1
  obtain ⟨n2, hn2, o2⟩ := angleWrites_sound h2 m2
  obtain ⟨c1, a1, b1⟩ := nodesOf_digits t1 [] d1 (by simp) n1 hn1
  obtain ⟨c2, a2, b2⟩ := nodesOf_digits t2 [] d2 (by simp) n2 hn2
  have e' : renderName (NodeCtx.hel n1).attached n1.1 = renderName (NodeCtx.hel n2).attached n2.1 := by
    rw [← o1.1, ← o2.1, e]
  obtain ⟨k1, k2⟩ := renderName_inj (hel_opp_digits a1 b1).1 (hel_opp_digits a2 b2).1 c1 c2 e'
  exact ⟨n1, hn1, n2, hn2, o1, o2, k1, k2⟩


end Ampverif.Lemmas.C07
