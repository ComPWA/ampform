/-
C05 — the flat skeleton field by field, the state an index variable belongs to, and what `dpdSpecs` returns.
-/
import Ampverif.Model.C05Align

namespace Ampverif.Lemmas.C05Spec
open Ampverif.Model.C05Align

/-- the state an index variable belongs to -/
def varState : Var → Int
  | .outer e => e
  | .inner _ e => e

theorem flatten_sums (specs : List Spec) : (flatten specs).sums = specs.flatMap Spec.sums := by
  induction specs with
  | nil => rfl
  | cons s rest ih => simp only [flatten, ih, List.flatMap_cons]

theorem flatten_outer (specs : List Spec) : (flatten specs).outer = specs.map Spec.outer := by
  induction specs with
  | nil => rfl
  | cons s rest ih => simp only [flatten, ih, List.map_cons]

theorem outer_fst (s : Spec) : s.outer.1 = Var.outer s.state := by
  cases s <;> rfl

theorem dpdSpecs_eq_some {ref : Int} {t : Tree} {states : List StateInfo} {specs : List Spec} :
    dpdSpecs ref t states = some specs ↔
      ∃ sp, spectator t = some sp ∧ specs = states.map (dpdOne ref sp t) := by
  unfold dpdSpecs
  split
  · rename_i h
    simp [h]
  · rename_i sp h
    simp [h, eq_comm]

variable (ref sp : Int) (t : Tree) (s : StateInfo)

@[simp] theorem dpdOne_state : (dpdOne ref sp t s).state = s.e := by
  unfold dpdOne
  split <;> rfl

@[simp] theorem dpdOne_sums : (dpdOne ref sp t s).sums = [(Var.inner 0 s.e, s.observed)] := by
  unfold dpdOne
  split <;> rfl

@[simp] theorem dpdOne_outer : (dpdOne ref sp t s).outer = (Var.outer s.e, s.observed) := by
  unfold dpdOne
  split <;> rfl

end Ampverif.Lemmas.C05Spec
