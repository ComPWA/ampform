/-
The denominators of the regenerated F-vector entries (`Gen/C10.lean`), as equations: for n = 2 the two
denominators of the symbolic inverse are `∓ det(1 − iK)`; in the relativistic case the second is
`(√ρ₀)* (√ρ₁)* det(1 − iK̂ρ)` and the first is the n = 1 denominator times the second. For positive
real `ρ` the roots are real and the determinant of `1 − iK` appears. Last, the n = n_R = 1 entries as
Breit–Wigner functions, for `s ≠ m²` only (`one_pole`).
-/
import Ampverif.Gen.C10
import Ampverif.Lemmas.C10Helpers

namespace Ampverif.Lemmas.C10
open Ampverif.Gen.C10 Ampverif.Lemmas.C09

theorem nrF2_den2_eq (a b c d p0 p1 : ℂ) :
    nrF2_den2 a b c d p0 p1 = 1 - Complex.I * a - Complex.I * d - a * d + b * c := by
  simp only [nrF2_den2]; ring

theorem nrF2_den1_eq (a b c d p0 p1 : ℂ) :
    nrF2_den1 a b c d p0 p1 = -(1 - Complex.I * a - Complex.I * d - a * d + b * c) := by
  simp only [nrF2_den1]; ring

theorem relF2_den1_eq (ρ0 ρ1 a b c d p0 p1 : ℂ) :
    relF2_den1 ρ0 ρ1 a b c d p0 p1 = relF1_den1 ρ0 a p0 * relF2_den2 ρ0 ρ1 a b c d p0 p1 := by
  have e := csqrt_sq ρ0
  simp only [relF2_den1, relF1_den1, relF2_den2]
  generalize ρ0 ^ ((1 : ℂ) / 2) = r0 at *
  subst e
  linear_combination (-(r0 ^ 2 * a ^ 2 * (starRingEnd ℂ) (ρ1 ^ ((1 : ℂ) / 2))
    + r0 * ρ1 ^ ((1 : ℂ) / 2) * a * d * (starRingEnd ℂ) r0)) * Complex.I_sq

theorem ofReal_sqrt_ne_zero {r : ℝ} (hr : 0 < r) : ((Real.sqrt r : ℝ) : ℂ) ≠ 0 :=
  Complex.ofReal_ne_zero.2 (Real.sqrt_pos.2 hr).ne'

theorem relF1_den1_ofReal {r : ℝ} (hr : 0 ≤ r) (a p : ℂ) :
    relF1_den1 (r : ℂ) a p = ((Real.sqrt r : ℝ) : ℂ) * (1 - Complex.I * a) := by
  simp only [relF1_den1, csqrt_ofReal hr, Complex.conj_ofReal]; ring

theorem relF2_den2_ofReal {r0 r1 : ℝ} (h0 : 0 ≤ r0) (h1 : 0 ≤ r1) (a b c d p0 p1 : ℂ) :
    relF2_den2 (r0 : ℂ) (r1 : ℂ) a b c d p0 p1
      = ((Real.sqrt r0 : ℝ) : ℂ) * ((Real.sqrt r1 : ℝ) : ℂ)
        * (1 - Complex.I * a - Complex.I * d - a * d + b * c) := by
  simp only [relF2_den2, csqrt_ofReal h0, csqrt_ofReal h1, Complex.conj_ofReal]; ring

theorem kmNR11_eq_bw_of_ne (s m Γ γ : ℝ) (hx : (m : ℂ) ^ 2 + (-1 : ℂ) * (s : ℂ) ≠ 0) :
    kmNR11 s m Γ γ = bw s m (γ ^ 2 * Γ) := by
  simp only [kmNR11, bw, kmNR11_den2, kmNR11_den1, bw_den1]
  push_cast
  linear_combination ((γ : ℂ) ^ 2 * m * Γ) * one_pole hx ((γ : ℂ) ^ 2 * m * Γ)

theorem nrFForm11_bw_of_ne (s m Γ γ β : ℝ) (hx : (m : ℂ) ^ 2 + (-1 : ℂ) * (s : ℂ) ≠ 0) :
    (γ : ℂ) * nrFForm11_0 s m Γ γ β = (β : ℂ) * bw s m (γ ^ 2 * Γ) := by
  simp only [nrFForm11_0, nrK11_00, nrP11_0, bw, bw_den1]
  push_cast
  linear_combination ((β : ℂ) * (γ : ℂ) ^ 2 * m * Γ) * one_pole hx ((γ : ℂ) ^ 2 * m * Γ)

theorem relF1_bwff_of_ne (s m Γ β : ℝ) (ρ ρR ff ff0 : ℂ) (hx : (m : ℂ) ^ 2 + (-1 : ℂ) * (s : ℂ) ≠ 0) :
    relF1_0 1 (relK11_00 s m Γ 1 β ρ ρR ff ff0) (relP11_0 s m Γ 1 β ρ ρR ff ff0)
      = (β : ℂ) * bwff s m Γ ρ ρR ff ff0 := by
  simp only [relF1_0, relF1_den1, bwff, bwff_den1, relK11_00, relP11_0, Complex.one_cpow, map_one]
  push_cast
  linear_combination ((β : ℂ) * ff * m * Γ)
    * inv_one_sub_I_mul hx (ff ^ 2 * (ff0 ^ 2)⁻¹ * ρR⁻¹ * Γ * ρ * m)

end Ampverif.Lemmas.C10
