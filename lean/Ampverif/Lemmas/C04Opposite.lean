/-
C04, layer (K): the second child of a node. In the parent's rest frame the two children
are back to back; the source builds the frames of a decaying second (opposite-helicity) child from
ITS OWN direction `−v`. `hframe_neg`: `h(−v) = h(v)·Ry(π)·Rz(π)`; `second_child_angle`: if the first
child's frame turns by `Rz(−δ)` under a global rotation, the second child's turns by `Rz(+δ)`.
-/
import Ampverif.Lemmas.C04Rest
namespace Ampverif.Lemmas.C04
open Matrix Ampverif.Gen.C04

theorem nrm_neg (v : Fin 3 → ℝ) : nrm (-v) = nrm v := by
  unfold nrm; simp

theorem thetaOf_neg (v : Fin 3 → ℝ) : thetaOf (-v) = Real.pi - thetaOf v := by
  rw [thetaOf_eq, thetaOf_eq, nrm_neg, ← Real.arccos_neg, Pi.neg_apply, mul_neg]

theorem Rz3_phiOf_neg (v : Fin 3 → ℝ) (hxy : 0 < v 0 ^ 2 + v 1 ^ 2) :
    Rz3 (phiOf (-v)) = Rz3 (phiOf v + Real.pi) := by
  have := Rz3_PhiOf_rot (v 0) (v 1) Real.pi hxy
  rw [Real.cos_pi, Real.sin_pi, zero_mul, zero_mul, sub_zero, zero_add, neg_one_mul,
    neg_one_mul] at this
  exact this

theorem Rz_pi_Ry (θ : ℝ) : Rz3 Real.pi * Ry3 (Real.pi - θ) = Ry3 (θ + Real.pi) * Rz3 Real.pi := by
  rw [Ry3, Ry3, Rz3, Real.cos_pi, Real.sin_pi, Real.cos_pi_sub, Real.sin_pi_sub, Real.cos_add_pi,
    Real.sin_add_pi, Matrix.mul_fin_three, Matrix.mul_fin_three]
  simp

/-- the frame of the opposite direction: `h(−v) = h(v) · Ry(π) · Rz(π)` (v off the z axis) -/
theorem hframe_neg (v : Fin 3 → ℝ) (hxy : 0 < v 0 ^ 2 + v 1 ^ 2) :
    hframe (phiOf (-v)) (thetaOf (-v)) = hframe (phiOf v) (thetaOf v) * Ry3 Real.pi * Rz3 Real.pi := by
  rw [hframe, hframe, thetaOf_neg, Rz3_phiOf_neg v hxy, ← Rz3_add, Matrix.mul_assoc, Rz_pi_Ry,
    ← Ry3_add]
  simp only [Matrix.mul_assoc]

theorem Ry3_pi_mul_Rz3 (a : ℝ) : Ry3 Real.pi * Rz3 a = Rz3 (-a) * Ry3 Real.pi := by
  rw [Ry3, Rz3, Rz3, Real.cos_pi, Real.sin_pi, Real.cos_neg, Real.sin_neg, Matrix.mul_fin_three,
    Matrix.mul_fin_three]
  simp

/-- Two back-to-back subsystems (the two children of a node in the parent's rest frame): if the
frame of the first turns by `Rz(−δ)` under a global rotation, the frame of the second turns by
`Rz(+δ)`, i.e. its subtree sees the rotation `Rz(−δ)`. -/
theorem second_child_angle {R : Matrix (Fin 3) (Fin 3) ℝ} (hR : IsRot R) (v : Fin 3 → ℝ)
    (hxy : 0 < v 0 ^ 2 + v 1 ^ 2) (hxy' : 0 < (R *ᵥ v) 0 ^ 2 + (R *ᵥ v) 1 ^ 2) (δ δ₂ : ℝ)
    (h1 : hframe (phiOf (R *ᵥ v)) (thetaOf (R *ᵥ v)) = R * hframe (phiOf v) (thetaOf v) * Rz3 (-δ))
    (h2 : hframe (phiOf (R *ᵥ (-v))) (thetaOf (R *ᵥ (-v)))
        = R * hframe (phiOf (-v)) (thetaOf (-v)) * Rz3 (-δ₂)) :
    Rz3 δ₂ = Rz3 (-δ) := by
  rw [Matrix.mulVec_neg, hframe_neg (R *ᵥ v) hxy', hframe_neg v hxy, h1] at h2
  have e : Rz3 δ = Rz3 (-δ₂) := by
    apply (Rz3_isRot Real.pi).mul_left_cancel
    apply (Ry3_isRot Real.pi).mul_left_cancel
    apply (hframe_isRot (phiOf v) (thetaOf v)).mul_left_cancel
    apply hR.mul_left_cancel
    rw [Rz3_add Real.pi δ, add_comm, ← Rz3_add, ← Matrix.mul_assoc (Ry3 Real.pi), Ry3_pi_mul_Rz3]
    simpa only [Matrix.mul_assoc] using h2
  rw [← neg_neg δ₂, ← Rz3_transpose, ← e, Rz3_transpose]

end Ampverif.Lemmas.C04
