/-
"This complex expression is the cast of a real / of a non-negative real."

The generated K-matrix parametrisations are complex-valued terms built from casts of real
parameters, `+ * ⁻¹ ^n` and the principal square root `z ^ (1/2)`; `IsRe`/`IsNN` are closed under
these operations.
-/
import Ampverif.Lemmas.C11Branch
import Mathlib.Analysis.SpecialFunctions.Sqrt
import Mathlib.Analysis.Complex.Basic

namespace Ampverif.Lemmas.C09

def IsRe (z : ℂ) : Prop := ∃ r : ℝ, z = (r : ℂ)

def IsNN (z : ℂ) : Prop := ∃ r : ℝ, 0 ≤ r ∧ z = (r : ℂ)

theorem IsNN.isRe {z : ℂ} (h : IsNN z) : IsRe z := let ⟨r, _, e⟩ := h; ⟨r, e⟩

theorem IsRe.conj_eq {z : ℂ} (h : IsRe z) : (starRingEnd ℂ) z = z := by
  obtain ⟨r, rfl⟩ := h; exact Complex.conj_ofReal r

theorem isRe_of_conj {z : ℂ} (h : (starRingEnd ℂ) z = z) : IsRe z := by
  obtain ⟨r, hr⟩ := Complex.conj_eq_iff_real.1 h
  exact ⟨r, hr⟩

theorem IsRe.ofReal (r : ℝ) : IsRe (r : ℂ) := ⟨r, rfl⟩
theorem IsNN.ofReal {r : ℝ} (h : 0 ≤ r) : IsNN (r : ℂ) := ⟨r, h, rfl⟩

theorem IsRe.one : IsRe (1 : ℂ) := ⟨1, by simp⟩
theorem IsNN.one : IsNN (1 : ℂ) := ⟨1, zero_le_one, by simp⟩
theorem IsRe.zero : IsRe (0 : ℂ) := ⟨0, by simp⟩

theorem IsRe.add {a b : ℂ} (ha : IsRe a) (hb : IsRe b) : IsRe (a + b) := by
  obtain ⟨x, rfl⟩ := ha; obtain ⟨y, rfl⟩ := hb; exact ⟨x + y, by push_cast; rfl⟩
theorem IsRe.mul {a b : ℂ} (ha : IsRe a) (hb : IsRe b) : IsRe (a * b) := by
  obtain ⟨x, rfl⟩ := ha; obtain ⟨y, rfl⟩ := hb; exact ⟨x * y, by push_cast; rfl⟩
theorem IsRe.neg {a : ℂ} (ha : IsRe a) : IsRe (-a) := by
  obtain ⟨x, rfl⟩ := ha; exact ⟨-x, by push_cast; rfl⟩
theorem IsRe.sub {a b : ℂ} (ha : IsRe a) (hb : IsRe b) : IsRe (a - b) := by
  obtain ⟨x, rfl⟩ := ha; obtain ⟨y, rfl⟩ := hb; exact ⟨x - y, by push_cast; rfl⟩
theorem IsRe.inv {a : ℂ} (ha : IsRe a) : IsRe a⁻¹ := by
  obtain ⟨x, rfl⟩ := ha; exact ⟨x⁻¹, by push_cast; rfl⟩
theorem IsRe.div {a b : ℂ} (ha : IsRe a) (hb : IsRe b) : IsRe (a / b) := by
  obtain ⟨x, rfl⟩ := ha; obtain ⟨y, rfl⟩ := hb; exact ⟨x / y, by push_cast; rfl⟩
theorem IsRe.pow {a : ℂ} (ha : IsRe a) (n : ℕ) : IsRe (a ^ n) := by
  obtain ⟨x, rfl⟩ := ha; exact ⟨x ^ n, by push_cast; rfl⟩

theorem IsNN.add {a b : ℂ} (ha : IsNN a) (hb : IsNN b) : IsNN (a + b) := by
  obtain ⟨x, hx, rfl⟩ := ha; obtain ⟨y, hy, rfl⟩ := hb
  exact ⟨x + y, add_nonneg hx hy, by push_cast; rfl⟩
theorem IsNN.mul {a b : ℂ} (ha : IsNN a) (hb : IsNN b) : IsNN (a * b) := by
  obtain ⟨x, hx, rfl⟩ := ha; obtain ⟨y, hy, rfl⟩ := hb
  exact ⟨x * y, mul_nonneg hx hy, by push_cast; rfl⟩
theorem IsNN.inv {a : ℂ} (ha : IsNN a) : IsNN a⁻¹ := by
  obtain ⟨x, hx, rfl⟩ := ha; exact ⟨x⁻¹, inv_nonneg.2 hx, by push_cast; rfl⟩
theorem IsNN.div {a b : ℂ} (ha : IsNN a) (hb : IsNN b) : IsNN (a / b) := by
  obtain ⟨x, hx, rfl⟩ := ha; obtain ⟨y, hy, rfl⟩ := hb
  exact ⟨x / y, div_nonneg hx hy, by push_cast; rfl⟩
theorem IsNN.pow {a : ℂ} (ha : IsNN a) (n : ℕ) : IsNN (a ^ n) := by
  obtain ⟨x, hx, rfl⟩ := ha; exact ⟨x ^ n, pow_nonneg hx n, by push_cast; rfl⟩
theorem IsNN.sq_of_isRe {a : ℂ} (ha : IsRe a) : IsNN (a ^ 2) := by
  obtain ⟨x, rfl⟩ := ha; exact ⟨x ^ 2, sq_nonneg x, by push_cast; rfl⟩

theorem csqrt_ofReal {r : ℝ} (h : 0 ≤ r) : ((r : ℂ)) ^ ((1 : ℂ) / 2) = ((Real.sqrt r : ℝ) : ℂ) :=
  C11.csqrt_ofReal_of_nonneg h

theorem IsNN.csqrt {a : ℂ} (ha : IsNN a) : IsNN (a ^ ((1 : ℂ) / 2)) := by
  obtain ⟨x, hx, rfl⟩ := ha
  exact ⟨Real.sqrt x, Real.sqrt_nonneg x, csqrt_ofReal hx⟩

/-- `(z^(1/2))^2 = z` for every complex `z` (no sign condition). -/
theorem csqrt_sq (z : ℂ) : (z ^ ((1 : ℂ) / 2)) ^ 2 = z := C11.csqrt_sq z

theorem csqrt_mul_self (z : ℂ) : z ^ ((1 : ℂ) / 2) * z ^ ((1 : ℂ) / 2) = z := by
  rw [← sq]; exact csqrt_sq z

/-- For a non-negative real the principal root is real, hence fixed by conjugation. -/
theorem conj_csqrt_ofReal {r : ℝ} (h : 0 ≤ r) :
    (starRingEnd ℂ) (((r : ℂ)) ^ ((1 : ℂ) / 2)) = ((Real.sqrt r : ℝ) : ℂ) := by
  rw [csqrt_ofReal h, Complex.conj_ofReal]

end Ampverif.Lemmas.C09
