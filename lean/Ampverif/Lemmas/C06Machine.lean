/-
Helper lemmas for C06: `core` depends on the merged kinematic-variable dict only as a finite map.
-/
import Ampverif.Lemmas.C06Order

namespace Ampverif.C06

/-- same finite map, both proper dicts -/
def KEq (d d' : SymDict) : Prop := DEquiv d d' ∧ NodupKeys d ∧ NodupKeys d'

theorem KEq.dset {d d' : SymDict} (h : KEq d d') (k : Sym) (v : Expr) : KEq (dset d k v) (dset d' k v) :=
  ⟨h.1.dset k v, h.2.1.dset k v, h.2.2.dset k v⟩

theorem KEq.ddel {d d' : SymDict} (h : KEq d d') (k : Sym) : KEq (ddel d k) (ddel d' k) :=
  ⟨h.1.ddel k, h.2.1.ddel k, h.2.2.ddel k⟩

theorem KEq.dupdate {d d' : SymDict} (h : KEq d d') (e : SymDict) : KEq (dupdate d e) (dupdate d' e) :=
  ⟨h.1.dupdate e, h.2.1.dupdate e, h.2.2.dupdate e⟩

theorem xreplace_congr {d d' : SymDict} (h : DEquiv d d') (e : Expr) : xreplace d e = xreplace d' e := by
  induction e with
  | nil => rfl
  | cons a t ih =>
    simp only [xreplace, List.flatMap_cons] at ih ⊢
    rw [ih]
    cases a with
    | sym s => simp only []; rw [h s]
    | invMass _ => rfl
    | other _ => rfl

/-- same ingredients, same kinematic variables as a finite map -/
def MRel (st st' : Ingr × SymDict) : Prop := st.1 = st'.1 ∧ KEq st.2 st'.2

def LRel (a b : LoopState) : Prop := a.ing = b.ing ∧ a.syms = b.syms ∧ KEq a.kin b.kin

def SymNameInjective (w : World) : Prop := ∀ s t : Sym, w.symName s = w.symName t → s = t

section
variable {w : World} {r : Nat} {cfg : Cfg}

theorem massStep_congr {st st' : Ingr × SymDict} (h : MRel st st') (ids : List Nat) :
    MRel (massStep w r cfg st ids) (massStep w r cfg st' ids) :=
  ite_rel _ ⟨h.1 ▸ rfl, h.2⟩ (ite_rel _ h ⟨h.1, h.2.dset _ _⟩)

theorem alignStep_congr {a b : LoopState} (h : LRel a b) (entry : Sym × Expr) :
    LRel (alignStep w r cfg a entry) (alignStep w r cfg b entry) := by
  obtain ⟨hi, hs, hk⟩ := h
  have hf := foldl_rel (R := MRel) (massSymsOf (xreplace b.kin entry.2))
    (fun _ _ ids h => massStep_congr (w := w) (r := r) (cfg := cfg) h ids)
    (show MRel (a.ing, a.kin) (b.ing, b.kin) from ⟨hi, hk⟩)
  unfold alignStep
  simp only []
  rw [xreplace_congr hk.1]
  refine ⟨hf.1, ?_, hf.2⟩
  simp only []
  rw [hs, xreplace_congr hf.2.1]

theorem sortKin_congr (hinj : SymNameInjective w) {d d' : SymDict} (h : KEq d d') :
    isort (symLe true w) d = isort (symLe true w) d' :=
  isort_eq_of_dequiv nameLe_linOrd (f := w.symName) hinj h.2.1 h.2.2 h.1

variable (hinj : SymNameInjective w) {amp : List Nat} {obs : List (List Nat)} {syms : SymDict}
  {kin kin' : SymDict} (h : KEq kin kin')
include hinj h

theorem coreTail_congr {ing3 : Ingr} :
    coreTail true w r cfg amp obs ing3 syms kin = coreTail true w r cfg amp obs ing3 syms kin' := by
  obtain ⟨hi, hs, hk⟩ := foldl_rel (R := LRel) syms
    (fun _ _ e h => alignStep_congr (w := w) (r := r) (cfg := cfg) h e)
    (show LRel ⟨ing3, kin, syms⟩ ⟨ing3, kin', syms⟩ from ⟨rfl, rfl, h⟩)
  unfold coreTail
  simp only []
  rw [hi, hs, sortKin_congr hinj (hk.dupdate _)]

theorem core_congr {ing0 : Ingr} {zo : List (List Nat)} :
    core true w r cfg ing0 amp obs zo syms kin = core true w r cfg ing0 amp obs zo syms kin' := by
  have e1 : (fun i => (dget kin (massSym [i])).isNone) = (fun i => (dget kin' (massSym [i])).isNone) := by
    funext i; rw [h.1]
  have hk1 := foldl_rel (R := KEq) (cfg.stable.getD []) (fun _ _ i h => h.ddel (massSym [i])) h
  unfold core
  simp only []
  rw [e1, hk1.1 (massSym (w.finalIds r)), coreTail_congr hinj (ite_rel _ (hk1.ddel _) hk1)]

end

end Ampverif.C06
