/-
Helper lemmas for C11/C12: principal square root and logarithm of a real number seen in ℂ.
(`x ^ (1/2 : ℂ)` is how the translator prints SymPy's/numpy's principal `sqrt`.)
-/
import Mathlib.Analysis.SpecialFunctions.Pow.Real
import Mathlib.Analysis.SpecialFunctions.Complex.Log
import Mathlib.Analysis.SpecialFunctions.Pow.Complex
import Mathlib.Analysis.Real.Sqrt

namespace Ampverif.Lemmas.C11
open Complex

/-- principal root of a non-negative real -/
theorem csqrt_ofReal_of_nonneg {x : ℝ} (hx : 0 ≤ x) :
    ((x : ℝ) : ℂ) ^ ((1 : ℂ) / 2) = ((Real.sqrt x : ℝ) : ℂ) := by
  rw [Real.sqrt_eq_rpow, Complex.ofReal_cpow hx]
  norm_num

/-- principal root of a negative real: `+i√(-x)` -/
theorem csqrt_ofReal_of_neg {x : ℝ} (hx : x < 0) :
    ((x : ℝ) : ℂ) ^ ((1 : ℂ) / 2) = Complex.I * ((Real.sqrt (-x) : ℝ) : ℂ) := by
  rw [Complex.ofReal_cpow_of_nonpos hx.le]
  have h1 : (-(x : ℂ)) ^ ((1 : ℂ) / 2) = ((Real.sqrt (-x) : ℝ) : ℂ) := by
    rw [← Complex.ofReal_neg]
    exact csqrt_ofReal_of_nonneg (by linarith)
  have h2 : Complex.exp (↑Real.pi * Complex.I * ((1 : ℂ) / 2)) = Complex.I := by
    have : (↑Real.pi * Complex.I * ((1 : ℂ) / 2)) = ↑(Real.pi / 2) * Complex.I := by
      push_cast; ring
    rw [this, Complex.exp_mul_I]
    simp
  rw [h1, h2, mul_comm]

theorem csqrt_sq (z : ℂ) : (z ^ ((1 : ℂ) / 2)) ^ 2 = z := by
  rw [one_div]
  exact Complex.cpow_ofNat_inv_pow z 2

theorem csqrt_ne_zero {z : ℂ} (hz : z ≠ 0) : z ^ ((1 : ℂ) / 2) ≠ 0 := fun h =>
  hz (by rw [← csqrt_sq z, h, zero_pow two_ne_zero])

/-- principal logarithm of a positive real -/
theorem clog_ofReal_of_pos {x : ℝ} (hx : 0 < x) :
    Complex.log ((x : ℝ) : ℂ) = ((Real.log x : ℝ) : ℂ) :=
  (Complex.ofReal_log hx.le).symm

/-- principal logarithm of a negative real: `log|x| + iπ` -/
theorem clog_ofReal_of_neg {x : ℝ} (hx : x < 0) :
    Complex.log ((x : ℝ) : ℂ) = ((Real.log (-x) : ℝ) : ℂ) + (Real.pi : ℂ) * Complex.I := by
  apply Complex.ext
  · simp [Complex.log_re, Real.log_neg_eq_log]
  · simp [Complex.log_im, Complex.arg_ofReal_of_neg hx]

end Ampverif.Lemmas.C11
