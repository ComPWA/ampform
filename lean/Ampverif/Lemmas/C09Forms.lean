/-
`formulate(n, n_R)` substitutes the parametrisation into the symbolic matrix expression and
simplifies. Over the entries `a b c d` of a K-matrix with `b = c` the regenerated result has, for
every number of poles, one of the shapes below (it mentions the off-diagonal entry only as `c`, and
`c ^ 2` where the matrix expression has `K₀₁ K₁₀`); each is the matrix expression of `Gen.C09`.
-/
import Ampverif.Gen.C09
import Mathlib.Tactic.Ring

namespace Ampverif.Lemmas.C09
open Ampverif.Gen.C09

theorem nrT2_den2_eq (a b c d : ℂ) : nrT2_den2 a b c d = -nrT2_den1 a b c d := by
  simp only [nrT2_den1, nrT2_den2]; ring

theorem relForm1_shape (ρ0 a : ℂ) :
    (Complex.I * ((Complex.I + (ρ0 * a)))⁻¹ * ((ρ0) ^ ((1 : ℂ) / 2)) * a
        * ((starRingEnd ℂ) ((ρ0) ^ ((1 : ℂ) / 2))))
      = relT1_00 ρ0 a := by
  simp only [relT1_00, relT1_den1]; ring

theorem nrForm2_shape (a b c d : ℂ) (h : b = c) :
    let Δ₁ : ℂ := (-1 : ℂ) + ((-1 : ℂ) * (c ^ 2)) + (Complex.I * a) + (Complex.I * d) + (a * d)
    let Δ₂ : ℂ := (1 : ℂ) + (c ^ 2) + ((-1 : ℂ) * Complex.I * a) + ((-1 : ℂ) * Complex.I * d)
      + ((-1 : ℂ) * a * d)
    ((Complex.I * Δ₂⁻¹ * (c ^ 2)) + (Δ₁⁻¹ * ((-1 : ℂ) + (Complex.I * d)) * a))
      = nrT2_00 a b c d ∧
    ((Δ₂⁻¹ * ((1 : ℂ) + ((-1 : ℂ) * Complex.I * a)) * c) + ((-1 : ℂ) * Complex.I * Δ₁⁻¹ * a * c))
      = nrT2_01 a b c d ∧
    ((Δ₁⁻¹ * ((-1 : ℂ) + (Complex.I * d)) * c) + (Complex.I * Δ₂⁻¹ * d * c))
      = nrT2_10 a b c d ∧
    ((Δ₂⁻¹ * ((1 : ℂ) + ((-1 : ℂ) * Complex.I * a)) * d) + ((-1 : ℂ) * Complex.I * Δ₁⁻¹ * (c ^ 2)))
      = nrT2_11 a b c d := by
  subst h
  refine ⟨?_, ?_, ?_, ?_⟩ <;>
    simp only [nrT2_00, nrT2_01, nrT2_10, nrT2_11, nrT2_den1, nrT2_den2] <;>
    ring

theorem relFormHat2_shape (ρ0 ρ1 a b c d : ℂ) (h : b = c) :
    let Δ : ℂ := (-1 : ℂ) + (Complex.I * ρ0 * a) + (Complex.I * ρ1 * d)
      + ((-1 : ℂ) * (c ^ 2) * ρ0 * ρ1) + (ρ0 * ρ1 * a * d)
    ((Δ⁻¹ * ((-1 : ℂ) + (Complex.I * ρ1 * d)) * a) + ((-1 : ℂ) * Complex.I * Δ⁻¹ * (c ^ 2) * ρ1))
      = relTh2_00 ρ0 ρ1 a b c d ∧
    ((Δ⁻¹ * ((-1 : ℂ) + (Complex.I * ρ0 * a)) * c) + ((-1 : ℂ) * Complex.I * Δ⁻¹ * ρ0 * a * c))
      = relTh2_01 ρ0 ρ1 a b c d ∧
    ((Δ⁻¹ * ((-1 : ℂ) + (Complex.I * ρ1 * d)) * c) + ((-1 : ℂ) * Complex.I * Δ⁻¹ * ρ1 * d * c))
      = relTh2_10 ρ0 ρ1 a b c d ∧
    ((Δ⁻¹ * ((-1 : ℂ) + (Complex.I * ρ0 * a)) * d) + ((-1 : ℂ) * Complex.I * Δ⁻¹ * (c ^ 2) * ρ0))
      = relTh2_11 ρ0 ρ1 a b c d := by
  subst h
  refine ⟨?_, ?_, ?_, ?_⟩ <;> simp only [relTh2_00, relTh2_01, relTh2_10, relTh2_11, relT2_den1] <;>
    ring

theorem relForm2_shape (ρ0 ρ1 a b c d : ℂ) (h : b = c) :
    let Δ : ℂ := (-1 : ℂ) + (Complex.I * ρ0 * a) + (Complex.I * ρ1 * d)
      + ((-1 : ℂ) * (c ^ 2) * ρ0 * ρ1) + (ρ0 * ρ1 * a * d)
    (((ρ0) ^ ((1 : ℂ) / 2)) * ((Δ⁻¹ * ((-1 : ℂ) + (Complex.I * ρ1 * d)) * a)
        + ((-1 : ℂ) * Complex.I * Δ⁻¹ * (c ^ 2) * ρ1))
        * ((starRingEnd ℂ) ((ρ0) ^ ((1 : ℂ) / 2))))
      = relT2_00 ρ0 ρ1 a b c d ∧
    (((ρ1) ^ ((1 : ℂ) / 2)) * ((Δ⁻¹ * ((-1 : ℂ) + (Complex.I * ρ0 * a)) * c)
        + ((-1 : ℂ) * Complex.I * Δ⁻¹ * ρ0 * a * c))
        * ((starRingEnd ℂ) ((ρ0) ^ ((1 : ℂ) / 2))))
      = relT2_01 ρ0 ρ1 a b c d ∧
    (((ρ0) ^ ((1 : ℂ) / 2)) * ((Δ⁻¹ * ((-1 : ℂ) + (Complex.I * ρ1 * d)) * c)
        + ((-1 : ℂ) * Complex.I * Δ⁻¹ * ρ1 * d * c))
        * ((starRingEnd ℂ) ((ρ1) ^ ((1 : ℂ) / 2))))
      = relT2_10 ρ0 ρ1 a b c d ∧
    (((ρ1) ^ ((1 : ℂ) / 2)) * ((Δ⁻¹ * ((-1 : ℂ) + (Complex.I * ρ0 * a)) * d)
        + ((-1 : ℂ) * Complex.I * Δ⁻¹ * (c ^ 2) * ρ0))
        * ((starRingEnd ℂ) ((ρ1) ^ ((1 : ℂ) / 2))))
      = relT2_11 ρ0 ρ1 a b c d := by
  subst h
  refine ⟨?_, ?_, ?_, ?_⟩ <;> simp only [relT2_00, relT2_01, relT2_10, relT2_11, relT2_den1] <;>
    ring

end Ampverif.Lemmas.C09
