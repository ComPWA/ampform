/-
Four-vectors by components, Minkowski product, and the covariant form of "cosine of the angle
between `a` and `b` seen in the rest frame of `Q`" (a ratio of Gram determinants).
-/
import Ampverif.Lemmas.C19Basic

namespace Ampverif.Lemmas.C19

structure V4 where
  E : ℝ
  x : ℝ
  y : ℝ
  z : ℝ

namespace V4

theorem ext_of {a b : V4} (hE : a.E = b.E) (hx : a.x = b.x) (hy : a.y = b.y) (hz : a.z = b.z) :
    a = b := by
  cases a; cases b; simp only [mk.injEq]; exact ⟨hE, hx, hy, hz⟩

instance : Add V4 := ⟨fun a b => ⟨a.E + b.E, a.x + b.x, a.y + b.y, a.z + b.z⟩⟩

@[simp] theorem add_E (a b : V4) : (a + b).E = a.E + b.E := rfl
@[simp] theorem add_x (a b : V4) : (a + b).x = a.x + b.x := rfl
@[simp] theorem add_y (a b : V4) : (a + b).y = a.y + b.y := rfl
@[simp] theorem add_z (a b : V4) : (a + b).z = a.z + b.z := rfl

def dot (a b : V4) : ℝ := a.E * b.E - a.x * b.x - a.y * b.y - a.z * b.z

def dot3 (a b : V4) : ℝ := a.x * b.x + a.y * b.y + a.z * b.z

theorem dot_comm (a b : V4) : dot a b = dot b a := by
  unfold dot; ring

theorem dot_add_left (a b c : V4) : dot (a + b) c = dot a c + dot b c := by
  simp only [dot, add_E, add_x, add_y, add_z]; ring

theorem dot_add_right (a b c : V4) : dot a (b + c) = dot a b + dot a c := by
  simp only [dot, add_E, add_x, add_y, add_z]; ring

/-- Lorentz-invariant expression that equals `â·b̂` (three-vectors) in the rest frame of `Q`:
`[(Q·a)(Q·b) − Q²(a·b)] / (√((Q·a)² − Q²a²) √((Q·b)² − Q²b²))`. -/
noncomputable def covCos (Q a b : V4) : ℝ :=
  (dot Q a * dot Q b - dot Q Q * dot a b)
    / (Real.sqrt (dot Q a ^ 2 - dot Q Q * dot a a) * Real.sqrt (dot Q b ^ 2 - dot Q Q * dot b b))

theorem covCos_comm (Q a b : V4) : covCos Q a b = covCos Q b a := by
  unfold covCos
  rw [dot_comm a b, mul_comm (dot Q a) (dot Q b), mul_comm (Real.sqrt _) (Real.sqrt _)]

/-- in the rest frame of `Q` the form `H_Q(a,b) = (Q·a)(Q·b) − Q²(a·b)` is `Q₀²` times the
Euclidean product of the three-momenta -/
theorem rest_form (Q a b : V4) (hx : Q.x = 0) (hy : Q.y = 0) (hz : Q.z = 0) :
    dot Q a * dot Q b - dot Q Q * dot a b = Q.E ^ 2 * dot3 a b := by
  simp only [dot, dot3, hx, hy, hz]; ring

theorem dot_self_rest (Q : V4) (hx : Q.x = 0) (hy : Q.y = 0) (hz : Q.z = 0) :
    dot Q Q = Q.E ^ 2 := by
  simp only [dot, hx, hy, hz]; ring

/-- Cauchy–Schwarz for three-momenta, from Lagrange's identity -/
theorem dot3_sq_le (a b : V4) : dot3 a b ^ 2 ≤ dot3 a a * dot3 b b := by
  have : dot3 a a * dot3 b b - dot3 a b ^ 2
      = (a.y * b.z - a.z * b.y) ^ 2 + (a.z * b.x - a.x * b.z) ^ 2 + (a.x * b.y - a.y * b.x) ^ 2 := by
    unfold dot3; ring
  have h : 0 ≤ dot3 a a * dot3 b b - dot3 a b ^ 2 := by rw [this]; positivity
  linarith

/-- In the rest frame of `Q` the covariant expression is the cosine of the angle between the
three-momenta of `a` and `b`. -/
theorem covCos_rest (Q a b : V4) (hx : Q.x = 0) (hy : Q.y = 0) (hz : Q.z = 0) (hE : Q.E ≠ 0) :
    covCos Q a b = dot3 a b / (Real.sqrt (dot3 a a) * Real.sqrt (dot3 b b)) := by
  have hpos : 0 < Q.E ^ 2 := by positivity
  have hs : Real.sqrt (Q.E ^ 2) ^ 2 = Q.E ^ 2 := Real.sq_sqrt hpos.le
  have hne : Real.sqrt (Q.E ^ 2) ≠ 0 := (Real.sqrt_pos.mpr hpos).ne'
  unfold covCos
  rw [sq, sq, rest_form Q a b hx hy hz, rest_form Q a a hx hy hz, rest_form Q b b hx hy hz,
    Real.sqrt_mul hpos.le, Real.sqrt_mul hpos.le]
  generalize Real.sqrt (Q.E ^ 2) = r at *
  rw [← hs]
  rw [div_eq_mul_inv, div_eq_mul_inv, mul_inv, mul_inv, mul_inv]
  field_simp

end V4

/-- The library's seven mass symbols are the invariant masses of the event `p₁, p₂, p₃`. -/
structure Masses (p1 p2 p3 : V4) (m_0 m_1 m_2 m_3 m_12 m_13 m_23 : ℝ) : Prop where
  h0 : m_0 ^ 2 = V4.dot (p1 + p2 + p3) (p1 + p2 + p3)
  h1 : m_1 ^ 2 = V4.dot p1 p1
  h2 : m_2 ^ 2 = V4.dot p2 p2
  h3 : m_3 ^ 2 = V4.dot p3 p3
  h12 : m_12 ^ 2 = V4.dot (p1 + p2) (p1 + p2)
  h13 : m_13 ^ 2 = V4.dot (p1 + p3) (p1 + p3)
  h23 : m_23 ^ 2 = V4.dot (p2 + p3) (p2 + p3)

/-- `σ₁ + σ₂ + σ₃ = m₀² + m₁² + m₂² + m₃²` holds for every event. -/
theorem Masses.constraint {p1 p2 p3 : V4} {m_0 m_1 m_2 m_3 m_12 m_13 m_23 : ℝ}
    (h : Masses p1 p2 p3 m_0 m_1 m_2 m_3 m_12 m_13 m_23) :
    m_12 ^ 2 + m_13 ^ 2 + m_23 ^ 2 = m_0 ^ 2 + m_1 ^ 2 + m_2 ^ 2 + m_3 ^ 2 := by
  rw [h.h0, h.h1, h.h2, h.h3, h.h12, h.h13, h.h23]
  simp only [V4.dot, V4.add_E, V4.add_x, V4.add_y, V4.add_z]
  ring

end Ampverif.Lemmas.C19
