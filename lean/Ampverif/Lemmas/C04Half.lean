/-
C04, layer (I), J = 1/2 — SymPy's `Rotation.D(1/2, m, m', α, β, γ).doit()` (regenerated 2×2 matrix
`Gen.C04.Dh`): factorisation `uz α · uy β · uz γ`, unitarity, diagonal on z-rotations, additivity on
the Euler generators, and the SU(2) sign: `Dh (α + 2π) β γ = −Dh α β γ` although the rotation is the
same — so there is no `WignerRep` with weight 1/2.
-/
import Ampverif.Lemmas.C04Inst
namespace Ampverif.Lemmas.C04
open Matrix Ampverif.Gen.C04

/-- `e^{ix}` for real `x` -/
noncomputable def ce (x : ℝ) : ℂ := Complex.exp ((x : ℂ) * Complex.I)

theorem ce_add (x y : ℝ) : ce x * ce y = ce (x + y) := expI_add x y
theorem ce_zero : ce 0 = 1 := expI_zero
theorem ce_conj (x : ℝ) : (starRingEnd ℂ) (ce x) = ce (-x) := expI_conj x
theorem ce_pi : ce Real.pi = -1 := by rw [ce, Complex.exp_pi_mul_I]
theorem ce_neg_pi : ce (-Real.pi) = -1 := by
  rw [ce]; push_cast; rw [neg_mul, Complex.exp_neg, Complex.exp_pi_mul_I]; norm_num

/- The entries of the generated `Gen.C04.Dh` spell their exponentials and half-angle functions as
`exp(∓1/2·I·a)`, `cos(1/2·b)`, `sin(1/2·b)` over ℂ; the next four lemmas bring them to `ce` and the real
functions. -/
theorem gexpn (a : ℝ) : Complex.exp (((-1 : ℂ) / 2) * Complex.I * (a : ℂ)) = ce (-a / 2) := by
  rw [ce]; congr 1; push_cast; ring
theorem gexpp (a : ℝ) : Complex.exp (((1 : ℂ) / 2) * Complex.I * (a : ℂ)) = ce (a / 2) := by
  rw [ce]; congr 1; push_cast; ring
theorem gcos (b : ℝ) : Complex.cos (((1 : ℂ) / 2) * (b : ℂ)) = ((Real.cos (b / 2) : ℝ) : ℂ) := by
  rw [Complex.ofReal_cos]; congr 1; push_cast; ring
theorem gsin (b : ℝ) : Complex.sin (((1 : ℂ) / 2) * (b : ℂ)) = ((Real.sin (b / 2) : ℝ) : ℂ) := by
  rw [Complex.ofReal_sin]; congr 1; push_cast; ring

/-- `diag(e^{-ia/2}, e^{ia/2})` -/
noncomputable def uz (a : ℝ) : Matrix (Fin 2) (Fin 2) ℂ := !![ce (-a / 2), 0; 0, ce (a / 2)]

/-- the real rotation by `b/2` -/
noncomputable def uy (b : ℝ) : Matrix (Fin 2) (Fin 2) ℂ :=
  !![((Real.cos (b / 2) : ℝ) : ℂ), -((Real.sin (b / 2) : ℝ) : ℂ);
     ((Real.sin (b / 2) : ℝ) : ℂ), ((Real.cos (b / 2) : ℝ) : ℂ)]

theorem mat2_congr {a b c d a' b' c' d' : ℂ} (ha : a = a') (hb : b = b') (hc : c = c') (hd : d = d') :
    !![a, b; c, d] = !![a', b'; c', d'] := by rw [ha, hb, hc, hd]

/-- SymPy's D^{1/2}(α,β,γ) factorises as `uz α · uy β · uz γ` -/
theorem Dh_factor (α β γ : ℝ) : Dh α β γ = uz α * uy β * uz γ := by
  rw [uz, uy, uz, Matrix.mul_fin_two, Matrix.mul_fin_two, Dh]
  simp only [Dh_p_p, Dh_p_m, Dh_m_p, Dh_m_m, gexpn, gexpp, gcos, gsin]
  refine mat2_congr ?_ ?_ ?_ ?_ <;> ring

theorem uz_add (a b : ℝ) : uz a * uz b = uz (a + b) := by
  rw [uz, uz, uz, Matrix.mul_fin_two]
  refine mat2_congr ?_ (by simp) (by simp) ?_
  · rw [mul_zero, add_zero, ce_add, neg_add, add_div]
  · rw [mul_zero, zero_add, ce_add, add_div]

theorem uy_add (a b : ℝ) : uy a * uy b = uy (a + b) := by
  rw [uy, uy, uy, Matrix.mul_fin_two, add_div, Real.cos_add, Real.sin_add]
  push_cast
  refine mat2_congr ?_ ?_ ?_ ?_ <;> ring

theorem uz_zero : uz 0 = 1 := by
  rw [uz, neg_zero, zero_div, ce_zero, ← Matrix.one_fin_two]

theorem uy_zero : uy 0 = 1 := by
  rw [uy, zero_div, Real.cos_zero, Real.sin_zero, Complex.ofReal_zero, Complex.ofReal_one, neg_zero,
    ← Matrix.one_fin_two]

theorem uz_conjTranspose (a : ℝ) : (uz a)ᴴ = uz (-a) := by
  rw [Matrix.eta_fin_two (uz a)ᴴ, uz, uz, neg_neg]
  refine mat2_congr ?_ ?_ ?_ ?_ <;> simp [ce_conj, neg_div]

theorem uy_conjTranspose (b : ℝ) : (uy b)ᴴ = uy (-b) := by
  rw [Matrix.eta_fin_two (uy b)ᴴ, uy, uy, neg_div, Real.cos_neg, Real.sin_neg]
  refine mat2_congr ?_ ?_ ?_ ?_ <;> simp [-Complex.ofReal_cos, -Complex.ofReal_sin]

theorem uz_unitary (a : ℝ) : (uz a)ᴴ * uz a = 1 := by
  rw [uz_conjTranspose, uz_add, neg_add_cancel, uz_zero]

theorem uy_unitary (b : ℝ) : (uy b)ᴴ * uy b = 1 := by
  rw [uy_conjTranspose, uy_add, neg_add_cancel, uy_zero]

/-- SymPy's D^{1/2} is unitary for all angles -/
theorem Dh_unitary (α β γ : ℝ) : (Dh α β γ)ᴴ * Dh α β γ = 1 := by
  rw [Dh_factor, Matrix.conjTranspose_mul, Matrix.conjTranspose_mul]
  calc (uz γ)ᴴ * ((uy β)ᴴ * (uz α)ᴴ) * (uz α * uy β * uz γ)
      = (uz γ)ᴴ * ((uy β)ᴴ * ((uz α)ᴴ * uz α) * uy β) * uz γ := by simp only [Matrix.mul_assoc]
    _ = 1 := by rw [uz_unitary, Matrix.mul_one, uy_unitary, Matrix.mul_one, uz_unitary]

/-- diagonal `e^{∓iα/2}` on z-rotations -/
theorem Dh_z_diagonal (α : ℝ) : Dh α 0 0 = uz α := by
  rw [Dh_factor, uy_zero, uz_zero, Matrix.mul_one, Matrix.mul_one]

theorem Dh_z_additive (a b : ℝ) : Dh a 0 0 * Dh b 0 0 = Dh (a + b) 0 0 := by
  rw [Dh_z_diagonal, Dh_z_diagonal, Dh_z_diagonal, uz_add]

theorem Dh_y_additive (a b : ℝ) : Dh 0 a 0 * Dh 0 b 0 = Dh 0 (a + b) 0 := by
  simp only [Dh_factor, uz_zero, Matrix.one_mul, Matrix.mul_one, uy_add]

theorem Dh_euler (α β γ : ℝ) : Dh α β γ = Dh α 0 0 * Dh 0 β 0 * Dh γ 0 0 := by
  simp only [Dh_factor, uz_zero, uy_zero, Matrix.one_mul, Matrix.mul_one]

theorem uz_two_pi (a : ℝ) : uz (a + 2 * Real.pi) = -uz a := by
  rw [← uz_add]
  have : uz (2 * Real.pi) = -1 := by
    have e1 : -(2 * Real.pi) / 2 = -Real.pi := by ring
    have e2 : 2 * Real.pi / 2 = Real.pi := by ring
    ext i j
    fin_cases i <;> fin_cases j <;> simp [uz, e1, e2, ce_pi, ce_neg_pi]
  rw [this, Matrix.mul_neg, Matrix.mul_one]

/-- the SU(2) sign: one full turn multiplies D^{1/2} by −1 … -/
theorem Dh_two_pi (α β γ : ℝ) : Dh (α + 2 * Real.pi) β γ = -Dh α β γ := by
  rw [Dh_factor, Dh_factor, uz_two_pi, Matrix.neg_mul, Matrix.neg_mul]

/-- … although the rotation it belongs to is the same -/
theorem Rz3_two_pi (a : ℝ) : Rz3 (a + 2 * Real.pi) = Rz3 a := by
  apply Rz3_congr <;> simp

theorem euler_two_pi (α β γ : ℝ) : euler (α + 2 * Real.pi) β γ = euler α β γ := by
  rw [euler, euler, Rz3_two_pi]

/-- integer spin: no sign -/
theorem D1_two_pi (α β γ : ℝ) : D1 (α + 2 * Real.pi) β γ = D1 α β γ := by
  rw [sympy_D1_eq, sympy_D1_eq, euler_two_pi]

end Ampverif.Lemmas.C04
