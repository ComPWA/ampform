/-
C07 (Dalitz link): pure algebra behind "the library's chain `Bz(β)·Ry(−θ)·Rz(−φ)` lands in the rest
frame of the subsystem with the z axis along its flight direction, so that in a three-body decay
given in the rest frame of the decaying particle the cosine of the polar angle of a decay product
is minus the covariant cosine between that product and the spectator".

Nothing here mentions generated definitions: the matrix entries are variables constrained by the
equations the regenerated entries are shown to satisfy (`Props/C07Dalitz.lean`).
-/
import Ampverif.Lemmas.C19Vec
import Mathlib.Analysis.Real.Sqrt
import Mathlib.Tactic.Ring
import Mathlib.Tactic.Linarith
import Mathlib.Tactic.LinearCombination
import Mathlib.Tactic.Positivity
import Mathlib.Tactic.FieldSimp

namespace Ampverif.Lemmas.C07
open Ampverif.Lemmas.C19

/-- The frame vector `(E; X, Y, Z)` with `n = |(X,Y,Z)| > 0`, `pt = |(X,Y)| > 0`,
`m = √(E²−n²) > 0`; the rotation entries `cφ sφ cθ sθ` and boost entries `γ gb` as constrained;
`(Ei; x, y, z)` the momentum that is transformed, `(qx, qy, qz)` the result, `v2z` the z component
after the two rotations. -/
structure ChainData (E X Y Z Ei x y z cφ sφ cθ sθ γ gb n pt m qx qy qz v2z : ℝ) : Prop where
  hn : n ^ 2 = X ^ 2 + Y ^ 2 + Z ^ 2
  hn0 : 0 < n
  hpt : pt ^ 2 = X ^ 2 + Y ^ 2
  hpt0 : 0 < pt
  h1 : cφ * pt = X
  h2 : sφ * pt = -Y
  h3 : cθ * n = Z
  h4 : sθ * n = -pt
  hm : m ^ 2 = E ^ 2 - n ^ 2
  hm0 : 0 < m
  hγ : γ * m = E
  hgb : gb * m = n
  hqx : qx = cθ * (cφ * x + -sφ * y) + sθ * z
  hqy : qy = sφ * x + cφ * y
  hv2z : v2z = -sθ * (cφ * x + -sφ * y) + cθ * z
  hqz : qz = -gb * Ei + γ * v2z

/-- `(c, s)` scaling `r > 0` to a vector `(a, b)` of length `r` is a point of the unit circle -/
theorem sq_add_sq_eq_one {c s r a b : ℝ} (hc : c * r = a) (hs : s * r = b)
    (hr : r ^ 2 = a ^ 2 + b ^ 2) (h0 : 0 < r) : c ^ 2 + s ^ 2 = 1 := by
  have e : (c ^ 2 + s ^ 2 - 1) * r ^ 2 = 0 := by
    linear_combination (c * r + a) * hc + (s * r + b) * hs - hr
  have := (mul_eq_zero.1 e).resolve_right (pow_ne_zero 2 h0.ne')
  linarith

namespace ChainData
variable {E X Y Z Ei x y z cφ sφ cθ sθ γ gb n pt m qx qy qz v2z : ℝ}

/-- after the two rotations the z component is the projection on the frame's flight direction -/
theorem proj (d : ChainData E X Y Z Ei x y z cφ sφ cθ sθ γ gb n pt m qx qy qz v2z) :
    n * v2z = X * x + Y * y + Z * z := by
  rw [d.hv2z]
  linear_combination (-(cφ * x - sφ * y)) * d.h4 + z * d.h3 + x * d.h1 - y * d.h2

/-- the rotations preserve the length of the three-momentum -/
theorem rot_norm (d : ChainData E X Y Z Ei x y z cφ sφ cθ sθ γ gb n pt m qx qy qz v2z) :
    qx ^ 2 + qy ^ 2 + v2z ^ 2 = x ^ 2 + y ^ 2 + z ^ 2 := by
  have hφ : cφ ^ 2 + sφ ^ 2 = 1 := sq_add_sq_eq_one d.h1 d.h2 (by linear_combination d.hpt) d.hpt0
  have hθ : cθ ^ 2 + sθ ^ 2 = 1 :=
    sq_add_sq_eq_one d.h3 d.h4 (by linear_combination d.hn - d.hpt) d.hn0
  rw [d.hqx, d.hqy, d.hv2z]
  linear_combination ((cφ * x - sφ * y) ^ 2 + z ^ 2) * hθ + (x ^ 2 + y ^ 2) * hφ

/-- the boost: `m·q_z = E·v₂z − n·E_i` -/
theorem boost_z (d : ChainData E X Y Z Ei x y z cφ sφ cθ sθ γ gb n pt m qx qy qz v2z) :
    m * qz = E * v2z - n * Ei := by
  rw [d.hqz]
  linear_combination (-Ei) * d.hgb + v2z * d.hγ

/-- the transformed three-momentum has the length the Gram determinant says:
`m²|q⃗|² = (F·p)² − F²·p²` -/
theorem gram (d : ChainData E X Y Z Ei x y z cφ sφ cθ sθ γ gb n pt m qx qy qz v2z) :
    m ^ 2 * (qx ^ 2 + qy ^ 2 + qz ^ 2)
      = (E * Ei - (X * x + Y * y + Z * z)) ^ 2 - m ^ 2 * (Ei ^ 2 - (x ^ 2 + y ^ 2 + z ^ 2)) := by
  rw [← d.proj, ← d.rot_norm]
  linear_combination (m * qz + (E * v2z - n * Ei)) * d.boost_z + (Ei ^ 2 - v2z ^ 2) * d.hm

/-- **The chain measures the helicity angle.** With the spectator `(Ek; −X, −Y, −Z)` (the event is
given in the rest frame of the decaying particle) and positive total energy, the cosine of the
polar angle of the transformed momentum is minus the covariant cosine between the decay product
and the spectator, seen from the subsystem. -/
theorem cos_eq_neg_covCos (d : ChainData E X Y Z Ei x y z cφ sφ cθ sθ γ gb n pt m qx qy qz v2z)
    {Ek : ℝ} (hM : 0 < E + Ek) :
    (Real.sqrt (qx ^ 2 + qy ^ 2 + qz ^ 2))⁻¹ * qz
      = -V4.covCos ⟨E, X, Y, Z⟩ ⟨Ei, x, y, z⟩ ⟨Ek, -X, -Y, -Z⟩ := by
  set S := qx ^ 2 + qy ^ 2 + qz ^ 2 with hS
  have hFF : V4.dot ⟨E, X, Y, Z⟩ ⟨E, X, Y, Z⟩ = m ^ 2 := by
    simp only [V4.dot]; linear_combination d.hn - d.hm
  have hDi : V4.dot ⟨E, X, Y, Z⟩ ⟨Ei, x, y, z⟩ ^ 2
      - V4.dot ⟨E, X, Y, Z⟩ ⟨E, X, Y, Z⟩ * V4.dot ⟨Ei, x, y, z⟩ ⟨Ei, x, y, z⟩ = m ^ 2 * S := by
    rw [hFF, d.gram]; simp only [V4.dot]; ring
  have hDk : V4.dot ⟨E, X, Y, Z⟩ ⟨Ek, -X, -Y, -Z⟩ ^ 2
      - V4.dot ⟨E, X, Y, Z⟩ ⟨E, X, Y, Z⟩ * V4.dot ⟨Ek, -X, -Y, -Z⟩ ⟨Ek, -X, -Y, -Z⟩
      = ((E + Ek) * n) ^ 2 := by
    rw [hFF]; simp only [V4.dot]
    linear_combination (-(2 * E * Ek + (X ^ 2 + Y ^ 2 + Z ^ 2) + n ^ 2 + m ^ 2)) * d.hn
      + (-(Ek ^ 2 - n ^ 2)) * d.hm
  have hN : V4.dot ⟨E, X, Y, Z⟩ ⟨Ei, x, y, z⟩ * V4.dot ⟨E, X, Y, Z⟩ ⟨Ek, -X, -Y, -Z⟩
      - V4.dot ⟨E, X, Y, Z⟩ ⟨E, X, Y, Z⟩ * V4.dot ⟨Ei, x, y, z⟩ ⟨Ek, -X, -Y, -Z⟩
      = ((E + Ek) * n * m) * (-qz) := by
    rw [hFF]; simp only [V4.dot]
    have hp := d.proj
    have hb := d.boost_z
    linear_combination (E * Ek + (X ^ 2 + Y ^ 2 + Z ^ 2) + m ^ 2) * hp - (E * Ei - n * v2z) * d.hn
      - (Ei * Ek + n * v2z) * d.hm + ((E + Ek) * n) * hb
  have hc : (E + Ek) * n * m ≠ 0 := (mul_pos (mul_pos hM d.hn0) d.hm0).ne'
  have hpos : 0 ≤ (E + Ek) * n := (mul_pos hM d.hn0).le
  unfold V4.covCos
  rw [hN, hDi, hDk, Real.sqrt_mul (sq_nonneg m) S, Real.sqrt_sq d.hm0.le, Real.sqrt_sq hpos]
  have hden : m * Real.sqrt S * ((E + Ek) * n) = ((E + Ek) * n * m) * Real.sqrt S := by ring
  rw [hden, mul_div_mul_left _ _ hc, neg_div, neg_neg, div_eq_inv_mul]

/-- the chain applied to the subsystem's own momentum: it comes to rest -/
theorem frame_to_rest (d : ChainData E X Y Z E X Y Z cφ sφ cθ sθ γ gb n pt m qx qy qz v2z) :
    qx = 0 ∧ qy = 0 ∧ qz = 0 ∧ v2z = n := by
  have hv : v2z = n := by
    have h := d.proj
    have : n * v2z = n * n := by rw [h]; linear_combination -d.hn
    exact mul_left_cancel₀ d.hn0.ne' this
  have hz : qz = 0 := by
    have h := d.boost_z
    rw [hv] at h
    have : m * qz = m * 0 := by rw [h]; ring
    exact mul_left_cancel₀ d.hm0.ne' this
  have hy : qy = 0 := by
    have : pt * qy = pt * 0 := by rw [d.hqy]; linear_combination X * d.h2 + Y * d.h1
    exact mul_left_cancel₀ d.hpt0.ne' this
  have hx : qx = 0 := by
    have h := d.rot_norm
    rw [hy, hv] at h
    have : qx ^ 2 = 0 := by linear_combination h - d.hn
    exact pow_eq_zero_iff (by norm_num) |>.1 this
  exact ⟨hx, hy, hz, hv⟩

end ChainData
end Ampverif.Lemmas.C07
