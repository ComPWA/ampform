/-
List-level facts about the helpers of the C01 builder model: sorting and dedup keep the elements,
get, set and grouping for the dictionaries, an invariant rule for folds, `addMissing`, first character
of digit names.
-/
import Ampverif.Model.C01Builder

namespace Ampverif.Model.C01

theorem mem_insertBy {α} (lt : α → α → Bool) (x y : α) (ys : List α) :
    y ∈ insertBy lt x ys ↔ y = x ∨ y ∈ ys := by
  induction ys with
  | nil => simp [insertBy]
  | cons z zs ih =>
    unfold insertBy
    split
    · simp [ih]; constructor <;> (intro h; rcases h with h | h | h <;> simp [h])
    · simp

theorem mem_sortBy {α} (lt : α → α → Bool) (y : α) (xs : List α) :
    y ∈ sortBy lt xs ↔ y ∈ xs := by
  induction xs with
  | nil => simp [sortBy]
  | cons x xs ih => simp [sortBy, mem_insertBy, ih]

theorem sortBy_ne_nil {α} (lt : α → α → Bool) (xs : List α) (h : xs ≠ []) : sortBy lt xs ≠ [] := by
  cases xs with
  | nil => exact absurd rfl h
  | cons x xs =>
    intro hc
    have : x ∈ sortBy lt (x :: xs) := (mem_sortBy lt x (x :: xs)).2 (by simp)
    rw [hc] at this
    cases this

theorem mem_dedup {α} [DecidableEq α] (y : α) (xs : List α) : y ∈ dedup xs ↔ y ∈ xs := by
  induction xs with
  | nil => simp [dedup]
  | cons x xs ih =>
    simp only [dedup]
    split
    · rename_i hx
      constructor
      · intro h; exact List.mem_cons_of_mem _ (ih.1 h)
      · intro h
        rcases List.mem_cons.1 h with h | h
        · subst h; exact hx
        · exact ih.2 h
    · simp [ih]

theorem dictGet?_dictSet {κ ν} [DecidableEq κ] (k k' : κ) (v : ν) (d : List (κ × ν)) :
    dictGet? k (dictSet k' v d) = if k' = k then some v else dictGet? k d := by
  induction d with
  | nil => rfl
  | cons kv rest ih =>
    obtain ⟨k0, v0⟩ := kv
    simp only [dictSet]
    split
    · rename_i h0
      subst h0
      simp only [dictGet?]
      split <;> rfl
    · rename_i h0
      simp only [dictGet?, ih]
      split
      · rename_i hk
        rw [if_neg (fun h => h0 (hk.trans h.symm))]
      · rfl

theorem dictGet?_mem {κ ν} [DecidableEq κ] (k : κ) (d : List (κ × ν)) (a : ν) (h : dictGet? k d = some a) :
    (k, a) ∈ d := by
  induction d with
  | nil => cases h
  | cons kv rest ih =>
    obtain ⟨k0, v0⟩ := kv
    simp only [dictGet?] at h
    split at h
    · rename_i hk; cases h; subst hk; simp
    · exact List.mem_cons_of_mem _ (ih h)

theorem dictSet_entries {κ ν} [DecidableEq κ] (k : κ) (v : ν) (d : List (κ × ν)) :
    ∀ e ∈ dictSet k v d, e = (k, v) ∨ e ∈ d := by
  induction d with
  | nil => intro e he; exact .inl (List.mem_singleton.1 he)
  | cons kv rest ih =>
    obtain ⟨k0, v0⟩ := kv
    intro e he
    simp only [dictSet] at he
    split at he
    · exact (List.mem_cons.1 he).imp_right (List.mem_cons_of_mem _)
    · rcases List.mem_cons.1 he with h | h
      · exact .inr (h ▸ List.mem_cons_self)
      · exact (ih e h).imp_right (List.mem_cons_of_mem _)

/-- last writer wins: a fold of `dictSet`s answers with the last element that wrote the key -/
theorem dictGet?_foldl_dictSet {α κ ν} [DecidableEq κ] (f : α → κ) (g : α → ν) (xs : List α)
    (d0 : List (κ × ν)) (k : κ) :
    dictGet? k (xs.foldl (fun m x => dictSet (f x) (g x) m) d0)
      = match xs.reverse.find? (fun x => f x = k) with
        | some x => some (g x)
        | none => dictGet? k d0 := by
  induction xs generalizing d0 with
  | nil => rfl
  | cons x xs ih =>
    rw [List.foldl_cons, ih, List.reverse_cons, List.find?_append]
    cases xs.reverse.find? (fun x => f x = k) with
    | some y => rfl
    | none =>
      simp only [Option.none_or, List.find?_singleton, dictGet?_dictSet, decide_eq_true_eq]
      split <;> rfl

theorem groupByKey_mem {α κ} [DecidableEq κ] (key : α → κ) (xs : List α) :
    ∀ kv ∈ groupByKey key xs, (∃ x ∈ xs, kv.1 = key x) ∧ ∀ x ∈ kv.2, x ∈ xs := by
  induction xs with
  | nil => intro kv h; simp [groupByKey] at h
  | cons y ys ih =>
    have up : ∀ kv ∈ groupByKey key ys, (∃ x ∈ y :: ys, kv.1 = key x) ∧ ∀ x ∈ kv.2, x ∈ y :: ys :=
      fun kv h => ⟨(ih kv h).1.imp fun x hx => ⟨List.mem_cons_of_mem _ hx.1, hx.2⟩,
        fun x hx => List.mem_cons_of_mem _ ((ih kv h).2 x hx)⟩
    intro kv hkv
    simp only [groupByKey] at hkv
    split at hkv
    · rename_i g hg
      rcases List.mem_cons.1 hkv with rfl | h
      · refine ⟨⟨y, List.mem_cons_self, rfl⟩, fun x hx => ?_⟩
        rcases List.mem_cons.1 hx with rfl | h
        · exact List.mem_cons_self
        · exact List.mem_cons_of_mem _ ((ih _ (dictGet?_mem _ _ _ hg)).2 x h)
      · exact up kv (List.mem_filter.1 h).1
    · rcases List.mem_cons.1 hkv with rfl | h
      · refine ⟨⟨y, List.mem_cons_self, rfl⟩, fun x hx => ?_⟩
        rw [List.mem_singleton.1 hx]
        exact List.mem_cons_self
      · exact up kv h

theorem foldl_inv {α β} (P : β → Prop) (f : β → α → β) (xs : List α) (init : β)
    (h0 : P init) (hstep : ∀ b x, x ∈ xs → P b → P (f b x)) : P (xs.foldl f init) := by
  induction xs generalizing init with
  | nil => exact h0
  | cons x xs ih =>
    simp only [List.foldl_cons]
    apply ih
    · exact hstep _ _ (by simp) h0
    · intro b y hy hb; exact hstep b y (List.mem_cons_of_mem _ hy) hb

theorem ite_some_eq_none {α} {c : Prop} [Decidable c] {a : α} {x : Option α} :
    (if c then some a else x) = none ↔ ¬ c ∧ x = none := by
  split <;> simp [*]

theorem lexLtInt_swap (a b : List Int) (h : a ≠ b) : lexLtInt a b = !lexLtInt b a := by
  induction a generalizing b with
  | nil =>
    cases b with
    | nil => exact absurd rfl h
    | cons y ys => simp [lexLtInt]
  | cons x xs ih =>
    cases b with
    | nil => simp [lexLtInt]
    | cons y ys =>
      simp only [lexLtInt]
      by_cases h1 : x < y
      · have : ¬ y < x := by omega
        simp [h1, this]
      · by_cases h2 : y < x
        · simp [h1, h2]
        · have hxy : x = y := by omega
          subst hxy
          simp only [h1, if_false]
          exact ih ys (by intro hc; exact h (by rw [hc]))

theorem dictHas_dictSet_self {κ ν} [DecidableEq κ] (k : κ) (v : ν) (d : List (κ × ν)) :
    dictHas k (dictSet k v d) = true := by
  simp only [dictHas, dictGet?_dictSet, if_true, Option.isSome_some]

theorem dictHas_append {κ ν} [DecidableEq κ] (k : κ) (d e : List (κ × ν)) :
    dictHas k (d ++ e) = (dictHas k d || dictHas k e) := by
  induction d with
  | nil => simp [dictHas, dictGet?]
  | cons kv rest ih =>
    obtain ⟨k0, v0⟩ := kv
    simp only [dictHas, List.cons_append, dictGet?] at ih ⊢
    split
    · simp
    · exact ih

theorem dictGet?_append {κ ν} [DecidableEq κ] (k : κ) (d e : List (κ × ν)) (a : ν)
    (h : dictGet? k (d ++ e) = some a) : dictGet? k d = some a ∨ dictGet? k e = some a := by
  induction d with
  | nil => right; simpa using h
  | cons kv rest ih =>
    obtain ⟨k0, v0⟩ := kv
    simp only [List.cons_append, dictGet?] at h ⊢
    split at h
    · left; simp [*]
    · rename_i hne
      simp only [hne, if_false]
      exact ih h

theorem addMissing_preserves (ks : List AmpKey) (k : AmpKey) (d : List (AmpKey × AmpDef))
    (h : dictHas k d = true) : dictHas k (addMissing ks d) = true := by
  induction ks generalizing d with
  | nil => simpa [addMissing] using h
  | cons k' ks ih =>
    simp only [addMissing, List.foldl_cons]
    refine ih _ ?_
    split
    · exact h
    · rw [dictHas_append, h, Bool.true_or]

theorem addMissing_has (ks : List AmpKey) (k : AmpKey) (d : List (AmpKey × AmpDef)) (hk : k ∈ ks) :
    dictHas k (addMissing ks d) = true := by
  induction ks generalizing d with
  | nil => cases hk
  | cons k' ks ih =>
    simp only [addMissing, List.foldl_cons]
    rcases List.mem_cons.1 hk with h | h
    · subst h
      apply addMissing_preserves
      split
      · assumption
      · rw [dictHas_append]; simp [dictHas, dictGet?]
    · exact ih _ h

theorem addMissing_get (ks : List AmpKey) (k : AmpKey) (d : List (AmpKey × AmpDef)) (a : AmpDef)
    (h : dictGet? k (addMissing ks d) = some a) : dictGet? k d = some a ∨ a.free = [] := by
  induction ks generalizing d with
  | nil => left; simpa [addMissing] using h
  | cons k' ks ih =>
    simp only [addMissing, List.foldl_cons] at h
    rcases ih _ h with h1 | h1
    · split at h1
      · left; exact h1
      · rcases dictGet?_append _ _ _ _ h1 with h2 | h2
        · left; exact h2
        · right
          simp only [dictGet?] at h2
          split at h2
          · cases h2; rfl
          · cases h2
    · right; exact h1

theorem natDigitsF_head (f n : Nat) : ∃ c rest, natDigitsF f n = c :: rest ∧ isDigit c = true := by
  induction f generalizing n with
  | zero => exact ⟨48, [], rfl, by decide⟩
  | succ f ih =>
    unfold natDigitsF
    split
    · rename_i h
      refine ⟨48 + n, [], rfl, ?_⟩
      simp [isDigit]; omega
    · obtain ⟨c, rest, hc, hd⟩ := ih (n / 10)
      exact ⟨c, rest ++ [48 + n % 10], by simp [hc], hd⟩

theorem intName_head (i : Int) (h : 0 ≤ i) : ∃ c rest, intName i = c :: rest ∧ isDigit c = true := by
  cases i with
  | ofNat n => exact natDigitsF_head (n + 1) n
  | negSucc n => omega

theorem digitsOf_head (ids : List Int) (hne : ids ≠ []) (hpos : ∀ i ∈ ids, 0 ≤ i) :
    ∃ c rest, digitsOf ids = c :: rest ∧ isDigit c = true := by
  cases ids with
  | nil => exact absurd rfl hne
  | cons i is =>
    obtain ⟨c, rest, hc, hd⟩ := intName_head i (hpos i (by simp))
    exact ⟨c, rest ++ digitsOf is, by simp [digitsOf, hc], hd⟩

end Ampverif.Model.C01
