/-
The analytic core of the ζ sum rule: three cosines `N_a/(√A₀√A₃)`, `N_b/(√A₀√A₂)`, `N_c/(√A₂√A₃)`
whose radicands and numerators are those of three coplanar vectors `u + v, u, v`
(`A₀ = A₂ + 2N_c + A₃`, `N_a = N_c + A₃`, `N_b = N_c + A₂`, `A₂A₃ − N_c² ≥ 0`) satisfy
`arccos c = arccos a + arccos b`.
-/
import Ampverif.Lemmas.C19Basic
import Mathlib.Tactic.LinearCombination

namespace Ampverif.Lemmas.C19

/-- version with the square roots named: `A₀ = r₀²`, `A₂ = r₂²`, `A₃ = r₃²`, `A₂A₃ − N_c² = g²` -/
theorem sum_rule_of_roots {r0 r2 r3 g Na Nb Nc : ℝ} (h0 : 0 < r0) (h2 : 0 < r2) (h3 : 0 < r3)
    (hg : 0 ≤ g) (hc : r2 ^ 2 * r3 ^ 2 - Nc ^ 2 = g ^ 2) (hr0 : r0 ^ 2 = r2 ^ 2 + 2 * Nc + r3 ^ 2)
    (hNa : Na = Nc + r3 ^ 2) (hNb : Nb = Nc + r2 ^ 2) :
    Real.arccos (Nc / (r2 * r3)) = Real.arccos (Na / (r0 * r3)) + Real.arccos (Nb / (r0 * r2)) := by
  -- the three Gram defects coincide
  have ha : r0 ^ 2 * r3 ^ 2 - Na ^ 2 = g ^ 2 := by rw [hNa, hr0]; linear_combination hc
  have hb : r0 ^ 2 * r2 ^ 2 - Nb ^ 2 = g ^ 2 := by rw [hNb, hr0]; linear_combination hc
  have hab : Na * Nb - Nc * r0 ^ 2 = g ^ 2 := by rw [hNa, hNb, hr0]; linear_combination hc
  have p03 : 0 < r0 * r3 := by positivity
  have p02 : 0 < r0 * r2 := by positivity
  have p23 : 0 < r2 * r3 := by positivity
  have bNa := abs_le_of_sq_le_sq' (a := Na) (b := r0 * r3) (by rw [mul_pow]; linarith [sq_nonneg g]) p03.le
  have bNb := abs_le_of_sq_le_sq' (a := Nb) (b := r0 * r2) (by rw [mul_pow]; linarith [sq_nonneg g]) p02.le
  have bNc := abs_le_of_sq_le_sq' (a := Nc) (b := r2 * r3) (by rw [mul_pow]; linarith [sq_nonneg g]) p23.le
  have hx1 : -1 ≤ Na / (r0 * r3) := by rw [le_div_iff₀ p03]; linarith [bNa.1]
  have hx2 : Na / (r0 * r3) ≤ 1 := by rw [div_le_one p03]; exact bNa.2
  have hy1 : -1 ≤ Nb / (r0 * r2) := by rw [le_div_iff₀ p02]; linarith [bNb.1]
  have hy2 : Nb / (r0 * r2) ≤ 1 := by rw [div_le_one p02]; exact bNb.2
  have sx : Real.sqrt (1 - (Na / (r0 * r3)) ^ 2) = g / (r0 * r3) := by
    have : 1 - (Na / (r0 * r3)) ^ 2 = (g / (r0 * r3)) ^ 2 := by
      field_simp
      linear_combination ha
    rw [this, Real.sqrt_sq (by positivity)]
  have sy : Real.sqrt (1 - (Nb / (r0 * r2)) ^ 2) = g / (r0 * r2) := by
    have : 1 - (Nb / (r0 * r2)) ^ 2 = (g / (r0 * r2)) ^ 2 := by
      field_simp
      linear_combination hb
    rw [this, Real.sqrt_sq (by positivity)]
  have hsum : 0 ≤ Na / (r0 * r3) + Nb / (r0 * r2) := by
    have : Na / (r0 * r3) + Nb / (r0 * r2) = ((r2 + r3) * (Nc + r2 * r3)) / (r0 * r2 * r3) := by
      rw [hNa, hNb]
      field_simp
      ring
    rw [this]
    apply div_nonneg _ (by positivity)
    apply mul_nonneg (by positivity)
    linarith [bNc.1]
  rw [arccos_add_arccos hx1 hx2 hy1 hy2 hsum, sx, sy]
  congr 1
  field_simp
  linear_combination (-1 : ℝ) * hab

theorem sum_rule_abstract {A0 A2 A3 Na Nb Nc : ℝ} (h0 : 0 < A0) (h2 : 0 < A2) (h3 : 0 < A3)
    (hG : 0 ≤ A2 * A3 - Nc ^ 2) (hA0 : A0 = A2 + 2 * Nc + A3) (hNa : Na = Nc + A3)
    (hNb : Nb = Nc + A2) :
    Real.arccos (Nc / (Real.sqrt A2 * Real.sqrt A3))
      = Real.arccos (Na / (Real.sqrt A0 * Real.sqrt A3))
        + Real.arccos (Nb / (Real.sqrt A0 * Real.sqrt A2)) := by
  have e0 : Real.sqrt A0 ^ 2 = A0 := Real.sq_sqrt h0.le
  have e2 : Real.sqrt A2 ^ 2 = A2 := Real.sq_sqrt h2.le
  have e3 : Real.sqrt A3 ^ 2 = A3 := Real.sq_sqrt h3.le
  have eg : Real.sqrt (A2 * A3 - Nc ^ 2) ^ 2 = A2 * A3 - Nc ^ 2 := Real.sq_sqrt hG
  exact sum_rule_of_roots (g := Real.sqrt (A2 * A3 - Nc ^ 2)) (Real.sqrt_pos.mpr h0)
    (Real.sqrt_pos.mpr h2) (Real.sqrt_pos.mpr h3) (Real.sqrt_nonneg _) (by rw [e2, e3, eg])
    (by rw [e0, e2, e3, hA0]) (by rw [e3]; exact hNa) (by rw [e2]; exact hNb)

end Ampverif.Lemmas.C19
