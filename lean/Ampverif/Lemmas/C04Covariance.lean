/-
C04, layer (K): what a global rotation does to the helicity frames.

`helframe P = BoostZ(|p|/E) · RotY(−Theta P) · RotZ(−Phi P)` is exactly the
`ArrayMultiplication(BoostZMatrix(beta), RotationYMatrix(-theta), RotationZMatrix(-phi), ·)` chain
of `compute_helicity_angles`, on the regenerated matrices. Under a global rotation `R` the frame of
a subsystem becomes `R · h · Rz(−δ)`, so the momenta seen from it turn by `RotZ δ` about its z axis;
one level deeper that `RotZ δ` is absorbed (polar angle unchanged, azimuth shifted by δ) and all
deeper momenta and angles coincide.
-/
import Ampverif.Lemmas.C04Angles

namespace Ampverif.Lemmas.C04
open Matrix Ampverif.Gen.C04

theorem nrm_eq_sqrt_dot (v : Fin 3 → ℝ) : nrm v = Real.sqrt (v ⬝ᵥ v) := by
  unfold nrm
  congr 1
  simp [dotProduct, Fin.sum_univ_three]
  ring

theorem dot_rot {R : Matrix (Fin 3) (Fin 3) ℝ} (hR : IsRot R) (v : Fin 3 → ℝ) :
    (R *ᵥ v) ⬝ᵥ (R *ᵥ v) = v ⬝ᵥ v := by
  have h1 : R *ᵥ v = v ᵥ* Rᵀ := (Matrix.vecMul_transpose R v).symm
  conv_lhs => lhs; rw [h1]
  rw [← Matrix.dotProduct_mulVec, Matrix.mulVec_mulVec, hR.1, Matrix.one_mulVec]

theorem nrm_rot {R : Matrix (Fin 3) (Fin 3) ℝ} (hR : IsRot R) (v : Fin 3 → ℝ) :
    nrm (R *ᵥ v) = nrm v := by
  rw [nrm_eq_sqrt_dot, nrm_eq_sqrt_dot, dot_rot hR]

/-- For a proper rotation `R` and `v ≠ 0`: `h(R v) = R · h(v) · Rz(−δ)` for some δ. -/
theorem frame_covariance {R : Matrix (Fin 3) (Fin 3) ℝ} (hR : IsRot R) (v : Fin 3 → ℝ)
    (hv : 0 < nrm v) :
    ∃ δ : ℝ, hframe (phiOf (R *ᵥ v)) (thetaOf (R *ᵥ v))
        = R * hframe (phiOf v) (thetaOf v) * Rz3 (-δ) := by
  have hv' : 0 < nrm (R *ᵥ v) := by rw [nrm_rot hR]; exact hv
  obtain ⟨δ, hδ⟩ := (hR.mul (hframe_isRot (phiOf v) (thetaOf v))).eq_mul_Rz3
    (hframe_isRot (phiOf (R *ᵥ v)) (thetaOf (R *ᵥ v)))
    (by rw [← Matrix.mulVec_mulVec, hframe_angles v hv, hframe_angles _ hv', nrm_rot hR,
      Matrix.mulVec_smul])
  exact ⟨-δ, by rw [neg_neg]; exact hδ⟩

/-- spatial part of a four-vector `(E, x, y, z)` -/
def sp (p : Fin 4 → ℝ) : Fin 3 → ℝ := ![p 1, p 2, p 3]

theorem emb_mulVec (R : Matrix (Fin 3) (Fin 3) ℝ) (p : Fin 4 → ℝ) :
    emb R *ᵥ p = ![p 0, (R *ᵥ sp p) 0, (R *ᵥ sp p) 1, (R *ᵥ sp p) 2] := by
  ext i
  fin_cases i <;>
    simp [emb, sp, Matrix.mulVec, dotProduct, Fin.sum_univ_four, Fin.sum_univ_three]

theorem sp_emb_mulVec (R : Matrix (Fin 3) (Fin 3) ℝ) (p : Fin 4 → ℝ) :
    sp (emb R *ᵥ p) = R *ᵥ sp p := by
  rw [emb_mulVec]
  ext i
  fin_cases i <;> simp [sp]

theorem energy_emb_mulVec (R : Matrix (Fin 3) (Fin 3) ℝ) (p : Fin 4 → ℝ) :
    (emb R *ᵥ p) 0 = p 0 := by
  rw [emb_mulVec]; rfl

/-- the source's helicity-frame transformation for the subsystem momentum `P` -/
noncomputable def helframe (P : Fin 4 → ℝ) : Matrix (Fin 4) (Fin 4) ℝ :=
  BoostZ (nrm (sp P) / P 0) * RotY (-thetaOf (sp P)) * RotZ (-phiOf (sp P))

theorem helframe_eq (P : Fin 4 → ℝ) :
    helframe P = BoostZ (nrm (sp P) / P 0) * emb ((hframe (phiOf (sp P)) (thetaOf (sp P)))ᵀ) := by
  rw [helframe, RotY_eq, RotZ_eq, Matrix.mul_assoc, ← emb_mul, hframe, Matrix.transpose_mul,
    Rz3_transpose, Ry3_transpose]

/-- Both effects of a global rotation `R` on the frames attached to a subsystem `P`, with ONE
angle δ: the production frame becomes `R · h(P) · Rz(−δ)` and every momentum seen from the
subsystem's helicity frame is rotated by `RotZ δ`. -/
theorem frames_covariance {R : Matrix (Fin 3) (Fin 3) ℝ} (hR : IsRot R) (P : Fin 4 → ℝ)
    (hP : 0 < nrm (sp P)) :
    ∃ δ : ℝ,
      hframe (phiOf (sp (emb R *ᵥ P))) (thetaOf (sp (emb R *ᵥ P)))
          = R * hframe (phiOf (sp P)) (thetaOf (sp P)) * Rz3 (-δ) ∧
      ∀ q : Fin 4 → ℝ, helframe (emb R *ᵥ P) *ᵥ (emb R *ᵥ q) = RotZ δ *ᵥ (helframe P *ᵥ q) := by
  obtain ⟨δ, hδ⟩ := frame_covariance hR (sp P) hP
  refine ⟨δ, by rw [sp_emb_mulVec]; exact hδ, fun q => ?_⟩
  rw [helframe_eq, helframe_eq, sp_emb_mulVec, energy_emb_mulVec, nrm_rot hR, hδ]
  have r1 := hframe_isRot (phiOf (sp P)) (thetaOf (sp P))
  generalize hframe (phiOf (sp P)) (thetaOf (sp P)) = H at r1 ⊢
  have hT : (R * H * Rz3 (-δ))ᵀ * R = Rz3 δ * Hᵀ := by
    rw [Matrix.transpose_mul, Matrix.transpose_mul, Rz3_transpose, neg_neg, Matrix.mul_assoc,
      Matrix.mul_assoc, hR.1, Matrix.mul_one]
  rw [Matrix.mulVec_mulVec, Matrix.mulVec_mulVec, Matrix.mul_assoc, ← emb_mul, hT, emb_mul,
    ← Matrix.mul_assoc, ← RotZ_eq, BoostZ_comm_RotZ, Matrix.mul_assoc]

/-- Child-frame momenta of the globally rotated event are `RotZ δ` times those of the original
event; δ depends on the rotation and on the subsystem momentum `P` only. -/
theorem helframe_covariance {R : Matrix (Fin 3) (Fin 3) ℝ} (hR : IsRot R) (P : Fin 4 → ℝ)
    (hP : 0 < nrm (sp P)) :
    ∃ δ : ℝ, ∀ q : Fin 4 → ℝ,
      helframe (emb R *ᵥ P) *ᵥ (emb R *ᵥ q) = RotZ δ *ᵥ (helframe P *ᵥ q) := by
  obtain ⟨δ, _, h⟩ := frames_covariance hR P hP
  exact ⟨δ, h⟩

/-- polar angle unchanged under a rotation about z -/
theorem thetaOf_Rz3 (δ : ℝ) (v : Fin 3 → ℝ) : thetaOf (Rz3 δ *ᵥ v) = thetaOf v := by
  rw [thetaOf_eq, thetaOf_eq, nrm_rot (Rz3_isRot δ), Rz3_mulVec]
  rfl

/-- the azimuth shifts by δ (stated on the rotation matrices, i.e. modulo 2π) -/
theorem Rz3_phiOf_Rz3 (δ : ℝ) (v : Fin 3 → ℝ) (hxy : 0 < v 0 ^ 2 + v 1 ^ 2) :
    Rz3 (phiOf (Rz3 δ *ᵥ v)) = Rz3 (phiOf v + δ) := by
  rw [phiOf, Rz3_mulVec]
  exact Rz3_PhiOf_rot (v 0) (v 1) δ hxy

/-- `h(Rz(δ) v) = Rz(δ) · h(v)` for `v` off the z axis -/
theorem hframe_Rz3 (δ : ℝ) (v : Fin 3 → ℝ) (hxy : 0 < v 0 ^ 2 + v 1 ^ 2) :
    hframe (phiOf (Rz3 δ *ᵥ v)) (thetaOf (Rz3 δ *ᵥ v)) = Rz3 δ * hframe (phiOf v) (thetaOf v) := by
  rw [hframe, hframe, thetaOf_Rz3, Rz3_phiOf_Rz3 δ v hxy, ← Matrix.mul_assoc, Rz3_add, add_comm]

/-- Deeper frames coincide: if all momenta of a frame are rotated by `RotZ δ`, the helicity-frame
transformation of any subsystem `S` (off the z axis) absorbs the rotation, so the momenta of the
next level — and with them every deeper momentum and angle — are unchanged. -/
theorem helframe_Rz (δ : ℝ) (S : Fin 4 → ℝ) (hxy : 0 < (sp S) 0 ^ 2 + (sp S) 1 ^ 2) :
    helframe (RotZ δ *ᵥ S) * RotZ δ = helframe S := by
  rw [RotZ_eq, helframe_eq, helframe_eq, sp_emb_mulVec, energy_emb_mulVec, nrm_rot (Rz3_isRot δ),
    hframe_Rz3 δ (sp S) hxy, Matrix.mul_assoc, ← emb_mul, Matrix.transpose_mul,
    Matrix.mul_assoc, (Rz3_isRot δ).1, Matrix.mul_one]

end Ampverif.Lemmas.C04
