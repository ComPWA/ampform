/-
C05 — denotation of alignment skeletons and the wiring theorem.

`psum` is the meaning of `PoolSum` (every value of the pool is substituted for the index and the
results are added; the first index is the outermost sum). `amplitude` is the meaning of a flat
skeleton for ANY interpretation `D` of the Wigner factors and ANY amplitude tensor `A`.
`alignedS` is the "one matrix per outer state" reading: the amplitude tensor is contracted, state
by state, with the chain matrix of that state. `wiring` says they are the same function — for any
number of states and any chain lengths, over any commutative semiring.
-/
import Ampverif.Lemmas.C05Spec
import Mathlib.Algebra.BigOperators.Group.List.Basic
import Mathlib.Algebra.BigOperators.Ring.List
import Mathlib.Logic.Function.Basic
import Mathlib.Algebra.Ring.Int.Defs

namespace Ampverif.Lemmas.C05Wiring
open Ampverif.Model.C05Align Ampverif.Lemmas.C05Spec

abbrev Env := Var → ℤ

variable {R : Type*} [CommSemiring R]

/-- meaning of `PoolSum(f, (x₁, pool₁), (x₂, pool₂), …)` -/
def psum : List (Var × List ℤ) → (Env → R) → Env → R
  | [], f, env => f env
  | (x, pool) :: rest, f, env => (pool.map fun v => psum rest f (Function.update env x v)).sum

def evalFactor (D : ℕ → Angle → ℤ → ℤ → R) (env : Env) (f : Factor) : R :=
  D f.j2 f.angle (env f.row) (env f.col)

def evalIdx (env : Env) (p : Bool × Var) : ℤ := if p.1 then -env p.2 else env p.2

def prodFactors (D : ℕ → Angle → ℤ → ℤ → R) (fs : List Factor) (env : Env) : R :=
  (fs.map (evalFactor D env)).prod

/-- the summand of the inner `PoolSum`: all Wigner factors times `A[…]` -/
def term (D : ℕ → Angle → ℤ → ℤ → R) (A : List ℤ → R) (sk : Skeleton) (env : Env) : R :=
  prodFactors D sk.factors env * A (sk.amp.map (evalIdx env))

/-- the aligned amplitude as a function of the outer spin projections (read from `env`) -/
def amplitude (D : ℕ → Angle → ℤ → ℤ → R) (A : List ℤ → R) (sk : Skeleton) (env : Env) : R :=
  psum sk.sums (term D A sk) env

/-- matrix element `(upper, lower)` of one rotation -/
def linkMat (D : ℕ → Angle → ℤ → ℤ → R) (l : Link) (upper lower : ℤ) : R :=
  if l.transposed then D l.j2 l.angle lower upper else D l.j2 l.angle upper lower

/-- matrix element `(m, v)` of the product of a chain of rotations (innermost first):
`chainMat [l₀, l₁, …] = … · M(l₁) · M(l₀)`, sums over `pool`. The empty chain is the constant `1`. -/
def chainMat (D : ℕ → Angle → ℤ → ℤ → R) (pool : List ℤ) : List Link → ℤ → ℤ → R
  | [], _, _ => 1
  | [l], m, v => linkMat D l m v
  | l :: l' :: rest, m, v =>
    (pool.map fun w => linkMat D l w v * chainMat D pool (l' :: rest) m w).sum

def sgn (neg : Bool) (v : ℤ) : ℤ := if neg then -v else v

/-- contraction of the amplitude tensor with one matrix per state, state by state -/
def alignedS (D : ℕ → Angle → ℤ → ℤ → R) : List Spec → (List ℤ → R) → Env → R
  | [], A, _ => A []
  | .direct e _ :: r, A, env => alignedS D r (fun ls => A (env (.outer e) :: ls)) env
  | .chain e _ pool neg links :: r, A, env =>
    (pool.map fun l =>
      chainMat D pool links (env (.outer e)) l * alignedS D r (fun ls => A (sgn neg l :: ls)) env).sum

theorem psum_append (xs ys : List (Var × List ℤ)) (f : Env → R) (env : Env) :
    psum (xs ++ ys) f env = psum xs (psum ys f) env := by
  induction xs generalizing env with
  | nil => rfl
  | cons x xs ih =>
    obtain ⟨x, pool⟩ := x
    simp only [List.cons_append, psum, ih]

/-- the summand only matters on environments that differ from `env` at the summed indices -/
theorem psum_congr (xs : List (Var × List ℤ)) (f g : Env → R) (env : Env)
    (h : ∀ env' : Env, (∀ y, y ∉ xs.map Prod.fst → env' y = env y) → f env' = g env') :
    psum xs f env = psum xs g env := by
  induction xs generalizing env with
  | nil => exact h env (fun _ _ => rfl)
  | cons x xs ih =>
    obtain ⟨x, pool⟩ := x
    simp only [psum]
    congr 1
    apply List.map_congr_left
    intro v _
    apply ih
    intro env' h'
    apply h
    intro y hy
    rw [h' y (List.not_mem_of_not_mem_cons hy), Function.update_of_ne (List.ne_of_not_mem_cons hy)]

theorem psum_mul_left (xs : List (Var × List ℤ)) (c : R) (f : Env → R) (env : Env) :
    psum xs (fun e => c * f e) env = c * psum xs f env := by
  induction xs generalizing env with
  | nil => rfl
  | cons x xs ih =>
    obtain ⟨x, pool⟩ := x
    simp only [psum, ih]
    exact List.sum_map_mul_left ..

theorem psum_mul_right (xs : List (Var × List ℤ)) (c : R) (f : Env → R) (env : Env) :
    psum xs (fun e => f e * c) env = psum xs f env * c := by
  have : (fun e => f e * c) = fun e => c * f e := by funext e; exact mul_comm _ _
  rw [this, psum_mul_left, mul_comm]

/-- a factor that is constant wherever the summed indices are the only change leaves the sum -/
theorem psum_mul_const (xs : List (Var × List ℤ)) (f g : Env → R) (c : R) (env : Env)
    (hf : ∀ env' : Env, (∀ y, y ∉ xs.map Prod.fst → env' y = env y) → f env' = c) :
    psum xs (fun e => f e * g e) env = c * psum xs g env := by
  rw [← psum_mul_left]
  exact psum_congr xs _ _ env fun env' h' => by rw [hf env' h']

theorem psum_zero (xs : List (Var × List ℤ)) (env : Env) : psum xs (fun _ => (0 : R)) env = 0 := by
  induction xs generalizing env with
  | nil => rfl
  | cons x xs ih =>
    obtain ⟨x, pool⟩ := x
    simp only [psum, ih, List.sum_map_zero]

theorem psum_add (xs : List (Var × List ℤ)) (f g : Env → R) (env : Env) :
    psum xs (fun e => f e + g e) env = psum xs f env + psum xs g env := by
  induction xs generalizing env with
  | nil => rfl
  | cons x xs ih =>
    obtain ⟨x, pool⟩ := x
    simp only [psum, ih]
    exact List.sum_map_add

theorem psum_list_sum (xs : List (Var × List ℤ)) (p : List ℤ) (f : ℤ → Env → R) (env : Env) :
    psum xs (fun e => (p.map fun m => f m e).sum) env = (p.map fun m => psum xs (f m) env).sum := by
  induction p with
  | nil => simpa using psum_zero xs env
  | cons m p ih =>
    simp only [List.map_cons, List.sum_cons]
    rw [psum_add, ih]

theorem psum_update_comm (xs : List (Var × List ℤ)) (f : Env → R) (env : Env) (x : Var) (v : ℤ)
    (hx : x ∉ xs.map Prod.fst) :
    psum xs f (Function.update env x v) = psum xs (fun e => f (Function.update e x v)) env := by
  induction xs generalizing env with
  | nil => rfl
  | cons y xs ih =>
    obtain ⟨y, pool⟩ := y
    simp only [psum, Function.update_comm (List.ne_of_not_mem_cons hx),
      ih _ (List.not_mem_of_not_mem_cons hx)]

theorem linkSums_vars (e : ℤ) (pool : List ℤ) (k : ℕ) (links : List Link) :
    ∀ x ∈ (linkSums e pool k links).map Prod.fst, ∃ k', k < k' ∧ x = Var.inner k' e := by
  induction links generalizing k with
  | nil => intro x hx; simp [linkSums] at hx
  | cons l rest ih =>
    cases rest with
    | nil => intro x hx; simp [linkSums] at hx
    | cons l' rest =>
      intro x hx
      simp only [linkSums, List.map_cons, List.mem_cons] at hx
      rcases hx with rfl | hx
      · exact ⟨k + 1, Nat.lt_succ_self k, rfl⟩
      · obtain ⟨k', hk, rfl⟩ := ih (k + 1) x hx
        exact ⟨k', by omega, rfl⟩

theorem inner_not_mem_linkSums {e e' : ℤ} {pool : List ℤ} {k k' : ℕ} {links : List Link} (h : k' ≤ k) :
    Var.inner k' e' ∉ (linkSums e pool k links).map Prod.fst := by
  intro hmem
  obtain ⟨k'', hk, heq⟩ := linkSums_vars e pool k links _ hmem
  injection heq with h1 h2
  omega

theorem outer_not_mem_linkSums {e e' : ℤ} {pool : List ℤ} {k : ℕ} {links : List Link} :
    Var.outer e' ∉ (linkSums e pool k links).map Prod.fst := by
  intro hmem
  obtain ⟨k', _, heq⟩ := linkSums_vars e pool k links _ hmem
  cases heq

theorem spec_sums_vars (s : Spec) : ∀ x ∈ s.sums.map Prod.fst, varState x = s.state := by
  cases s with
  | direct e op => intro x hx; simp [Spec.sums] at hx
  | chain e op pool neg links =>
    intro x hx
    simp only [Spec.sums, List.map_cons, List.mem_cons] at hx
    rcases hx with rfl | hx
    · rfl
    · obtain ⟨k', _, rfl⟩ := linkSums_vars e pool 0 links x hx
      rfl

theorem flatten_sums_vars (specs : List Spec) :
    ∀ x ∈ (flatten specs).sums.map Prod.fst, varState x ∈ specs.map Spec.state := by
  intro x hx
  rw [flatten_sums] at hx
  obtain ⟨p, hp, rfl⟩ := List.mem_map.mp hx
  obtain ⟨s, hs, hps⟩ := List.mem_flatMap.mp hp
  rw [spec_sums_vars s _ (List.mem_map_of_mem hps)]
  exact List.mem_map_of_mem hs

theorem mkFactor_vars {e : ℤ} (l : Link) {x y : Var} (hx : varState x = e) (hy : varState y = e) :
    varState (mkFactor l x y).row = e ∧ varState (mkFactor l x y).col = e := by
  unfold mkFactor
  split
  exacts [⟨hy, hx⟩, ⟨hx, hy⟩]

theorem linkFactors_vars (e : ℤ) (k : ℕ) (links : List Link) :
    ∀ f ∈ linkFactors e k links, varState f.row = e ∧ varState f.col = e := by
  induction links generalizing k with
  | nil => intro f hf; cases hf
  | cons l rest ih =>
    cases rest with
    | nil =>
      simp only [linkFactors, List.forall_mem_singleton]
      exact mkFactor_vars l rfl rfl
    | cons l' rest =>
      simp only [linkFactors, List.forall_mem_cons]
      exact ⟨mkFactor_vars l rfl rfl, ih (k + 1)⟩

theorem spec_factors_vars (s : Spec) :
    ∀ f ∈ s.factors, varState f.row = s.state ∧ varState f.col = s.state := by
  cases s with
  | direct e op => intro f hf; cases hf
  | chain e op pool neg links => exact linkFactors_vars e 0 links

theorem spec_amp_var (s : Spec) : varState s.amp.2 = s.state := by
  cases s <;> rfl

/-- two environments that agree on the variables of state `e` give the same factors -/
theorem prodFactors_congr (D : ℕ → Angle → ℤ → ℤ → R) (e : ℤ) (fs : List Factor)
    (hfs : ∀ f ∈ fs, varState f.row = e ∧ varState f.col = e) (env env' : Env)
    (h : ∀ x, varState x = e → env' x = env x) : prodFactors D fs env' = prodFactors D fs env := by
  unfold prodFactors
  congr 1
  apply List.map_congr_left
  intro f hf
  unfold evalFactor
  rw [h _ (hfs f hf).1, h _ (hfs f hf).2]

/-- `alignedS` reads the environment only at the outer variables of its states -/
theorem alignedS_congr (D : ℕ → Angle → ℤ → ℤ → R) (specs : List Spec) (A : List ℤ → R)
    (env env' : Env) (h : ∀ e ∈ specs.map Spec.state, env' (.outer e) = env (.outer e)) :
    alignedS D specs A env' = alignedS D specs A env := by
  induction specs generalizing A with
  | nil => rfl
  | cons s rest ih =>
    have hrest : ∀ e ∈ rest.map Spec.state, env' (.outer e) = env (.outer e) :=
      fun e he => h e (List.mem_cons_of_mem _ he)
    cases s with
    | direct e op => simp only [alignedS, h e List.mem_cons_self, ih _ hrest]
    | chain e op pool neg links => simp only [alignedS, h e List.mem_cons_self, ih _ hrest]

theorem prodFactors_cons (D : ℕ → Angle → ℤ → ℤ → R) (f : Factor) (fs : List Factor) :
    prodFactors D (f :: fs) = fun env => evalFactor D env f * prodFactors D fs env := by
  funext env
  simp only [prodFactors, List.map_cons, List.prod_cons]

omit [CommSemiring R] in
theorem evalFactor_mkFactor (D : ℕ → Angle → ℤ → ℤ → R) (env : Env) (l : Link) (x y : Var) :
    evalFactor D env (mkFactor l x y) = linkMat D l (env x) (env y) := by
  unfold evalFactor mkFactor linkMat
  split <;> rfl

theorem chain_sum (D : ℕ → Angle → ℤ → ℤ → R) (e : ℤ) (pool : List ℤ) (links : List Link)
    (k : ℕ) (env : Env) :
    psum (linkSums e pool k links) (prodFactors D (linkFactors e k links)) env
      = chainMat D pool links (env (.outer e)) (env (.inner k e)) := by
  induction links generalizing k env with
  | nil => simp [linkSums, linkFactors, psum, prodFactors, chainMat]
  | cons l rest ih =>
    cases rest with
    | nil =>
      simp only [linkSums, linkFactors, psum, prodFactors_cons, evalFactor_mkFactor, chainMat, prodFactors,
        List.map_nil, List.prod_nil, mul_one]
    | cons l' rest =>
      simp only [linkSums, linkFactors, psum, chainMat]
      congr 1
      apply List.map_congr_left
      intro w _
      rw [prodFactors_cons, psum_mul_const _ _ _ (linkMat D l w (env (.inner k e))), ih (k + 1),
        Function.update_self, Function.update_of_ne (by intro hh; cases hh)]
      intro env' h'
      rw [evalFactor_mkFactor, h' _ (inner_not_mem_linkSums le_rfl), h' _ (inner_not_mem_linkSums k.le_succ),
        Function.update_self, Function.update_of_ne (by intro hh; injection hh with h1 h2; omega)]

theorem term_cons (D : ℕ → Angle → ℤ → ℤ → R) (A : List ℤ → R) (s : Spec) (rest : List Spec) (env : Env) :
    term D A (flatten (s :: rest)) env
      = term D (fun ls => A (evalIdx env s.amp :: ls)) (flatten rest) env
        * prodFactors D s.factors env := by
  simp only [term, flatten, prodFactors, List.map_append, List.prod_append, List.map_cons]
  rw [mul_assoc, mul_comm]

/-- For any number of outer states, any chain lengths, any interpretation of the Wigner factors and
any amplitude tensor: the flat skeleton (named indices, one big `PoolSum`) denotes the
state-by-state contraction of `A` with one chain matrix per state. -/
theorem wiring (D : ℕ → Angle → ℤ → ℤ → R) (specs : List Spec)
    (hnd : (specs.map Spec.state).Nodup) (A : List ℤ → R) (env : Env) :
    amplitude D A (flatten specs) env = alignedS D specs A env := by
  unfold amplitude
  induction specs generalizing A env with
  | nil => simp [flatten, psum, term, prodFactors, alignedS]
  | cons s rest ih =>
    obtain ⟨hs, hrest⟩ := List.nodup_cons.mp hnd
    -- the sums of the other states leave the variables of state `s` alone
    have hinner : psum (flatten rest).sums (term D A (flatten (s :: rest)))
        = fun env₁ => alignedS D rest (fun ls => A (evalIdx env₁ s.amp :: ls)) env₁
          * prodFactors D s.factors env₁ := by
      funext env₁
      rw [← ih hrest, ← psum_mul_right]
      apply psum_congr
      intro env' h'
      have hx : ∀ x, varState x = s.state → env' x = env₁ x :=
        fun x hx => h' x fun hmem => hs (hx ▸ flatten_sums_vars rest x hmem)
      rw [term_cons, prodFactors_congr D s.state s.factors (spec_factors_vars s) env₁ env' hx]
      unfold evalIdx
      rw [hx _ (spec_amp_var s)]
    rw [show (flatten (s :: rest)).sums = s.sums ++ (flatten rest).sums from rfl, psum_append, hinner]
    cases s with
    | direct e op =>
      simp [Spec.sums, Spec.factors, Spec.amp, psum, prodFactors, alignedS, evalIdx]
    | chain e op pool neg links =>
      simp only [Spec.sums, Spec.factors, Spec.amp, psum, alignedS]
      congr 1
      apply List.map_congr_left
      intro l _
      rw [psum_mul_const _ _ _ (alignedS D rest (fun ls => A (sgn neg l :: ls)) env), chain_sum,
        Function.update_self, Function.update_of_ne (by intro hh; cases hh), mul_comm]
      intro env' h'
      have h0 : evalIdx env' (neg, Var.inner 0 e) = sgn neg l := by
        simp only [evalIdx, sgn, h' _ (inner_not_mem_linkSums le_rfl), Function.update_self]
      rw [h0]
      exact alignedS_congr D rest _ env env' fun e' _ => by
        rw [h' _ outer_not_mem_linkSums, Function.update_of_ne (by intro hh; cases hh)]

end Ampverif.Lemmas.C05Wiring
