/-
C07: the specification of the helicity-angle symbols (written from the docstrings of
`get_boost_chain_suffix`, `is_opposite_helicity_state` and `compute_helicity_angles`, with no
lookup by edge id) and the proof that the model's id-addressed recursion produces exactly it.
-/
import Ampverif.Lemmas.C07Tree

namespace Ampverif.Lemmas.C07
open Ampverif.Model.Topology

/-! ## The documented naming scheme

"The generated subscripts describe the decay sequence from the right to the left, separated by
commas. Resonance edge IDs are expressed as a sum of the final state IDs that lie below them. The
generated label does not state the top-most edge (the initial state)."

So the symbol of a state with final states `target`, seen in the helicity frame reached by
boosting successively into the subsystems `chain` (outermost first), is
`_{target}^{chain reversed, comma separated}`. -/

def renderName (target : List Int) (chain : List (List Int)) : List Char :=
  renderGroups (concatDigits target :: chain.reverse.map concatDigits)

/-- "state 0 is never an opposite helicity state; the sibling of an opposite helicity state is a
helicity state": the helicity child is the one whose sorted tuple of final-state ids is smaller -/
def helicityChild (a b : Tree) : Tree := if lexGt a.attached b.attached then b else a
def oppositeChild (a b : Tree) : Tree := if lexGt a.attached b.attached then a else b

/-- every decay node below (and including) the edge `s`, with the chain of subsystems its
helicity frame is reached through: the frame of the initial state is the frame the momenta are
given in (`chain = []`); the helicity frame of a decaying state is reached from the frame of its
parent by boosting into the state's own subsystem. -/
def nodesOf : List (List Int) → Tree → List (List (List Int) × Tree × Tree)
  | _, .leaf _ => []
  | chain, .node _ a b =>
    (chain, a, b) :: (nodesOf (chain ++ [a.attached]) a ++ nodesOf (chain ++ [b.attached]) b)

/-- DOCUMENTED meaning of the angle pair of a decay node `a b` seen through `chain`:
named after the helicity child, and "the angles of the helicity state" -/
def docWrite (n : List (List Int) × Tree × Tree) : Write :=
  ⟨renderName (helicityChild n.2.1 n.2.2).attached n.1,
   ⟨n.1, (helicityChild n.2.1 n.2.2).attached⟩⟩

/-- the documented helicity angles of a topology: one pair per decay node -/
def docAngles (chain : List (List Int)) (s : Tree) : List Write := (nodesOf chain s).map docWrite

theorem helicityChild_id (c sib : Tree) :
    (if lexGt c.attached sib.attached then sib.id else c.id) = (helicityChild c sib).id := by
  unfold helicityChild; split <;> rfl

theorem helicityChild_swap {a b : Tree} (hne : a.attached ≠ b.attached) :
    helicityChild b a = helicityChild a b ∧ oppositeChild b a = oppositeChild a b := by
  unfold helicityChild oppositeChild
  rw [lexGt_swap _ _ hne]
  cases lexGt a.attached b.attached <;> exact ⟨rfl, rfl⟩

theorem docWrite_swap {chain : List (List Int)} {a b : Tree} (hne : a.attached ≠ b.attached) :
    docWrite (chain, b, a) = docWrite (chain, a, b) := by
  unfold docWrite; rw [(helicityChild_swap hne).1]

theorem Kids.hel {p c sib : Tree} (hk : Kids p c sib) :
    Kids p (helicityChild c sib) (oppositeChild c sib) := by
  unfold helicityChild oppositeChild
  split
  · exact hk.symm
  · exact hk

/-- the assignment made for the child `c` (with sibling `sib`) of a decay node seen through
`chain`: none if `c` is a final state -/
def childWrite (v : Variant) (chain : List (List Int)) (c sib : Tree) : List Write :=
  if c.isLeaf then [] else
    [⟨renderName (helicityChild c sib).attached chain, ⟨chain, match v.angleSource with
      | .decaying => c.attached
      | .helicityState => (helicityChild c sib).attached⟩⟩]

/-- all assignments made for one decay node: the documented one if both decay products are final
states, and one for each decay product that decays -/
def nodeWrites (v : Variant) (n : List (List Int) × Tree × Tree) : List Write :=
  (if n.2.1.isLeaf && n.2.2.isLeaf then [docWrite n] else []) ++
    (childWrite v n.1 n.2.1 n.2.2 ++ childWrite v n.1 n.2.2 n.2.1)

def chainOf (p : List Tree) : List (List Int) := (p.drop 1).map Tree.attached

theorem chainOf_snoc {p : List Tree} (hp : p ≠ []) (a : Tree) :
    chainOf (p ++ [a]) = chainOf p ++ [a.attached] := by
  cases p with
  | nil => exact absurd rfl hp
  | cons r rest => simp [chainOf]

theorem At.anc_nodes {t s : Tree} {anc : List Tree} (h : At t anc s) :
    ∀ p ∈ anc, p.isLeaf = false := by
  induction h with
  | here t => intro p hp; cases hp
  | left _ ih => intro p hp; simp at hp; rcases hp with rfl | hp; rfl; exact ih p hp
  | right _ ih => intro p hp; simp at hp; rcases hp with rfl | hp; rfl; exact ih p hp

theorem labelOf_eq (s : Tree) : labelOf s = concatDigits s.attached := by
  cases s with
  | leaf i => simp [labelOf, Tree.attached, Tree.leaves, sortInts_single, concatDigits]
  | node i a b => simp [labelOf]

theorem suffix_child {t : Tree} {anc : List Tree} {p c : Tree} (hw : WF t)
    (h : At t (anc ++ [p]) c) : suffixE t c.id = renderName c.attached (chainOf (anc ++ [p])) := by
  have hp := pathTo_at hw h
  have hlab : labelOf = fun x => concatDigits x.attached := funext labelOf_eq
  cases anc with
  | nil =>
    simp [suffixE, boostChainSuffix, suffixGroups, hp, renderName, chainOf, labelOf_eq]
  | cons r rest =>
    simp [suffixE, boostChainSuffix, suffixGroups, hp, renderName, chainOf, hlab,
      List.map_reverse, Function.comp_def]

theorem childWrites_at {v : Variant} {t p c sib : Tree} {anc : List Tree} (hw : WF t)
    (h : At t anc p) (hk : Kids p c sib) (ch : List (List Int)) :
    childWrites v t (chainOf (anc ++ [p])) c (recAngles v t ch c)
      = childWrite v (chainOf (anc ++ [p])) c sib ++ recAngles v t ch c := by
  cases c with
  | leaf j => rfl
  | node j x y =>
    have hh := h.snoc hk.hel
    simp only [childWrites, childWrite, Tree.isLeaf]
    rw [isOpposite_at hw h hk, sibling_at hw h hk, helicityChild_id, attachedE_at hw (h.snoc hk),
      attachedE_at hw hh, suffix_child hw hh]
    rfl

/-- the assignment made first when both decay products are final states is the documented one -/
theorem firstWrite_at {t p c sib : Tree} {anc : List Tree} (hw : WF t) (h : At t anc p)
    (hk : Kids p c sib) (hc : c.isLeaf = true) (hs : sib.isLeaf = true) :
    (⟨suffixE t (if isOppositeE t c.id then sib.id else c.id),
      ⟨chainOf (anc ++ [p]), [if isOppositeE t c.id then sib.id else c.id]⟩⟩ : Write)
      = docWrite (chainOf (anc ++ [p]), c, sib) := by
  have hl : (helicityChild c sib).isLeaf = true := by unfold helicityChild; split <;> assumption
  rw [isOpposite_at hw h hk, helicityChild_id, suffix_child hw (h.snoc hk.hel), ← attached_leaf hl]
  rfl

theorem mem_ite_append {α : Type} {c : Prop} [Decidable c] {x y : List α} {w : α} :
    w ∈ (if c then x ++ y else y ++ x) ↔ w ∈ x ∨ w ∈ y := by
  split
  · exact List.mem_append
  · exact List.mem_append.trans Or.comm

theorem exists_mem_nodesOf_node {P : List (List Int) × Tree × Tree → Prop}
    {chain : List (List Int)} {i : Int} {a b : Tree} :
    (∃ n ∈ nodesOf chain (.node i a b), P n) ↔ P (chain, a, b) ∨
      (∃ n ∈ nodesOf (chain ++ [a.attached]) a, P n) ∨ ∃ n ∈ nodesOf (chain ++ [b.attached]) b, P n := by
  simp only [nodesOf, List.mem_cons, List.mem_append, or_and_right, exists_or, exists_eq_left]

/-- `compute_helicity_angles` (as modelled, addressing everything by edge id) makes exactly the
assignments `nodeWrites` of the decay nodes of the tree -/
theorem mem_recAngles (v : Variant) {t : Tree} (hw : WF t) {w : Write} :
    ∀ (s : Tree) (anc : List Tree), At t anc s →
      (w ∈ recAngles v t (chainOf (anc ++ [s])) s ↔
        ∃ n ∈ nodesOf (chainOf (anc ++ [s])) s, w ∈ nodeWrites v n) := by
  intro s
  induction s with
  | leaf i => intro anc _; simp [recAngles, nodesOf]
  | node i a b iha ihb =>
    intro anc h
    have hl := h.snoc (.left i a b)
    have hr := h.snoc (.right i a b)
    rw [recAngles]
    simp only [attachedE_at hw hl, attachedE_at hw hr, childWrites_at hw h (.left i a b),
      childWrites_at hw h (.right i a b), exists_mem_nodesOf_node, nodeWrites,
      ← chainOf_snoc (List.append_ne_nil_of_right_ne_nil _ (List.cons_ne_nil _ _)),
      List.mem_append, mem_ite_append, iha _ hl, ihb _ hr]
    rw [or_or_or_comm, ← or_assoc]
    refine or_congr (or_congr ?_ Iff.rfl) Iff.rfl
    split
    · -- the children in the order of their ids, as the code visits them
      rename_i hab
      rw [Bool.and_eq_true] at hab
      by_cases hle : a.id ≤ b.id
      · simp only [hle, if_true]
        rw [firstWrite_at hw h (.left i a b) hab.1 hab.2]
      · simp only [hle, if_false]
        rw [firstWrite_at hw h (.right i a b) hab.2 hab.1,
          docWrite_swap (attached_ne_of_wf (h.wf hw))]
    · rfl

theorem mem_angleWrites (v : Variant) {t : Tree} (hw : WF t) {w : Write} :
    w ∈ angleWrites v t ↔ ∃ n ∈ nodesOf [] t, w ∈ nodeWrites v n :=
  mem_recAngles v hw t [] (.here t)

end Ampverif.Lemmas.C07
