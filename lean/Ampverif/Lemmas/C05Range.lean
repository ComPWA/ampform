/-
C05 — `create_spin_range` model: the loop produces `-s, -s+1, …, s`, ends by its own condition,
and the `remove(0.0)` step removes exactly the value 0 when it is there.
-/
import Ampverif.Model.C05Spin
import Mathlib.Data.List.Nodup
import Mathlib.Data.List.Range
import Mathlib.Tactic.Ring

namespace Ampverif.Lemmas.C05Range
open Ampverif.Model.C05Spin

theorem loop_spec (n : ℕ) : ∀ (fuel : ℕ) (s2 p : ℤ) (acc : List ℤ), n ≤ fuel →
    s2 < p + 2 * (n : ℤ) → (∀ k : ℕ, k < n → p + 2 * (k : ℤ) ≤ s2) →
    loop fuel s2 p acc = some (acc ++ (List.range n).map (fun (k : ℕ) => p + 2 * (k : ℤ))) := by
  induction n with
  | zero =>
    intro fuel s2 p acc _ hn _
    have hp : ¬ p ≤ s2 := by simp at hn; omega
    cases fuel <;> simp [loop, hp]
  | succ n ih =>
    intro fuel s2 p acc hfuel hn hle
    have hp : p ≤ s2 := by simpa using hle 0 (Nat.succ_pos n)
    obtain ⟨f, rfl⟩ : ∃ f, fuel = f + 1 := ⟨fuel - 1, by omega⟩
    have hp' : (if p = 0 then (0 : ℤ) else p) = p := by split <;> simp_all
    simp only [loop, hp, if_true, hp']
    rw [ih f s2 (p + 2) (acc ++ [p]) (by omega) (by push_cast at hn ⊢; omega)
      (fun k hk => by have := hle (k + 1) (by omega); push_cast at this; omega)]
    rw [List.range_succ_eq_map, List.map_cons, List.map_map, List.append_assoc]
    congr 2
    simp only [Nat.cast_zero, mul_zero, add_zero, List.singleton_append, List.cons.injEq, true_and]
    apply List.map_congr_left
    intro k _
    simp only [Function.comp, Nat.succ_eq_add_one]
    push_cast
    ring

theorem loop_full (s2 : ℕ) : loop ((s2 : ℤ).toNat + 1) s2 (-(s2 : ℤ)) [] = some (fullRange s2) := by
  rw [loop_spec (s2 + 1) _ _ _ _ (by simp) (by push_cast; omega) (fun k hk => by omega)]
  simp [fullRange]

theorem fullRange_nodup (s2 : ℕ) : (fullRange s2).Nodup := by
  unfold fullRange
  apply List.Nodup.map _ (List.nodup_range)
  intro a b h
  simp only at h
  omega

theorem mem_fullRange (s2 : ℕ) (m : ℤ) : m ∈ fullRange s2 ↔ ∃ k : ℕ, k ≤ s2 ∧ m = -(s2 : ℤ) + 2 * (k : ℤ) := by
  unfold fullRange
  simp only [List.mem_map, List.mem_range]
  constructor
  · rintro ⟨k, hk, rfl⟩; exact ⟨k, by omega, rfl⟩
  · rintro ⟨k, hk, rfl⟩; exact ⟨k, by omega, rfl⟩

theorem fullRange_neg (s2 : ℕ) : ∀ m ∈ fullRange s2, -m ∈ fullRange s2 := by
  intro m hm
  obtain ⟨k, hk, rfl⟩ := (mem_fullRange s2 m).mp hm
  exact (mem_fullRange s2 _).mpr ⟨s2 - k, by omega, by push_cast [Nat.cast_sub hk]; ring⟩

theorem zero_mem_fullRange (s2 : ℕ) : (0 : ℤ) ∈ fullRange s2 ↔ s2 % 2 = 0 := by
  rw [mem_fullRange]
  constructor
  · rintro ⟨k, _, h⟩; omega
  · intro h; exact ⟨s2 / 2, by omega, by omega⟩

theorem length_fullRange (s2 : ℕ) : (fullRange s2).length = s2 + 1 := by simp [fullRange]

theorem pyRemove_eq (x : ℤ) (l : List ℤ) :
    pyRemove x l = if x ∈ l then some (l.erase x) else none := by
  induction l with
  | nil => rfl
  | cons y ys ih =>
    by_cases hyx : y = x
    · simp [pyRemove, hyx]
    · have hxy : ¬ x = y := fun h => hyx h.symm
      rw [pyRemove, if_neg hyx, ih, List.erase_cons_tail (by simpa using hyx)]
      by_cases hmem : x ∈ ys <;> simp [hmem, hxy]

theorem pyRemove_spec (x : ℤ) (l : List ℤ) (hx : x ∈ l) (hnd : l.Nodup) :
    pyRemove x l = some (l.filter (· ≠ x)) := by
  rw [pyRemove_eq, if_pos hx, hnd.erase_eq_filter]
  simp only [bne, ne_eq, decide_not]
  rfl

/-- `create_spin_range` of the repaired source: total, and exactly the specification. -/
theorem spinRange_sound (v : Variant) (hv : v.sound) (s2 : ℕ) (flag : Bool) :
    spinRange v (s2 : ℤ) flag = .ok (specRange s2 flag) := by
  unfold Variant.sound at hv
  unfold spinRange specRange
  rw [loop_full]
  simp only [hv, Bool.not_true, Bool.false_or, length_fullRange]
  cases flag with
  | false => simp
  | true =>
    by_cases h0 : s2 = 0
    · subst h0; simp [fullRange]
    · have hpos : 0 < s2 := Nat.pos_of_ne_zero h0
      by_cases hev : s2 % 2 = 0
      · have hmem := (zero_mem_fullRange s2).mpr hev
        have hc : (fullRange s2).contains 0 = true := by simpa using hmem
        simp only [Bool.true_and, hc, hev, hpos, pyRemove_spec 0 _ hmem (fullRange_nodup s2)]
        simp [h0]
      · have hmem : (0 : ℤ) ∉ fullRange s2 := fun h => hev ((zero_mem_fullRange s2).mp h)
        simp [hev, hmem]

end Ampverif.Lemmas.C05Range
