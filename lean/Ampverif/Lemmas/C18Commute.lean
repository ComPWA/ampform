/-
Helper lemmas for C18: substitutions commute syntactically; `doit`.
-/
import Ampverif.Lemmas.C18Sum

namespace Ampverif.Lemmas.C18
open Ampverif.Model

theorem subst1_not_occ (v : Variant) (hv : v.sound) (i : Sym) (r : Expr) (e : Expr) (h : i ∉ syms e) :
    subst1 v i r e = e := by
  induction e using Expr.induct with
  | sym s =>
    have : s ≠ i := fun hs => h (by simp [syms, hs])
    simp [subst1, this]
  | rat => rfl
  | pow b n ih => simp only [subst1, ih h]
  | psum b ixs ihb ihx =>
    simp only [syms, List.mem_append, mem_symsBinders, not_or] at h
    rw [subst1_psum_not_mem hv h.1.1, ihb h.2, subst1Binders_eq_map,
      map_pools_eq_self fun p hp e he => ihx p hp e he fun hs => h.1.2 ⟨p, hp, e, he, hs⟩]
  | add es ih | mul es ih | app _ es ih | node _ es _ ih | idx _ es ih =>
    simp only [syms, symsList_eq_flatMap, List.mem_flatMap, not_exists, not_and] at h
    simp only [sound_ite hv, subst1, subst1List_eq_map, map_eq_self fun e he => ih e he (h e he)]

theorem subst1List_not_occ (v : Variant) (hv : v.sound) (i : Sym) (r : Expr) :
    ∀ es : List Expr, i ∉ symsList es → subst1List v i r es = es :=
  fun es h => Expr.add.inj (subst1_not_occ v hv i r (.add es) h)

theorem subst1Binders_not_occ (v : Variant) (hv : v.sound) (i : Sym) (r : Expr) :
    ∀ ixs : List (Sym × List Expr), i ∉ symsBinders ixs → subst1Binders v i r ixs = ixs := by
  intro ixs h
  rw [subst1Binders_eq_map]
  exact map_pools_eq_self fun p hp e he =>
    subst1_not_occ v hv i r e fun hs => h (mem_symsBinders.mpr ⟨p, hp, e, he, hs⟩)

/-! ### two substitutions commute

`e[i ↦ w][x ↦ a] = e[x ↦ a][i ↦ w[x ↦ a]]` when `i ≠ x`, `a` does not mention `i`, and `w` does
not mention `x` wherever `x` is bound inside `e` (no capture). -/

theorem subst1_comm (v : Variant) (hv : v.sound) (i : Sym) (w : Expr) (x : Sym) (a : Expr)
    (hix : i ≠ x) (hia : i ∉ syms a) (e : Expr) (h : x ∈ bound e → x ∉ syms w) :
    subst1 v i (subst1 v x a w) (subst1 v x a e) = subst1 v x a (subst1 v i w e) := by
  induction e using Expr.induct with
  | sym s =>
    by_cases hsx : s = x
    · simp [subst1, hsx, subst1_not_occ v hv i _ a hia, Ne.symm hix]
    · by_cases hsi : s = i
      · simp [subst1, hsi, hix]
      · simp [subst1, hsx, hsi]
  | rat => rfl
  | pow b n ih => simp only [subst1, ih h]
  | psum b ixs ihb ihx =>
    simp only [bound, List.mem_append, mem_boundBinders] at h
    by_cases h1 : x ∈ names ixs <;> by_cases h2 : i ∈ names ixs
    · rw [subst1_psum_mem hv h1, subst1_psum_mem hv h2,
        subst1_psum_mem hv h2, subst1_psum_mem hv h1]
    · rw [subst1_psum_mem hv h1, subst1_not_occ v hv x a w (h (Or.inl (Or.inl h1))),
        subst1_psum_not_mem hv h2,
        subst1_psum_mem hv (by rw [names_subst1Binders]; exact h1)]
    · rw [subst1_psum_not_mem hv h1,
        subst1_psum_mem hv (by rw [names_subst1Binders]; exact h2),
        subst1_psum_mem hv h2, subst1_psum_not_mem hv h1]
    · rw [subst1_psum_not_mem hv h1,
        subst1_psum_not_mem hv (by rw [names_subst1Binders]; exact h2),
        subst1_psum_not_mem hv h2,
        subst1_psum_not_mem hv (by rw [names_subst1Binders]; exact h1),
        ihb fun hx => h (Or.inr hx)]
      simp only [subst1Binders_eq_map, List.map_map, Function.comp_def]
      rw [map_pools_congr fun p hp e he => ihx p hp e he fun hx => h (Or.inl (Or.inr ⟨p, hp, e, he, hx⟩))]
  | add es ih | mul es ih | app _ es ih | node _ es _ ih | idx _ es ih =>
    simp only [bound, boundList_eq_flatMap, List.mem_flatMap] at h
    simp only [sound_ite hv, subst1, subst1List_eq_map, List.map_map, Function.comp_def]
    rw [List.map_congr_left fun e he => ih e he fun hx => h ⟨e, he, hx⟩]

theorem subst1List_comm (v : Variant) (hv : v.sound) (i : Sym) (w : Expr) (x : Sym) (a : Expr)
    (hix : i ≠ x) (hia : i ∉ syms a) :
    ∀ es : List Expr, (x ∈ boundList es → x ∉ syms w) →
      subst1List v i (subst1 v x a w) (subst1List v x a es) = subst1List v x a (subst1List v i w es) :=
  fun es h => Expr.add.inj (subst1_comm v hv i w x a hix hia (.add es) h)

theorem subst1Binders_comm (v : Variant) (hv : v.sound) (i : Sym) (w : Expr) (x : Sym) (a : Expr)
    (hix : i ≠ x) (hia : i ∉ syms a) :
    ∀ ixs : List (Sym × List Expr), (x ∈ boundBinders ixs → x ∉ syms w) →
      subst1Binders v i (subst1 v x a w) (subst1Binders v x a ixs)
        = subst1Binders v x a (subst1Binders v i w ixs) := by
  intro ixs h
  simp only [subst1Binders_eq_map, List.map_map, Function.comp_def]
  exact map_pools_congr fun p hp e he =>
    subst1_comm v hv i w x a hix hia e fun hx => h (mem_boundBinders.mpr ⟨p, hp, e, he, hx⟩)

/-- the pairs of a replacement sequence with `x ↦ a` applied to every value. -/
def mapVals (v : Variant) (x : Sym) (a : Expr) (c : List (Sym × Expr)) : List (Sym × Expr) :=
  c.map (fun p => (p.1, subst1 v x a p.2))

theorem substSeq_comm (v : Variant) (hv : v.sound) (x : Sym) (a : Expr) (c : List (Sym × Expr)) :
    ∀ e : Expr, (∀ p ∈ c, p.1 ≠ x ∧ p.1 ∉ syms a ∧ noPsum p.2 = true ∧ (x ∈ bound e → x ∉ syms p.2)) →
      substSeq v (mapVals v x a c) (subst1 v x a e) = subst1 v x a (substSeq v c e) := by
  induction c with
  | nil => intro e _; rfl
  | cons p c ih =>
    intro e h
    obtain ⟨i, w⟩ := p
    have hp := h (i, w) List.mem_cons_self
    simp only [mapVals, List.map_cons, substSeq]
    rw [subst1_comm v hv i w x a hp.1 hp.2.1 e hp.2.2.2]
    apply ih
    intro q hq
    have := h q (List.mem_cons_of_mem _ hq)
    rw [bound_subst1 hv (bound_of_noPsum hp.2.2.1)]
    exact this

theorem assignments_keys {α : Type} (ixs : List (Sym × List α)) :
    ∀ c ∈ assignments ixs, ∀ p ∈ c, p.1 ∈ names ixs := by
  intro c hc p hp
  obtain ⟨q, hq, h, _⟩ := assignments_mem hc hp
  exact h ▸ List.mem_map_of_mem hq

/-- `itertools.product` over substituted pools = the substituted combinations. -/
theorem assignments_subst1Binders (v : Variant) (x : Sym) (a : Expr) (ixs : List Binder) :
    assignments (subst1Binders v x a ixs) = (assignments ixs).map (mapVals v x a) := by
  rw [subst1Binders_eq_map, assignments_map_pools]
  rfl

theorem eval_doitPass (I : Interp) (v : Variant) (hv : v.sound) (k : Expr → Expr)
    (hk : ∀ (e : Expr) (ρ : Env), wfSums e = true → eval I (k e) ρ = eval I e ρ)
    (hev : ∀ (b : Expr) (ixs : List Binder) (ρ : Env), wfSums (.psum b ixs) = true →
      eval I (evaluate v (.psum b ixs)) ρ = eval I (.psum b ixs) ρ)
    (e : Expr) (ρ : Env) (h : wfSums e = true) : eval I (doitPass v k e) ρ = eval I e ρ := by
  induction e using Expr.induct with
  | sym | rat => rfl
  | pow b n ih => simp only [doitPass, eval, ih h]
  | psum b ixs => rw [doitPass, hk _ ρ (wfSums_evaluate v hv b ixs h), hev b ixs ρ h]
  | add es ih | mul es ih | app _ es ih | node _ es _ ih | idx _ es ih =>
    simp only [wfSums, wfSumsList_eq_all, List.all_eq_true] at h
    simp only [doitPass, eval, doitPassList_eq_map, evalList_eq_map, List.map_map, Function.comp_def]
    rw [List.map_congr_left fun e he => ih e he (h e he)]

theorem evalList_doitPass (I : Interp) (v : Variant) (hv : v.sound) (k : Expr → Expr)
    (hk : ∀ (e : Expr) (ρ : Env), wfSums e = true → eval I (k e) ρ = eval I e ρ)
    (hev : ∀ (b : Expr) (ixs : List Binder) (ρ : Env), wfSums (.psum b ixs) = true →
      eval I (evaluate v (.psum b ixs)) ρ = eval I (.psum b ixs) ρ) :
    ∀ (es : List Expr) (ρ : Env), wfSumsList es = true →
      evalList I (doitPassList v k es) ρ = evalList I es ρ := by
  intro es ρ h
  simp only [wfSumsList_eq_all, List.all_eq_true] at h
  simp only [doitPassList_eq_map, evalList_eq_map, List.map_map, Function.comp_def]
  exact List.map_congr_left fun e he => eval_doitPass I v hv k hk hev e ρ (h e he)

end Ampverif.Lemmas.C18
