/-
Helper lemmas for C15: `weave` (pickle's flat new-args tuple) is `interleave`, option-list helpers,
the terms of a model record.
-/
import Ampverif.Lemmas.C14Unfold

namespace Ampverif.Lemmas.C15
open Ampverif.Model Ampverif.Lemmas.C14

theorem weave_eq_interleave (fs : List Field) (es : List Expr) (t : List Attr) :
    weave (fs.map (fun f => f.sympify)) es t = interleave fs es t := by
  fun_induction interleave fs es t <;> simp_all [weave]

theorem deserialiseList_map {tbl : ClassTable} {f : Expr → Ser} {es : List Expr}
    (h : ∀ e ∈ es, deserialise tbl (f e) = some e) : deserialiseList tbl (es.map f) = some es := by
  induction es <;> simp_all [deserialiseList]

theorem optPairs_map {α β : Type} (f : α → β) (g : β → Option α) (l : List (α × α))
    (h : ∀ p ∈ l, g (f p.1) = some p.1 ∧ g (f p.2) = some p.2) :
    optPairs g (l.map (fun p => (f p.1, f p.2))) = some l := by
  induction l <;> simp_all [optPairs]

theorem optFst_map {α β γ : Type} (f : α → β) (g : β → Option α) (l : List (α × γ))
    (h : ∀ p ∈ l, g (f p.1) = some p.1) :
    optFst g (l.map (fun p => (f p.1, p.2))) = some l := by
  induction l <;> simp_all [optFst]

theorem optSnd_map {α β γ : Type} (f : α → β) (g : β → Option α) (l : List (γ × α))
    (h : ∀ p ∈ l, g (f p.2) = some p.2) :
    optSnd g (l.map (fun p => (p.1, f p.2))) = some l := by
  induction l <;> simp_all [optSnd]

theorem mem_exprs (m : ModelRec) (e : Expr) :
    e ∈ m.exprs ↔ e = m.intensity ∨ (∃ p ∈ m.amplitudes, e = p.1 ∨ e = p.2) ∨
      (∃ p ∈ m.parameterDefaults, e = p.1) ∨ (∃ p ∈ m.kinematicVariables, e = p.1 ∨ e = p.2) ∨
      (∃ p ∈ m.components, e = p.2) := by
  simp only [ModelRec.exprs, List.mem_cons, List.mem_append, List.mem_flatMap, List.mem_map,
    List.not_mem_nil, or_false, or_assoc, eq_comm (b := e)]

end Ampverif.Lemmas.C15
