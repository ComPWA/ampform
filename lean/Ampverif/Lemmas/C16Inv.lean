/-
C16 — the directory invariant of the fixed variant, its preservation by every operation
(call / step / crash) of every process, and the termination measure of a call.  Core Lean only.

`Inv` lists the three clauses of `FS.WF` and, for the two program counters that hold a temp file,
what `Owes` asks; the proofs take it apart with `Inv.wf` / `Inv.owes` and build it with
`Inv.of_owes`, so that `FS.WF` lemmas and `Owes.frame` do the work.
A step of `p` touches at most `p`'s own temp name, the inode behind it and the final name, so
the obligations of all other processes carry over (`Inv.step`).
-/
import Ampverif.Model.C16Cache

namespace Ampverif.Model.C16

theorem setPc_pc_self (s : State) (p : Nat) (c : PC) : (setPc s p c).pc p = c := if_pos rfl
theorem setPc_pc_ne (s : State) {p q : Nat} (c : PC) (h : q ≠ p) : (setPc s p c).pc q = s.pc q :=
  if_neg h

theorem updIno_same (f : Nat → Bytes) (h : Nat) (b : Bytes) : updIno f h b h = b := if_pos rfl
theorem updIno_ne (f : Nat → Bytes) {h h' : Nat} (b : Bytes) (hne : h' ≠ h) :
    updIno f h b h' = f h' := if_neg hne

theorem updDir_same (d : Name → Option Nat) (n : Name) (x : Option Nat) : updDir d n x n = x :=
  if_pos rfl
theorem updDir_ne (d : Name → Option Nat) {n n' : Name} (x : Option Nat) (hne : n' ≠ n) :
    updDir d n x n' = d n' := if_neg hne

theorem updDir_eq_some {d : Name → Option Nat} {n n' : Name} {x : Option Nat} {h : Nat}
    (hh : updDir d n x n' = some h) : n' = n ∧ x = some h ∨ n' ≠ n ∧ d n' = some h := by
  unfold updDir at hh
  split at hh
  · exact .inl ⟨‹_›, hh⟩
  · exact .inr ⟨‹_›, hh⟩

theorem temp_ne_of_ne {m m' : Mode} {a a' p q : Nat} (h : q ≠ p) :
    Name.temp m' a' q ≠ Name.temp m a p := by
  intro hh; injection hh with _ _ h3; exact h h3

theorem events_cons (w : World) (v : Variant) (s : State) (op : Op) (ops : List Op) :
    events w v s (op :: ops) =
      (applyOp w v s op).2.toList ++ events w v (applyOp w v s op).1 ops := rfl

/-- A file content is *honest* when, if it loads as a record `(e, x)`, then `x = doit e`.
Truncated records, garbage, empty files and old-format files are honest (they do not load as a
record); so is every complete record written by a call. -/
def Honest (w : World) (b : Bytes) : Prop := ∀ e x, load b = .pair e x → x = w.doit e

theorem honest_of_not_pair (w : World) (b : Bytes) (h : ∀ e x, load b ≠ .pair e x) :
    Honest w b := by
  intro e x hl; exact absurd hl (h e x)

theorem honest_nil (w : World) : Honest w [] := fun _ _ h => nomatch h

theorem load_serNew (e : Expr) (v : Val) : load (serNew e v) = .pair e v := rfl
theorem load_serOld (v : Val) : load (serOld v) = .bare v := rfl

/-- every strict prefix of a record (`serNew` has 4 tokens, `serOld` 3) fails to load -/
theorem load_take_serNew (e : Expr) (v : Val) (k : Nat) (hk : k < 4) :
    load ((serNew e v).take k) = .fail :=
  match k, hk with
  | 0, _ | 1, _ | 2, _ | 3, _ => rfl

theorem load_take_serOld (v : Val) (k : Nat) (hk : k < 3) :
    load ((serOld v).take k) = .fail :=
  match k, hk with
  | 0, _ | 1, _ | 2, _ => rfl

theorem honest_take (w : World) (e : Expr) (k : Nat) :
    Honest w ((serNew e (w.doit e)).take k) := by
  intro e' x h
  by_cases hk : k < 4
  · rw [load_take_serNew e _ k hk] at h; cases h
  · rw [List.take_of_length_le (Nat.le_of_not_lt hk)] at h
    cases h; rfl

theorem honest_updIno {w : World} {f : Nat → Bytes} (hf : ∀ i, Honest w (f i)) (h : Nat)
    {b : Bytes} (hb : Honest w b) (i : Nat) : Honest w (updIno f h b i) := by
  unfold updIno
  split
  · exact hb
  · exact hf i

theorem writeAt_take (l : Bytes) (k : Nat) (t : Tok) (h : l[k]? = some t) :
    writeAt (l.take k) k t = l.take (k + 1) := by
  induction l generalizing k with
  | nil => cases h
  | cons b bs ih =>
    cases k with
    | zero => cases h; rfl
    | succ k => exact congrArg (b :: ·) (ih k h)

/-- Well-formed directory content: honest files, no hard links, inode counter ahead. -/
structure FS.WF (w : World) (fs : FS) : Prop where
  honest : ∀ i, Honest w (fs.ino i)
  inj : ∀ n1 n2 h, fs.dir n1 = some h → fs.dir n2 = some h → n1 = n2
  bound : ∀ n h, fs.dir n = some h → h < fs.next

theorem emptyFS_wf (w : World) : emptyFS.WF w :=
  ⟨fun _ => honest_nil w, fun _ _ _ h => (nomatch h), fun _ _ h => (nomatch h)⟩

/-- Pointing one name `a` to an inode `i` that no other name keeps, whatever else is dropped
from the directory, leaves it without hard links. -/
theorem FS.WF.repoint {w : World} {fs fs' : FS} (h : fs.WF w) (a : Name) (i : Nat)
    (hino : ∀ j, Honest w (fs'.ino j)) (hi : i < fs'.next) (hnext : fs.next ≤ fs'.next)
    (hdir : ∀ n j, fs'.dir n = some j → n = a ∧ j = i ∨ fs.dir n = some j ∧ j ≠ i) :
    fs'.WF w where
  honest := hino
  inj := by
    intro n1 n2 j h1 h2
    rcases hdir n1 j h1 with ⟨e1, i1⟩ | ⟨d1, ne1⟩ <;> rcases hdir n2 j h2 with ⟨e2, i2⟩ | ⟨d2, ne2⟩
    · rw [e1, e2]
    · exact absurd i1 ne2
    · exact absurd i2 ne1
    · exact h.inj _ _ _ d1 d2
  bound := by
    intro n j h1
    rcases hdir n j h1 with ⟨_, e⟩ | ⟨d, _⟩
    · rw [e]; exact hi
    · exact Nat.lt_of_lt_of_le (h.bound _ _ d) hnext

theorem FS.WF.addFile {w : World} {fs : FS} (h : fs.WF w) (n : Name) {b : Bytes}
    (hb : Honest w b) : (fs.addFile n b).WF w :=
  h.repoint n fs.next (honest_updIno h.honest _ hb) (Nat.lt_succ_self _) (Nat.le_succ _)
    fun _ _ h1 => (updDir_eq_some h1).imp (fun ⟨e, x⟩ => ⟨e, (Option.some.inj x).symm⟩)
      fun ⟨_, d⟩ => ⟨d, Nat.ne_of_lt (h.bound _ _ d)⟩

theorem FS.WF.replace {w : World} {fs : FS} (h : fs.WF w) {tmp : Name} (fin : Name) {i : Nat}
    (hd : fs.dir tmp = some i) : (replace fs tmp fin i).WF w :=
  h.repoint fin i h.honest (h.bound _ _ hd) (Nat.le_refl _) fun n j h1 => by
    rcases updDir_eq_some h1 with ⟨e, x⟩ | ⟨_, h2⟩
    · exact .inl ⟨e, (Option.some.inj x).symm⟩
    · rcases updDir_eq_some h2 with ⟨_, x⟩ | ⟨ne, d⟩
      · cases x
      · exact .inr ⟨d, fun e => ne (h.inj _ _ _ (e ▸ d) hd)⟩

/-- Admissible start: ANY well-formed directory (files under any names, also temp-like names,
holding truncated records, garbage, old-format pickles, records of other expressions), nobody
inside a call. -/
structure Initial (w : World) (s : State) : Prop where
  wf : s.fs.WF w
  idle : ∀ p, s.pc p = .idle

/-- every list of honest files is an admissible start -/
theorem initState_initial (w : World) (files : List (Name × Bytes))
    (h : ∀ nb ∈ files, Honest w nb.2) : Initial w (initState files) where
  wf := List.foldlRecOn files _ (emptyFS_wf w) fun fs hfs nb hnb => by
    split
    · exact hfs
    · exact hfs.addFile _ (h nb hnb)
  idle := fun _ => rfl

structure Inv (w : World) (s : State) : Prop where
  /-- every inode (reachable or not, final or temp) is honest -/
  honest : ∀ i, Honest w (s.fs.ino i)
  /-- no hard links -/
  inj : ∀ n1 n2 h, s.fs.dir n1 = some h → s.fs.dir n2 = some h → n1 = n2
  bound : ∀ n h, s.fs.dir n = some h → h < s.fs.next
  /-- a writer's inode is the one behind ITS temp name and holds a prefix of its record -/
  writer : ∀ p m e h k, s.pc p = .writing m e h k →
    s.fs.dir (.temp m (w.key m e) p) = some h ∧ s.fs.ino h = (serNew e (w.doit e)).take k
  /-- a process about to rename still has its temp file -/
  renamer : ∀ p m e, s.pc p = .willRename m e →
    ∃ h, s.fs.dir (.temp m (w.key m e) p) = some h

/-- what the invariant asks of the file system on behalf of process `p` at program counter `c` -/
def Owes (w : World) (fs : FS) (p : Nat) : PC → Prop
  | .writing m e h k =>
      fs.dir (.temp m (w.key m e) p) = some h ∧ fs.ino h = (serNew e (w.doit e)).take k
  | .willRename m e => ∃ h, fs.dir (.temp m (w.key m e) p) = some h
  | _ => True

/-- an obligation of `q` only looks at `q`'s temp names and the inodes behind them -/
theorem Owes.frame {w : World} {fs fs' : FS} {q : Nat} {c : PC} (ho : Owes w fs q c)
    (hdir : ∀ m a, fs'.dir (.temp m a q) = fs.dir (.temp m a q))
    (hino : ∀ m a h, fs.dir (.temp m a q) = some h → fs'.ino h = fs.ino h) : Owes w fs' q c := by
  cases c with
  | writing m e h k => exact ⟨(hdir _ _).trans ho.1, (hino _ _ _ ho.1).trans ho.2⟩
  | willRename m e => exact ho.imp fun _ hh => (hdir _ _).trans hh
  | _ => trivial

section
variable {w : World} {s : State}

theorem Inv.wf (hi : Inv w s) : s.fs.WF w := ⟨hi.honest, hi.inj, hi.bound⟩

theorem Inv.owes (hi : Inv w s) (p : Nat) : Owes w s.fs p (s.pc p) := by
  cases hpc : s.pc p with
  | writing m e h k => exact hi.writer p m e h k hpc
  | willRename m e => exact hi.renamer p m e hpc
  | _ => trivial

theorem Inv.of_owes (hwf : s.fs.WF w) (ho : ∀ p, Owes w s.fs p (s.pc p)) : Inv w s :=
  ⟨hwf.honest, hwf.inj, hwf.bound, fun p _ _ _ _ hp => by have := ho p; rwa [hp] at this,
    fun p _ _ hp => by have := ho p; rwa [hp] at this⟩

theorem Initial.inv (h : Initial w s) : Inv w s :=
  .of_owes h.wf fun p => by rw [h.idle p]; trivial

/-- A step of process `p` to program counter `c` that leaves the temp names of the other
processes, and the inodes behind them, as they were. -/
theorem Inv.step (hi : Inv w s) {fs' : FS} {p : Nat} {c : PC} (hwf : fs'.WF w)
    (hc : Owes w fs' p c)
    (hdir : ∀ q m a, q ≠ p → fs'.dir (.temp m a q) = s.fs.dir (.temp m a q))
    (hino : ∀ q m a h, q ≠ p → s.fs.dir (.temp m a q) = some h → fs'.ino h = s.fs.ino h) :
    Inv w (setPc { s with fs := fs' } p c) :=
  .of_owes hwf fun q => by
    by_cases hqp : q = p
    · rw [hqp, setPc_pc_self]; exact hc
    · rw [setPc_pc_ne _ _ hqp]
      exact (hi.owes q).frame (fun m a => hdir q m a hqp) fun m a h => hino q m a h hqp

/-- a step that leaves the file system alone -/
theorem Inv.pc_step (hi : Inv w s) (p : Nat) (c : PC) (hc : Owes w s.fs p c) :
    Inv w (setPc s p c) :=
  hi.step hi.wf hc (fun _ _ _ _ => rfl) fun _ _ _ _ _ _ => rfl

/-- `p` replaces the content of its temp file by a prefix of its record -/
theorem Inv.write (hi : Inv w s) {p : Nat} {m : Mode} {e : Expr} {h : Nat}
    (hd : s.fs.dir (.temp m (w.key m e) p) = some h) (k : Nat) :
    Inv w (setPc { s with fs := { s.fs with
      ino := updIno s.fs.ino h ((serNew e (w.doit e)).take k) } } p (.writing m e h k)) :=
  hi.step ⟨honest_updIno hi.honest h (honest_take w e k), hi.inj, hi.bound⟩
    ⟨hd, updIno_same ..⟩ (fun _ _ _ _ => rfl) fun _ _ _ _ hqp hq =>
      updIno_ne _ _ fun e => temp_ne_of_ne hqp (hi.inj _ _ _ (e ▸ hq) hd)

/-- `open(tmp, "wb")` -/
theorem Inv.openTrunc (hi : Inv w s) (p : Nat) (m : Mode) (e : Expr) :
    Inv w (setPc { s with fs := (openTrunc s.fs (.temp m (w.key m e) p)).1 } p
      (.writing m e (openTrunc s.fs (.temp m (w.key m e) p)).2 0)) := by
  unfold C16.openTrunc
  cases hd : s.fs.dir (.temp m (w.key m e) p) with
  | some h => exact hi.write hd 0
  | none =>
    exact hi.step (hi.wf.addFile _ (honest_nil w)) ⟨updDir_same .., updIno_same ..⟩
      (fun _ _ _ hqp => updDir_ne _ _ (temp_ne_of_ne hqp))
      fun _ _ _ _ _ hq => updIno_ne _ _ (Nat.ne_of_lt (hi.bound _ _ hq))

end

/-- `os.replace(tmp, final)` -/
theorem Inv.replace {w : World} {s : State} (hi : Inv w s) (p : Nat) (m : Mode) (e : Expr)
    (h : Nat) (hdir : s.fs.dir (.temp m (w.key m e) p) = some h) :
    Inv w (setPc { s with fs := replace s.fs (.temp m (w.key m e) p) (finalName w m e) h }
      p .idle) :=
  hi.step (hi.wf.replace _ hdir) trivial
    (fun _ _ _ hqp => (updDir_ne (n := finalName w m e) _ (some h) (by intro hh; cases hh)).trans
      (updDir_ne _ _ (temp_ne_of_ne hqp)))
    fun _ _ _ _ _ _ => rfl

theorem payload_fixed (w : World) (e : Expr) : payload w .fixed e = serNew e (w.doit e) := rfl
theorem tempName_fixed (w : World) (m : Mode) (e : Expr) (p : Nat) :
    tempName w .fixed m e p = .temp m (w.key m e) p := rfl
theorem target_fixed (w : World) (m : Mode) (e : Expr) (p : Nat) :
    target w .fixed m e p = .temp m (w.key m e) p := rfl

/-- What an operation of the fixed variant guarantees: the invariant, and, if the key comparison
is sound, the right value in the call it reports. -/
def StepOk (w : World) (r : State × Option Event) : Prop :=
  Inv w r.1 ∧ (w.KeyOk → ∀ ev, r.2 = some ev → ev.out = .value (w.doit ev.e))

section
variable {w : World} {s : State} (hi : Inv w s)
include hi

theorem StepOk.silent : StepOk w (s, none) := ⟨hi, fun _ _ h => nomatch h⟩

theorem StepOk.goto (p : Nat) (c : PC) (hc : Owes w s.fs p c) : StepOk w (goto s p c) :=
  .silent (hi.pc_step p c hc)

theorem StepOk.ret (p : Nat) (e : Expr) {x : Val} (hx : w.KeyOk → x = w.doit e) :
    StepOk w (ret s p e (.value x)) :=
  ⟨hi.pc_step p .idle trivial, fun hk _ hev => by cases hev; exact congrArg _ (hx hk)⟩

theorem afterLoad_fixed {b : Bytes} (hb : Honest w b) (p : Nat) (m : Mode) (e : Expr) :
    StepOk w (afterLoad w .fixed s p m e (load b)) := by
  cases hl : load b with
  | pair e' x =>
    show StepOk w (if w.keyEq e' e then ret s p e (.value x) else goto s p (.willCompute m e))
    split
    · next he => exact .ret hi p e fun hk => (hb e' x hl).trans (hk e' e he)
    · exact .goto hi p _ trivial
  | bare x => exact .goto hi p _ trivial
  | fail => exact .goto hi p _ trivial

theorem step_fixed (p : Nat) : StepOk w (stepProc w .fixed s p) := by
  cases hpc : s.pc p <;> simp only [stepProc, hpc, payload_fixed, tempName_fixed]
  case idle => exact .silent hi
  case started m e => split <;> exact .goto hi p _ trivial
  case willOpen m e => split <;> exact .goto hi p _ trivial
  case willLoad m e h => exact afterLoad_fixed hi (hi.honest h) p m e
  case willCompute m e => exact .silent (hi.openTrunc p m e)
  case writing m e h k =>
    obtain ⟨hd, hino⟩ := hi.writer p m e h k hpc
    cases ht : (serNew e (w.doit e))[k]? with
    | some t =>
      simp only [hino, writeAt_take _ _ _ ht]
      exact .silent (hi.write hd (k + 1))
    | none => exact .goto hi p _ ⟨h, hd⟩
  case willRename m e =>
    obtain ⟨h, hd⟩ := hi.renamer p m e hpc
    rw [hd]
    exact ⟨hi.replace p m e h hd, fun _ _ hev => by cases hev; rfl⟩

theorem applyOp_fixed (op : Op) : StepOk w (applyOp w .fixed s op) := by
  cases op with
  | call p m e =>
    simp only [applyOp]
    split
    · exact .silent (hi.pc_step p _ trivial)
    · exact .silent hi
  | step p => exact step_fixed hi p
  | crash p => exact .silent (hi.pc_step p _ trivial)

end

theorem run_fixed {w : World} (ops : List Op) : ∀ {s : State}, Inv w s →
    Inv w (run w .fixed s ops).1 ∧
      (w.KeyOk → ∀ ev ∈ (run w .fixed s ops).2, ev.out = .value (w.doit ev.e)) := by
  induction ops with
  | nil => exact fun hi => ⟨hi, fun _ _ h => nomatch h⟩
  | cons op ops ih =>
    intro s hi
    obtain ⟨h1, h2⟩ := applyOp_fixed hi op
    obtain ⟨h3, h4⟩ := ih h1
    refine ⟨h3, fun hk ev hev => ?_⟩
    rcases List.mem_append.mp hev with h | h
    · exact h2 hk ev (Option.mem_toList.mp h)
    · exact h4 hk ev h

/-- The property on one history: every call that returned, returned `doit expr`
(in particular none returned a tuple and none raised). -/
def Safe (w : World) (v : Variant) (s : State) (ops : List Op) : Prop :=
  ∀ ev ∈ events w v s ops, ev.out = .value (w.doit ev.e)

instance (w : World) (v : Variant) (s : State) (ops : List Op) : Decidable (Safe w v s ops) :=
  inferInstanceAs (Decidable (∀ ev ∈ events w v s ops, ev.out = .value (w.doit ev.e)))

/-- The number of its own steps a call needs at most to end: one per program counter on the
longest path `started → willOpen → willLoad → willCompute → writing 0 … writing 4 → willRename`,
a record having at most 4 tokens (`payload_length_le`). -/
def remaining : PC → Nat
  | .idle => 0
  | .started .. => 10
  | .willOpen .. => 9
  | .willLoad .. => 8
  | .willCompute .. => 7
  | .writing _ _ _ k => 2 + (4 - k)
  | .willRename .. => 1

/-- What a step of `p` from program counter `c` achieves, whatever the variant and whatever the
directory holds: the call is strictly closer to its end, and if it has ended it is reported. -/
def Progress (p : Nat) (c : PC) (r : State × Option Event) : Prop :=
  remaining (r.1.pc p) < remaining c ∧
    (remaining (r.1.pc p) = 0 → ∃ ev, r.2 = some ev ∧ ev.p = p)

/-- The side conditions compare `remaining` of two given program counters. -/
theorem Progress.goto (s : State) (p : Nat) {c c' : PC}
    (h0 : 0 < remaining c' := by simp only [remaining]; omega)
    (hlt : remaining c' < remaining c := by simp only [remaining]; omega) : Progress p c (goto s p c') := by
  simp only [Progress, C16.goto, setPc_pc_self]
  exact ⟨hlt, fun h => absurd h (Nat.ne_of_gt h0)⟩

theorem Progress.ret (s : State) (p : Nat) (e : Expr) (o : Outcome) {c : PC}
    (h0 : 0 < remaining c := by simp only [remaining]; omega) : Progress p c (ret s p e o) := by
  simp only [Progress, C16.ret, setPc_pc_self]
  exact ⟨h0, fun _ => ⟨_, rfl, rfl⟩⟩

/-- whatever the variant and the object loaded, the load step returns or goes on to compute -/
theorem afterLoad_elim {P : State × Option Event → Prop} (w : World) (v : Variant) {s : State}
    {p : Nat} (m : Mode) {e : Expr} (l : Loaded) (hr : ∀ o, P (ret s p e o))
    (hg : P (goto s p (.willCompute m e))) : P (afterLoad w v s p m e l) := by
  have hite (c : Prop) [Decidable c] {a b} (ha : P a) (hb : P b) : P (if c then a else b) := by
    split
    · exact ha
    · exact hb
  cases l with
  | pair e' x => exact hite _ (hite _ (hite _ (hr _) hg) (hr _)) (hr _)
  | bare x => exact hite _ (hite _ hg (hr _)) (hr _)
  | fail => exact hite _ hg (hr _)

theorem payload_length_le (w : World) (v : Variant) (e : Expr) : (payload w v e).length ≤ 4 := by
  unfold payload
  split
  · exact Nat.le_refl 4
  · exact Nat.le_succ 3

theorem step_progress (w : World) (v : Variant) (s : State) (p : Nat)
    (h : 0 < remaining (s.pc p)) : Progress p (s.pc p) (stepProc w v s p) := by
  cases hpc : s.pc p <;> simp only [stepProc, hpc]
  case idle => rw [hpc] at h; cases h
  case started m e => split <;> exact .goto s p
  case willOpen m e =>
    split
    · exact .goto s p
    · split
      · exact .goto s p
      · exact .ret s p e _
  case willLoad m e hh => exact afterLoad_elim w v m _ (fun o => .ret s p e o) (.goto s p)
  case willCompute m e => exact .goto _ p
  case writing m e hh k =>
    cases ht : (payload w v e)[k]? with
    | some t =>
      -- the side condition `remaining (writing (k + 1)) < remaining (writing k)` needs `k < 4`
      have hk : k < 4 := Nat.lt_of_lt_of_le (List.getElem?_eq_some_iff.mp ht).1
        (payload_length_le w v e)
      exact .goto _ p
    | none =>
      simp only []  -- reduces the `match none with` that `cases ht` left
      split
      · exact .goto s p
      · exact .ret s p e _
  case willRename m e => split <;> exact .ret _ p e _

/-- A call that is not crashed returns (or raises) within `remaining ≤ 10` of its own steps. -/
theorem call_returns (w : World) (v : Variant) (p : Nat) : ∀ (n : Nat) (s : State),
    0 < remaining (s.pc p) → remaining (s.pc p) ≤ n →
    ∃ ev ∈ events w v s (steps p n), ev.p = p
  | 0, _, h, hr => absurd h (Nat.not_lt.mpr hr)
  | n + 1, s, h, hr => by
    obtain ⟨hlt, hev⟩ := step_progress w v s p h
    rw [steps, List.replicate_succ, events_cons]
    by_cases h0 : remaining ((stepProc w v s p).1.pc p) = 0
    · obtain ⟨ev, h1, h2⟩ := hev h0
      exact ⟨ev, List.mem_append_left _ (Option.mem_toList.mpr h1), h2⟩
    · obtain ⟨ev, h1, h2⟩ := call_returns w v p n (stepProc w v s p).1 (Nat.pos_of_ne_zero h0)
        (Nat.le_of_lt_succ (Nat.lt_of_lt_of_le hlt hr))
      exact ⟨ev, List.mem_append_right _ h1, h2⟩

end Ampverif.Model.C16
