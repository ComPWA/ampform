/-
C05 — the tensor (Kronecker) product of unitary matrices over ANY finite family of finite index
types is unitary, and therefore preserves the sum of squared moduli of an amplitude tensor.
Stated with Mathlib matrices over the dependent product index type `∀ i, d i`.
-/
import Ampverif.Lemmas.C05Unitary
import Mathlib.LinearAlgebra.UnitaryGroup
import Mathlib.Data.Complex.BigOperators
import Mathlib.Data.Fintype.BigOperators
import Mathlib.Algebra.BigOperators.Pi

namespace Ampverif.Lemmas.C05Tensor
open Matrix

variable {ι : Type*} [Fintype ι] [DecidableEq ι] {d : ι → Type*}
  [∀ i, Fintype (d i)] [∀ i, DecidableEq (d i)]

/-- `(⊗ᵢ Uᵢ)(m, λ) = Πᵢ Uᵢ(mᵢ, λᵢ)` -/
def tensor (U : ∀ i, Matrix (d i) (d i) ℂ) : Matrix (∀ i, d i) (∀ i, d i) ℂ :=
  Matrix.of fun m l => ∏ i, U i (m i) (l i)

theorem tensor_mul_conjTranspose (U : ∀ i, Matrix (d i) (d i) ℂ) (hU : ∀ i, U i * (U i)ᴴ = 1) :
    tensor U * (tensor U)ᴴ = 1 := by
  ext m m'
  simp only [Matrix.mul_apply, Matrix.conjTranspose_apply, tensor, Matrix.of_apply, star_prod]
  have h1 : ∀ l : (∀ i, d i), (∏ i, U i (m i) (l i)) * ∏ i, star (U i (m' i) (l i))
      = ∏ i, (U i (m i) (l i) * star (U i (m' i) (l i))) := fun l => Finset.prod_mul_distrib.symm
  simp only [h1]
  have h2 := (Finset.prod_univ_sum (fun _ : ι => Finset.univ)
    (fun i (j : d i) => U i (m i) j * star (U i (m' i) j))).symm
  rw [Fintype.piFinset_univ] at h2
  rw [h2]
  have h3 : ∀ i, ∑ j, U i (m i) j * star (U i (m' i) j) = (1 : Matrix (d i) (d i) ℂ) (m i) (m' i) := by
    intro i
    rw [← hU i]
    simp [Matrix.mul_apply, Matrix.conjTranspose_apply]
  simp only [h3, Matrix.one_apply]
  rw [Finset.prod_ite_zero]
  simp only [Finset.mem_univ, forall_const, Finset.prod_const_one]
  congr 1
  exact propext (funext_iff.symm)

theorem tensor_mem_unitary (U : ∀ i, Matrix (d i) (d i) ℂ) (hU : ∀ i, U i ∈ Matrix.unitaryGroup (d i) ℂ) :
    tensor U ∈ Matrix.unitaryGroup (∀ i, d i) ℂ := by
  rw [Matrix.mem_unitaryGroup_iff]
  exact tensor_mul_conjTranspose U (fun i => Matrix.mem_unitaryGroup_iff.mp (hU i))

theorem unitary_normSq {n : Type*} [Fintype n] [DecidableEq n] (K : Matrix n n ℂ)
    (hK : K ∈ Matrix.unitaryGroup n ℂ) (A : n → ℂ) :
    ∑ m, Complex.normSq ((K *ᵥ A) m) = ∑ l, Complex.normSq (A l) :=
  norm_preserved Finset.univ K
    (fun l _ l' _ => by
      simpa [Matrix.mul_apply, Matrix.one_apply] using congrFun₂ (Matrix.mem_unitaryGroup_iff'.mp hK) l l') A

end Ampverif.Lemmas.C05Tensor
