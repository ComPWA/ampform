/-
Helper lemmas for C18: environments, the nested finite sum `evalSum`, pool-sum-free terms, the
coincidence lemma (the value depends on the free symbols only) and the substitution lemmas for
terms whose pool values are terms themselves: `xreplace` is a simultaneous update of the
environment, `subs` the update at one symbol.
-/
import Ampverif.Lemmas.ExprBasic
import Mathlib.Algebra.Ring.Rat
import Mathlib.Algebra.BigOperators.Group.List.Basic
import Mathlib.Algebra.BigOperators.Ring.List
import Mathlib.Tactic.Ring

namespace Ampverif.Lemmas.C18
open Ampverif.Model

theorem upd_same (ρ : Env) (x : Sym) (q : Q) : upd ρ x q x = q := by simp [upd]

theorem upd_other (ρ : Env) {x s : Sym} (q : Q) (h : s ≠ x) : upd ρ x q s = ρ s := by simp [upd, h]

theorem upd_comm (ρ : Env) {x y : Sym} (a b : Q) (h : x ≠ y) :
    upd (upd ρ x a) y b = upd (upd ρ y b) x a := by
  funext s
  by_cases h1 : s = y <;> by_cases h2 : s = x <;> simp_all [upd]

theorem upd_upd (ρ : Env) (x : Sym) (a b : Q) : upd (upd ρ x a) x b = upd ρ x b := by
  funext s
  by_cases h1 : s = x <;> simp [upd, h1]

theorem evalSum_cons_congr {p : QBinder} {rest : List QBinder} {ρ ρ' : Env} {k k' : Env → Q}
    (h : ∀ v ∈ p.2, evalSum rest (upd ρ p.1 v) k = evalSum rest (upd ρ' p.1 v) k') :
    evalSum (p :: rest) ρ k = evalSum (p :: rest) ρ' k' :=
  congrArg List.sum (List.map_congr_left h)

theorem evalSum_upd_of_not_mem (ixs : List QBinder) :
    ∀ (ρ : Env) (k : Env → Q) (x : Sym) (q : Q), x ∉ names ixs →
      evalSum ixs (upd ρ x q) k = evalSum ixs ρ (fun ρ' => k (upd ρ' x q)) := by
  induction ixs with
  | nil => intro ρ k x q _; rfl
  | cons p rest ih =>
    intro ρ k x q hx
    rw [names_cons, List.mem_cons, not_or] at hx
    refine evalSum_cons_congr fun v _ => ?_
    rw [upd_comm ρ q v hx.1, ih _ _ _ _ hx.2]

/-- the continuation only matters on environments that differ from `ρ` on the indices. -/
theorem evalSum_congr_agree (ixs : List QBinder) :
    ∀ (ρ : Env) (k k' : Env → Q),
      (∀ ρ' : Env, (∀ s, s ∉ names ixs → ρ' s = ρ s) → k ρ' = k' ρ') →
      evalSum ixs ρ k = evalSum ixs ρ k' := by
  induction ixs with
  | nil => intro ρ k k' h; exact h ρ (fun _ _ => rfl)
  | cons p rest ih =>
    intro ρ k k' h
    refine evalSum_cons_congr fun v _ => ?_
    apply ih
    intro ρ' hρ'
    apply h
    intro s hs
    rw [names_cons, List.mem_cons, not_or] at hs
    rw [hρ' s hs.2, upd_other _ _ hs.1]

/-- `evalSum` is the flat sum over the cartesian product of the pools (in `itertools.product` order). -/
theorem evalSum_flat (ixs : List QBinder) :
    ∀ (ρ : Env) (k : Env → Q),
      evalSum ixs ρ k = ((assignments ixs).map (fun c => k (updAll ρ c))).sum := by
  induction ixs with
  | nil => intro ρ k; simp [evalSum, assignments, updAll]
  | cons p rest ih =>
    intro ρ k
    obtain ⟨i, pool⟩ := p
    simp only [evalSum, assignments]
    induction pool with
    | nil => simp
    | cons v vs ihp =>
      simp only [List.map_cons, List.sum_cons, List.flatMap_cons, List.map_append, List.sum_append]
      rw [ihp, ih]
      simp [List.map_map, Function.comp_def, updAll]

theorem names_evalBinders (I : Interp) (ixs : List Binder) (ρ : Env) :
    names (evalBinders I ixs ρ) = names ixs := by
  rw [evalBinders_eq_map, names_map_snd]

/-- the values of rewritten pools, from the values of the rewritten pool values. -/
theorem evalBinders_map_congr {I : Interp} {f : Expr → Expr} {ixs : List Binder} {ρ ρ' : Env}
    (h : ∀ p ∈ ixs, ∀ e ∈ p.2, eval I (f e) ρ = eval I e ρ') :
    evalBinders I (ixs.map (fun p => (p.1, p.2.map f))) ρ = evalBinders I ixs ρ' := by
  simp only [evalBinders_eq_map, List.map_map, Function.comp_def]
  exact map_pools_congr h

theorem bound_of_noPsum {e : Expr} (h : noPsum e = true) : bound e = [] := by
  revert e h
  apply noPsum_induct <;> intros <;>
    simp_all [bound, boundList_eq_flatMap, List.flatMap_eq_nil_iff]

theorem wfSums_of_noPsum {e : Expr} (h : noPsum e = true) : wfSums e = true := by
  revert e h
  apply noPsum_induct <;> intros <;> simp_all [wfSums, wfSumsList_eq_all]

/-- what `wfSums` says about one pool sum. -/
theorem wfSums_psum {b : Expr} {ixs : List Binder} :
    wfSums (.psum b ixs) = true ↔
      (names ixs).Nodup ∧ (∀ p ∈ ixs, p.2 ≠ []) ∧ noPsumBinders ixs = true ∧
        (∀ s ∈ symsBinders ixs, s ∉ names ixs ∧ s ∉ bound b) ∧ wfSums b = true := by
  simp only [wfSums, Bool.and_eq_true, decide_eq_true_eq, List.all_eq_true, and_assoc, Bool.not_eq_true',
    List.isEmpty_eq_false_iff, List.contains_eq_mem, decide_eq_false_iff_not, ne_eq]

/-- a value of a pool of a well-formed sum: pool-sum-free, and its symbols are pool symbols. -/
theorem pool_value {ixs : List Binder} (hnp : noPsumBinders ixs = true) {q : Binder} (hq : q ∈ ixs)
    {a : Expr} (ha : a ∈ q.2) : noPsum a = true ∧ ∀ s ∈ syms a, s ∈ symsBinders ixs := by
  rw [noPsumBinders_eq_all] at hnp
  simp only [List.all_eq_true] at hnp
  exact ⟨hnp q hq a ha, fun s hs => mem_symsBinders.mpr ⟨q, hq, a, ha, hs⟩⟩

theorem mem_syms_of_mem_free {e : Expr} {s : Sym} (h : s ∈ free e) : s ∈ syms e := by
  induction e using Expr.induct with
  | sym => simpa [free, syms] using h
  | rat => simp [free] at h
  | pow b n ih => exact ih h
  | psum b ixs ihb ihx =>
    simp only [free, List.mem_filter, List.mem_append, freeBinders_eq_flatMap, List.mem_flatMap] at h
    simp only [syms, List.mem_append, mem_symsBinders]
    rcases h.1 with h1 | ⟨p, hp, e, he, hs⟩
    · exact Or.inr (ihb h1)
    · exact Or.inl (Or.inr ⟨p, hp, e, he, ihx p hp e he hs⟩)
  | add es ih | mul es ih | app _ es ih | node _ es _ ih | idx _ es ih =>
    simp only [free, syms, freeList_eq_flatMap, symsList_eq_flatMap, List.mem_flatMap] at h ⊢
    obtain ⟨e, he, hs⟩ := h
    exact ⟨e, he, ih e he hs⟩

theorem mem_symsList_of_mem_freeList : ∀ (es : List Expr) (s : Sym), s ∈ freeList es → s ∈ symsList es := by
  intro es s h
  simp only [freeList_eq_flatMap, symsList_eq_flatMap, List.mem_flatMap] at h ⊢
  obtain ⟨e, he, hs⟩ := h
  exact ⟨e, he, mem_syms_of_mem_free hs⟩

theorem evalSum_agree (F : List Sym) (k : Env → Q)
    (hk : ∀ ρ1 ρ2 : Env, (∀ s ∈ F, ρ1 s = ρ2 s) → k ρ1 = k ρ2) (ixs : List QBinder) :
    ∀ ρ ρ' : Env, (∀ s ∈ F, s ∉ names ixs → ρ s = ρ' s) → evalSum ixs ρ k = evalSum ixs ρ' k := by
  induction ixs with
  | nil => exact fun ρ ρ' h => hk ρ ρ' (fun s hs => h s hs (by simp [names]))
  | cons p rest ih =>
    intro ρ ρ' h
    refine evalSum_cons_congr fun q _ => ?_
    apply ih
    intro s hs hsr
    by_cases hsi : s = p.1
    · subst hsi; simp [upd]
    · rw [upd_other _ _ hsi, upd_other _ _ hsi]
      exact h s hs (by rw [names_cons, List.mem_cons, not_or]; exact ⟨hsi, hsr⟩)

theorem eval_agree (I : Interp) (e : Expr) (ρ ρ' : Env) (hw : wfSums e = true)
    (h : ∀ s ∈ free e, ρ s = ρ' s) : eval I e ρ = eval I e ρ' := by
  induction e using Expr.induct generalizing ρ ρ' with
  | sym s => exact h s (by simp [free])
  | rat => rfl
  | pow b n ih => simp only [eval, ih ρ ρ' hw h]
  | psum b ixs ihb ihx =>
    obtain ⟨_, _, hnp, hown, hwb⟩ := wfSums_psum.mp hw
    have hfree : ∀ s, s ∈ free b ∨ s ∈ freeBinders ixs → s ∉ names ixs → ρ s = ρ' s :=
      fun s h1 h2 => h s (by simp only [free, List.mem_filter, List.mem_append]; exact ⟨h1, by simpa using h2⟩)
    have hpools : evalBinders I ixs ρ = evalBinders I ixs ρ' := by
      simp only [evalBinders_eq_map]
      exact map_pools_congr fun p hp e he =>
        ihx p hp e he ρ ρ' (wfSums_of_noPsum (pool_value hnp hp he).1) fun s hs =>
          hfree s (Or.inr (by rw [freeBinders_eq_flatMap]; simp only [List.mem_flatMap]; exact ⟨p, hp, e, he, hs⟩))
            (hown s ((pool_value hnp hp he).2 s (mem_syms_of_mem_free hs))).1
    simp only [eval, hpools]
    apply evalSum_agree (free b) _ (fun ρ1 ρ2 h12 => ihb ρ1 ρ2 hwb h12)
    intro s hs hsn
    rw [names_evalBinders] at hsn
    exact hfree s (Or.inl hs) hsn
  | add es ih | mul es ih | app _ es ih | node _ es _ ih | idx _ es ih =>
    simp only [wfSums, wfSumsList_eq_all, List.all_eq_true, free, freeList_eq_flatMap, List.mem_flatMap] at hw h
    simp only [eval, evalList_eq_map]
    rw [List.map_congr_left fun e he => ih e he ρ ρ' (hw e he) (fun s hs => h s ⟨e, he, hs⟩)]

theorem evalList_agree (I : Interp) :
    ∀ (es : List Expr) (ρ ρ' : Env), wfSumsList es = true → (∀ s ∈ freeList es, ρ s = ρ' s) →
      evalList I es ρ = evalList I es ρ' := by
  intro es ρ ρ' hw h
  simp only [wfSumsList_eq_all, List.all_eq_true, freeList_eq_flatMap, List.mem_flatMap] at hw h
  simp only [evalList_eq_map]
  exact List.map_congr_left fun e he => eval_agree I e ρ ρ' (hw e he) (fun s hs => h s ⟨e, he, hs⟩)

def lookupQ (c : List (Sym × Q)) (s : Sym) : Option Q :=
  match c with
  | [] => none
  | (k, q) :: rest => if s = k then some q else lookupQ rest s

/-- the environment after the simultaneous assignment `c` (first entry of a key wins). -/
def qEnv (c : List (Sym × Q)) (ρ : Env) : Env := fun s =>
  match lookupQ c s with
  | some q => q
  | none => ρ s

/-- the values of a replacement map in an environment. -/
def evalPairs (I : Interp) (σ : List (Sym × Expr)) (ρ : Env) : List (Sym × Q) :=
  σ.map (fun p => (p.1, eval I p.2 ρ))

theorem qEnv_nil (ρ : Env) : qEnv [] ρ = ρ := rfl

theorem qEnv_single (x : Sym) (q : Q) (ρ : Env) : qEnv [(x, q)] ρ = upd ρ x q := by
  funext s
  by_cases h : s = x <;> simp [qEnv, lookupQ, upd, h]

theorem lookupQ_filter (c : List (Sym × Q)) (f : Sym → Bool) (s : Sym) :
    lookupQ (c.filter (fun p => f p.1)) s = if f s = true then lookupQ c s else none := by
  induction c with
  | nil => simp [lookupQ]
  | cons p c ih =>
    by_cases hk : f p.1 = true <;> by_cases hs : s = p.1 <;> simp_all [lookupQ]

theorem qEnv_filter_of_not_mem (c : List (Sym × Q)) (ρ : Env) (ns : List Sym) (s : Sym) (h : s ∉ ns) :
    qEnv (c.filter (fun p => !ns.contains p.1)) ρ s = qEnv c ρ s := by
  have := lookupQ_filter c (fun k => !ns.contains k) s
  simp only [qEnv, this]
  simp [h]

theorem upd_qEnv (c : List (Sym × Q)) (ρ : Env) (i : Sym) (v : Q) :
    upd (qEnv c ρ) i v = qEnv (c.filter (fun p => !decide (p.1 = i))) (upd ρ i v) := by
  funext s
  have := lookupQ_filter c (fun k => !decide (k = i)) s
  by_cases h : s = i
  · subst h
    simp [upd, qEnv, this]
  · simp [upd, qEnv, this, h]

theorem evalSum_qEnv (ixs : List QBinder) :
    ∀ (c : List (Sym × Q)) (ρ : Env) (k : Env → Q),
      evalSum ixs (qEnv c ρ) k
        = evalSum ixs ρ (fun ρ' => k (qEnv (c.filter (fun p => !(names ixs).contains p.1)) ρ')) := by
  induction ixs with
  | nil => intro c ρ k; simp [evalSum, names]
  | cons p rest ih =>
    intro c ρ k
    have hf : (c.filter (fun q => !decide (q.1 = p.1))).filter (fun q => !(names rest).contains q.1)
        = c.filter (fun q => !(names (p :: rest)).contains q.1) := by
      rw [List.filter_filter, names_cons]
      congr 1
      funext q
      by_cases h : q.1 = p.1 <;> simp [h, Bool.and_comm]
    refine evalSum_cons_congr fun v _ => ?_
    rw [upd_qEnv, ih, hf]

theorem lookupQ_evalPairs (I : Interp) (σ : List (Sym × Expr)) (ρ : Env) (s : Sym) :
    lookupQ (evalPairs I σ ρ) s = (lookup σ s).map (fun a => eval I a ρ) := by
  induction σ with
  | nil => rfl
  | cons p σ ih =>
    by_cases h : s = p.1 <;> simp_all [evalPairs, lookup, lookupQ]

theorem evalPairs_filter (I : Interp) (σ : List (Sym × Expr)) (ρ : Env) (f : Sym → Bool) :
    (evalPairs I σ ρ).filter (fun p => f p.1) = evalPairs I (σ.filter (fun p => f p.1)) ρ := by
  simp only [evalPairs, List.filter_map]
  rfl

theorem evalPairs_congr (I : Interp) (σ : List (Sym × Expr)) (ρ ρ' : Env)
    (h : ∀ p ∈ σ, eval I p.2 ρ' = eval I p.2 ρ) : evalPairs I σ ρ' = evalPairs I σ ρ :=
  List.map_congr_left fun p hp => by rw [h p hp]

theorem evalPairs_reverse (I : Interp) (σ : List (Sym × Expr)) (ρ : Env) :
    (evalPairs I σ ρ).reverse = evalPairs I σ.reverse ρ :=
  (List.map_reverse ..).symm

/-! ### the substitution lemma

`xreplace` is the simultaneous update of the environment by the values of the map — for every
term (nested pool sums, symbolic pools), provided the inserted terms mention no bound symbol;
`subs` is the case of a one-entry map. -/

theorem eval_xreplace (I : Interp) (v : Variant) (hv : v.sound) (e : Expr) (σ : List (Sym × Expr)) (ρ : Env)
    (hw : wfSums e = true) (hc : ∀ p ∈ σ, wfSums p.2 = true ∧ ∀ s ∈ syms p.2, s ∉ bound e) :
    eval I (xreplace v e σ) ρ = eval I e (qEnv (evalPairs I σ ρ) ρ) := by
  induction e using Expr.induct generalizing σ ρ with
  | sym s =>
    simp only [xreplace, eval, qEnv, lookupQ_evalPairs]
    cases lookup σ s <;> rfl
  | rat => rfl
  | pow b n ih => simp only [xreplace, eval, ih σ ρ hw hc]
  | psum b ixs ihb ihx =>
    obtain ⟨_, _, hnp, hown, hwb⟩ := wfSums_psum.mp hw
    -- the inserted terms mention neither an index of this sum nor a symbol bound in the summand
    have hc' : ∀ p ∈ σ.filter (fun p => !(names ixs).contains p.1),
        wfSums p.2 = true ∧ ∀ s ∈ syms p.2, s ∉ names ixs ∧ s ∉ bound b := by
      intro p hp
      have := hc p (List.mem_filter.mp hp).1
      simp only [bound, List.mem_append, not_or] at this
      exact ⟨this.1, fun s hs => ⟨(this.2 s hs).1.1, (this.2 s hs).2⟩⟩
    rw [xreplace_psum hv]
    simp only [eval]
    have hpools : evalBinders I (xreplaceBinders v ixs (σ.filter (fun p => !(names ixs).contains p.1))) ρ
        = evalBinders I ixs (qEnv (evalPairs I σ ρ) ρ) := by
      rw [xreplaceBinders_eq_map]
      refine evalBinders_map_congr fun p hp e he => ?_
      have he' := pool_value hnp hp he
      rw [ihx p hp e he _ ρ (wfSums_of_noPsum he'.1)
        (fun p hp => ⟨(hc' p hp).1, by simp [bound_of_noPsum he'.1]⟩)]
      apply eval_agree I e _ _ (wfSums_of_noPsum he'.1)
      intro s hs
      rw [← evalPairs_filter I σ ρ (fun k => !(names ixs).contains k)]
      exact qEnv_filter_of_not_mem _ ρ (names ixs) s (hown s (he'.2 s (mem_syms_of_mem_free hs))).1
    rw [hpools, evalSum_qEnv, names_evalBinders]
    apply evalSum_congr_agree
    intro ρ' hρ'
    rw [ihb _ ρ' hwb (fun p hp => ⟨(hc' p hp).1, fun s hs => ((hc' p hp).2 s hs).2⟩),
      evalPairs_filter I σ ρ (fun k => !(names ixs).contains k), evalPairs_congr I _ ρ ρ']
    intro p hp
    apply eval_agree I p.2 ρ' ρ (hc' p hp).1
    intro s hs
    apply hρ' s
    rw [names_evalBinders]
    exact ((hc' p hp).2 s (mem_syms_of_mem_free hs)).1
  | add es ih | mul es ih | app _ es ih | node _ es _ ih | idx _ es ih =>
    simp only [wfSums, wfSumsList_eq_all, List.all_eq_true, bound, boundList_eq_flatMap,
      List.mem_flatMap, not_exists, not_and] at hw hc
    simp only [sound_ite hv, xreplace, eval, evalList_eq_map, xreplaceList_eq_map, List.map_map, Function.comp_def]
    rw [List.map_congr_left fun e he => ih e he σ ρ (hw e he)
      fun p hp => ⟨(hc p hp).1, fun s hs => (hc p hp).2 s hs e he⟩]

theorem evalList_xreplace (I : Interp) (v : Variant) (hv : v.sound) :
    ∀ (es : List Expr) (σ : List (Sym × Expr)) (ρ : Env), wfSumsList es = true →
      (∀ p ∈ σ, wfSums p.2 = true ∧ ∀ s ∈ syms p.2, s ∉ boundList es) →
      evalList I (xreplaceList v es σ) ρ = evalList I es (qEnv (evalPairs I σ ρ) ρ) := by
  intro es σ ρ hw hc
  simp only [wfSumsList_eq_all, List.all_eq_true, boundList_eq_flatMap, List.mem_flatMap, not_exists,
    not_and] at hw hc
  simp only [evalList_eq_map, xreplaceList_eq_map, List.map_map, Function.comp_def]
  exact List.map_congr_left fun e he => eval_xreplace I v hv e σ ρ (hw e he)
    fun p hp => ⟨(hc p hp).1, fun s hs => (hc p hp).2 s hs e he⟩

theorem evalBinders_xreplace (I : Interp) (v : Variant) (hv : v.sound) :
    ∀ (ixs : List (Sym × List Expr)) (σ : List (Sym × Expr)) (ρ : Env), noPsumBinders ixs = true →
      (∀ p ∈ σ, wfSums p.2 = true) →
      evalBinders I (xreplaceBinders v ixs σ) ρ = evalBinders I ixs (qEnv (evalPairs I σ ρ) ρ) := by
  intro ixs σ ρ hnp hσ
  rw [xreplaceBinders_eq_map]
  refine evalBinders_map_congr fun p hp e he => ?_
  have he' := (pool_value hnp hp he).1
  exact eval_xreplace I v hv e σ ρ (wfSums_of_noPsum he')
    (fun p hp => ⟨hσ p hp, by simp [bound_of_noPsum he']⟩)

theorem eval_subst1 (I : Interp) (v : Variant) (hv : v.sound) (x : Sym) (a : Expr)
    (ha : wfSums a = true) (e : Expr) (ρ : Env) (hw : wfSums e = true) (hc : ∀ s ∈ syms a, s ∉ bound e) :
    eval I (subst1 v x a e) ρ = eval I e (upd ρ x (eval I a ρ)) := by
  rw [subst1_eq_xreplace v hv, eval_xreplace I v hv e [(x, a)] ρ hw (by simpa using ⟨ha, hc⟩)]
  simp [evalPairs, qEnv_single]

theorem evalList_subst1 (I : Interp) (v : Variant) (hv : v.sound) (x : Sym) (a : Expr)
    (ha : wfSums a = true) :
    ∀ (es : List Expr) (ρ : Env), wfSumsList es = true → (∀ s ∈ syms a, s ∉ boundList es) →
      evalList I (subst1List v x a es) ρ = evalList I es (upd ρ x (eval I a ρ)) := by
  intro es ρ hw hc
  rw [C14.subst1List_eq_xreplace v hv, evalList_xreplace I v hv es _ ρ hw (by simpa using ⟨ha, hc⟩)]
  simp [evalPairs, qEnv_single]

theorem evalBinders_subst1 (I : Interp) (v : Variant) (hv : v.sound) (x : Sym) (a : Expr)
    (ha : wfSums a = true) :
    ∀ (ixs : List (Sym × List Expr)) (ρ : Env), noPsumBinders ixs = true →
      evalBinders I (subst1Binders v x a ixs) ρ = evalBinders I ixs (upd ρ x (eval I a ρ)) := by
  intro ixs ρ hnp
  rw [C14.subst1Binders_eq_xreplace v hv, evalBinders_xreplace I v hv ixs _ ρ hnp (by simpa using ha)]
  simp [evalPairs, qEnv_single]

end Ampverif.Lemmas.C18
