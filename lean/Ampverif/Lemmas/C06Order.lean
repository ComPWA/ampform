/-
Helper lemmas for C06: the modelled natural sort is a linear order on names once ties are broken
by the name; merging pairwise-consistent maps is independent of the merge order.
-/
import Ampverif.Lemmas.C06Dict

namespace Ampverif.C06

theorem tokLe_linOrd : LinOrd tokLe where
  total a b := by
    cases a with
    | txt x =>
      cases b with
      | txt y => exact natLe_linOrd.lex.total x y
      | num j g => exact .inl rfl
    | num i f =>
      cases b with
      | txt y => exact .inr rfl
      | num j g => exact natLe_linOrd.keyFirst_total (natLe_linOrd.lex.total f g)
  anti a b h1 h2 := by
    cases a with
    | txt x =>
      cases b with
      | txt y => rw [natLe_linOrd.lex.anti x y h1 h2]
      | num j g => exact absurd h2 Bool.false_ne_true
    | num i f =>
      cases b with
      | txt y => exact absurd h1 Bool.false_ne_true
      | num j g =>
        obtain ⟨e, p, q⟩ := natLe_linOrd.keyFirst_anti h1 h2
        rw [e, natLe_linOrd.lex.anti f g p q]
  trans a b c h1 h2 := by
    cases a with
    | txt x =>
      cases c with
      | num k e => rfl
      | txt z =>
        cases b with
        | txt y => exact natLe_linOrd.lex.trans x y z h1 h2
        | num j g => exact absurd h2 Bool.false_ne_true
    | num i f =>
      cases b with
      | txt y => exact absurd h1 Bool.false_ne_true
      | num j g =>
        cases c with
        | txt z => exact absurd h2 Bool.false_ne_true
        | num k e => exact natLe_linOrd.keyFirst_trans (natLe_linOrd.lex.trans f g e) h1 h2

/-- the sort key `(natural_sorting(name), name)` orders names totally, without ties -/
theorem nameLe_linOrd : LinOrd nameLe where
  total a b := tokLe_linOrd.lex.keyFirst_total (natLe_linOrd.lex.total a b)
  anti a b h1 h2 :=
    have h := tokLe_linOrd.lex.keyFirst_anti h1 h2
    natLe_linOrd.lex.anti a b h.2.1 h.2.2
  trans a b c := tokLe_linOrd.lex.keyFirst_trans (natLe_linOrd.lex.trans a b c)

section Merge
variable {κ : Type} {β : Type} [DecidableEq κ]

theorem dget_append (a b : List (κ × β)) (k : κ) :
    dget (a ++ b) k = (dget a k).or (dget b k) := by
  induction a with
  | nil => rfl
  | cons p t ih =>
    simp only [List.cons_append, dget]
    split
    · rfl
    · exact ih

/-- `d.update(e)`: the last binding of a key in `e` wins, otherwise the one in `d` -/
theorem dget_dupdate (d e : List (κ × β)) (k : κ) :
    dget (dupdate d e) k = (dget e.reverse k).or (dget d k) := by
  unfold dupdate
  induction e generalizing d with
  | nil => rfl
  | cons p t ih =>
    obtain ⟨k0, v0⟩ := p
    rw [List.foldl_cons, ih, dget_dset, List.reverse_cons, dget_append, Option.or_assoc]
    congr 1
    simp only [dget]
    split <;> rfl

theorem dget_dmerge (ms : List (List (κ × β))) (k : κ) :
    dget (dmerge ms) k = dget ms.flatten.reverse k := by
  have h : ∀ d, dget (ms.foldl dupdate d) k = (dget ms.flatten.reverse k).or (dget d k) := by
    induction ms with
    | nil => exact fun _ => rfl
    | cons m t ih =>
      intro d
      rw [List.foldl_cons, ih, dget_dupdate, List.flatten_cons, List.reverse_append, dget_append,
        Option.or_assoc]
  exact (h []).trans Option.or_none

/-- any two of the maps agree wherever both are defined (C07's no-collision premise) -/
def Consistent (ms : List (List (κ × β))) : Prop :=
  ∀ m₁ ∈ ms, ∀ m₂ ∈ ms, ∀ k v₁ v₂, (k, v₁) ∈ m₁ → (k, v₂) ∈ m₂ → v₁ = v₂

/-- Boolean test that two maps agree on common keys -/
def agreeB [DecidableEq β] (m₁ m₂ : List (κ × β)) : Bool :=
  m₁.all fun p => m₂.all fun q => !decide (p.1 = q.1) || decide (p.2 = q.2)

theorem agree_of_agreeB [DecidableEq β] {m₁ m₂ : List (κ × β)} (h : agreeB m₁ m₂ = true) :
    ∀ k v₁ v₂, (k, v₁) ∈ m₁ → (k, v₂) ∈ m₂ → v₁ = v₂ := by
  intro k v₁ v₂ h₁ h₂
  have := List.all_eq_true.mp (List.all_eq_true.mp h _ h₁) _ h₂
  simpa using this

theorem consistent_of_agreeB [DecidableEq β] {ms : List (List (κ × β))}
    (h : ∀ m₁ ∈ ms, ∀ m₂ ∈ ms, agreeB m₁ m₂ = true) : Consistent ms :=
  fun m₁ h₁ m₂ h₂ => agree_of_agreeB (h m₁ h₁ m₂ h₂)

theorem dget_dmerge_eq_some {ms : List (List (κ × β))} (hc : Consistent ms) {k : κ} {v : β} :
    dget (dmerge ms) k = some v ↔ ∃ m ∈ ms, (k, v) ∈ m := by
  have hmem : ∀ {v}, (k, v) ∈ ms.flatten.reverse ↔ ∃ m ∈ ms, (k, v) ∈ m :=
    List.mem_reverse.trans List.mem_flatten
  rw [dget_dmerge]
  refine ⟨fun h => hmem.mp (dget_some_mem h), fun ⟨m, hm, hkv⟩ => ?_⟩
  obtain ⟨v', hv'⟩ := Option.isSome_iff_exists.mp
    (mem_dkeys_iff.mp (List.mem_map.mpr ⟨_, hmem.mpr ⟨m, hm, hkv⟩, rfl⟩))
  obtain ⟨m', hm', hkv'⟩ := hmem.mp (dget_some_mem hv')
  rw [hv', hc m' hm' m hm k v' v hkv' hkv]

/-- the merged dict denotes the same finite map whatever the order of the `update` calls -/
theorem dmerge_dequiv_of_perm {ms ms' : List (List (κ × β))} (hc : Consistent ms)
    (hp : ms.Perm ms') : DEquiv (dmerge ms) (dmerge ms') := fun k =>
  Option.ext fun v => by
    rw [dget_dmerge_eq_some hc, dget_dmerge_eq_some
      fun m₁ h₁ m₂ h₂ => hc m₁ (hp.mem_iff.mpr h₁) m₂ (hp.mem_iff.mpr h₂)]
    exact ⟨fun ⟨m, hm, h⟩ => ⟨m, hp.mem_iff.mp hm, h⟩, fun ⟨m, hm, h⟩ => ⟨m, hp.mem_iff.mpr hm, h⟩⟩

theorem eq_of_mem_of_key_eq {d : List (κ × β)} (hn : NodupKeys d) {a b : κ × β}
    (ha : a ∈ d) (hb : b ∈ d) (h : a.1 = b.1) : a = b := by
  obtain ⟨ka, va⟩ := a
  obtain ⟨kb, vb⟩ := b
  cases h
  rw [Option.some.inj (((dget_eq_some_iff hn).mpr ha).symm.trans ((dget_eq_some_iff hn).mpr hb))]

/-- two dicts with the same content are sorted into the same list by a linear order on an
injective function of the keys -/
theorem isort_eq_of_dequiv {γ : Type} {le : γ → γ → Bool} (h : LinOrd le) {f : κ → γ}
    (hf : ∀ a b, f a = f b → a = b) {d d' : List (κ × β)}
    (hn : NodupKeys d) (hn' : NodupKeys d') (he : DEquiv d d') :
    isort (fun a b => le (f a.1) (f b.1)) d = isort (fun a b => le (f a.1) (f b.1)) d' :=
  isort_eq_of_perm h (fun a => f a.1) (fun _ _ ha hb e => eq_of_mem_of_key_eq hn ha hb (hf _ _ e))
    (perm_of_dequiv hn hn' he)

end Merge

end Ampverif.C06
