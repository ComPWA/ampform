/-
Helper lemmas for `Props/C08Memo.lean`: the memo invariant of `Model/C08Memo.lean` and one call with
a key that is injective on the expressions in use.
-/
import Ampverif.Model.C08Memo
import Ampverif.Lemmas.MemoRun

namespace Ampverif.Lemmas.C08Memo
open Ampverif.C08Memo

/-- `key` separates the expressions of `S`. -/
def InjOn {κ : Type} (key : MExpr → κ) (S : MExpr → Prop) : Prop :=
  ∀ a b, S a → S b → key a = key b → a = b

/-- Every memo entry was stored by a call on an expression of `S`, under that expression's key. -/
def MemoOk {κ : Type} (key : MExpr → κ) (S : MExpr → Prop) (m : List (κ × Impl)) : Prop :=
  ∀ kv ∈ m, ∃ e, S e ∧ kv.1 = key e ∧ kv.2 = build e

theorem memoOk_nil {κ : Type} (key : MExpr → κ) (S : MExpr → Prop) :
    MemoOk key S ([] : List (κ × Impl)) := by
  intro kv h
  cases h

theorem lookup_some {κ : Type} [DecidableEq κ] (key : MExpr → κ) (S : MExpr → Prop)
    (m : List (κ × Impl)) (hm : MemoOk key S m) (k : κ) (v : Impl) (h : lookup k m = some v) :
    ∃ e, S e ∧ k = key e ∧ v = build e := by
  obtain ⟨kv, hkv, rfl, rfl⟩ :=
    MemoRun.lookup_mem (lookup k) (·.1 = k) Prod.snd rfl (fun _ _ => rfl) m v h
  exact hm kv hkv

/-- One call with a key injective on `S`: the fresh result, and the memo stays consistent. -/
theorem call_pure {κ : Type} [DecidableEq κ] (key : MExpr → κ) (S : MExpr → Prop)
    (hinj : InjOn key S) (m : List (κ × Impl)) (hm : MemoOk key S m) (e : MExpr) (he : S e) :
    (call key m e).1 = build e ∧ MemoOk key S (call key m e).2 := by
  unfold call
  cases hl : lookup (key e) m with
  | none =>
    refine ⟨rfl, ?_⟩
    intro kv hkv
    cases hkv with
    | head => exact ⟨e, he, rfl, rfl⟩
    | tail _ h => exact hm kv h
  | some v =>
    rcases lookup_some key S m hm (key e) v hl with ⟨e', hS', hk, hv⟩
    have : e = e' := hinj e e' he hS' hk
    refine ⟨?_, hm⟩
    show v = build e
    rw [hv, this]

theorem build_injective (a b : MExpr) (h : build a = build b) : a = b := by
  cases a
  cases b
  simp only [build, Impl.mk.injEq] at h
  rcases h with ⟨h1, h2, h3, h4⟩
  subst h1 h2 h3 h4
  rfl

/-- Two calls on different expressions with the same key: the second returns the first's object. -/
theorem run_collision {κ : Type} [DecidableEq κ] (key : MExpr → κ) (a b : MExpr)
    (hk : key a = key b) : (run key [] [a, b]).1 = [build a, build a] := by
  simp [run, call, lookup, hk]

end Ampverif.Lemmas.C08Memo
