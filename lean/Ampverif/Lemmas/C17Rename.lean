/-
Expressions (`xreplace`, `syms`, `eval`), the symbol map `sigma` of `rename`, the model with one symbol map
applied to every attribute (`Model.xreplace`, which is what `rename` returns), and the predicates and witness
inputs of the property theorems.
-/
import Ampverif.Lemmas.C17Order

namespace Ampverif.Model.C17

mutual
theorem xreplace_id : ∀ e : Expr, e.xreplace (fun s => s) = e
  | .sym s => by simp [Expr.xreplace]
  | .const c => by simp [Expr.xreplace]
  | .app f as => by simp [Expr.xreplace, xreplaceL_id as]
theorem xreplaceL_id : ∀ as : List Expr, Expr.xreplaceL (fun s => s) as = as
  | [] => by simp [Expr.xreplaceL]
  | a :: as => by simp [Expr.xreplaceL, xreplace_id a, xreplaceL_id as]
end

mutual
/-- Substitution is precomposition of the environment, and only the symbols of the expression matter: it
suffices that `env' ∘ σ` and `env` agree on them. -/
theorem eval_xreplace_congr {α : Type} (I : Interp α) {env env' : Sym → α} {σ : Sym → Sym} :
    ∀ e : Expr, (∀ s, s ∈ e.syms → env' (σ s) = env s) → (e.xreplace σ).eval I env' = e.eval I env
  | .sym s, h => h s (by simp [Expr.syms])
  | .const c, _ => rfl
  | .app f as, h => by
    simp only [Expr.xreplace, Expr.eval]
    rw [evalL_xreplaceL_congr I as fun s hs => h s (by simpa [Expr.syms] using hs)]
theorem evalL_xreplaceL_congr {α : Type} (I : Interp α) {env env' : Sym → α} {σ : Sym → Sym} :
    ∀ as : List Expr, (∀ s, s ∈ Expr.symsL as → env' (σ s) = env s) →
      Expr.evalL I env' (Expr.xreplaceL σ as) = Expr.evalL I env as
  | [], _ => rfl
  | a :: as, h => by
    simp only [Expr.xreplaceL, Expr.evalL]
    rw [eval_xreplace_congr I a fun s hs => h s (by simp [Expr.symsL, hs]),
        evalL_xreplaceL_congr I as fun s hs => h s (by simp [Expr.symsL, hs])]
end

theorem eval_xreplace {α : Type} (I : Interp α) (env : Sym → α) (σ : Sym → Sym) (e : Expr) :
    (e.xreplace σ).eval I env = e.eval I (fun s => env (σ s)) :=
  eval_xreplace_congr I e fun _ _ => rfl

theorem evalL_xreplaceL {α : Type} (I : Interp α) (env : Sym → α) (σ : Sym → Sym) :
    ∀ as : List Expr, Expr.evalL I env (Expr.xreplaceL σ as) = Expr.evalL I (fun s => env (σ s)) as :=
  fun as => evalL_xreplaceL_congr I as fun _ _ => rfl

theorem evalL_congr {α : Type} (I : Interp α) (env env' : Sym → α) :
    ∀ as : List Expr, (∀ s, s ∈ Expr.symsL as → env s = env' s) →
      Expr.evalL I env as = Expr.evalL I env' as := fun as h => by
  have := evalL_xreplaceL_congr I (σ := fun s => s) as h
  rwa [xreplaceL_id] at this

mutual
theorem syms_xreplace (σ : Sym → Sym) : ∀ e : Expr, (e.xreplace σ).syms = e.syms.map σ
  | .sym s => by simp [Expr.xreplace, Expr.syms]
  | .const c => by simp [Expr.xreplace, Expr.syms]
  | .app f as => by simp [Expr.xreplace, Expr.syms, symsL_xreplaceL σ as]
theorem symsL_xreplaceL (σ : Sym → Sym) :
    ∀ as : List Expr, Expr.symsL (Expr.xreplaceL σ as) = (Expr.symsL as).map σ
  | [] => by simp [Expr.xreplaceL, Expr.symsL]
  | a :: as => by simp [Expr.xreplaceL, Expr.symsL, syms_xreplace σ a, symsL_xreplaceL σ as]
end

mutual
theorem xreplace_congr (σ τ : Sym → Sym) :
    ∀ e : Expr, (∀ s, s ∈ e.syms → σ s = τ s) → e.xreplace σ = e.xreplace τ
  | .sym s, h => by simp [Expr.xreplace, h s (by simp [Expr.syms])]
  | .const c, _ => rfl
  | .app f as, h => by
    simp only [Expr.xreplace]
    rw [xreplaceL_congr σ τ as fun s hs => h s (by simpa [Expr.syms] using hs)]
theorem xreplaceL_congr (σ τ : Sym → Sym) :
    ∀ as : List Expr, (∀ s, s ∈ Expr.symsL as → σ s = τ s) →
      Expr.xreplaceL σ as = Expr.xreplaceL τ as
  | [], _ => rfl
  | a :: as, h => by
    simp only [Expr.xreplaceL]
    rw [xreplace_congr σ τ a fun s hs => h s (by simp [Expr.symsL, hs]),
        xreplaceL_congr σ τ as fun s hs => h s (by simp [Expr.symsL, hs])]
end

theorem xreplace_fix (σ : Sym → Sym) (e : Expr) (h : ∀ s, s ∈ e.syms → σ s = s) :
    e.xreplace σ = e := by
  rw [xreplace_congr σ (fun s => s) e h, xreplace_id]

/-- final name of a symbol called `n` -/
def nameMap (ρ : List (Name × Name)) (n : Name) : Name := (renameOf ρ n).getD n

/-- every symbol that any attribute of the model can mention -/
def Model.mentions (m : Model) (s : Sym) : Prop :=
  s ∈ m.expr.syms ∨ s ∈ m.kinKeys ∨ s ∈ m.paramKeys ∨ ∃ kv, kv ∈ m.kinvars ∧ s ∈ kv.2.syms

def InjOn (f : Sym → Sym) (l : List Sym) : Prop := ∀ s, s ∈ l → ∀ t, t ∈ l → f s = f t → s = t

/-- the map on names is injective on the names of the listed symbols -/
def InjOnNames (ρ : List (Name × Name)) (l : List Sym) : Prop :=
  ∀ s, s ∈ l → ∀ t, t ∈ l → nameMap ρ s.name = nameMap ρ t.name → s.name = t.name

/-- the two dictionaries have distinct keys (they are Python dicts) -/
def Model.WF (m : Model) : Prop := m.paramKeys.Nodup ∧ m.kinKeys.Nodup

/-- the converters would not reorder anything -/
def Model.Ordered (m : Model) : Prop :=
  SortedAdj (fun a b : AmpEntry => nameLt a.keyStr b.keyStr) m.amplitudes ∧
  SortedAdj (fun a b : Sym × Expr => nameLtTie a.1.name b.1.name) m.kinvars ∧
  SortedAdj (fun a b : Name × Expr => nameLt a.1 b.1) m.components

theorem mem_collect (v : Variant) (m : Model) (s : Sym) :
    s ∈ collect v m ↔
      s ∈ m.expr.syms ∨ s ∈ m.kinKeys ∨ (v.collectsParams = true ∧ s ∈ m.paramKeys) ∨
        ∃ kv, kv ∈ m.kinvars ∧ s ∈ kv.2.syms := by
  unfold collect
  rw [mem_dedup, List.mem_append, List.mem_append, List.mem_append, ← List.flatMap_def,
    List.mem_flatMap, or_assoc, or_assoc]
  refine or_congr_right (or_congr_right (or_congr_left ?_))
  split
  next h => exact (and_iff_right h).symm
  next h => exact ⟨nofun, fun h' => absurd h'.1 h⟩

/-- with `collectsParams` the collected symbols are exactly the symbols the model mentions -/
theorem mem_collect_of_collectsParams (v : Variant) (hv : v.collectsParams = true) (m : Model) (s : Sym) :
    s ∈ collect v m ↔ m.mentions s := by
  rw [mem_collect, and_iff_right hv]; exact Iff.rfl

section
variable {v : Variant} {ρ : List (Name × Name)} {symbols : List Sym} {s : Sym} {n n' : Name}

theorem existingNamed_some {t : Sym} (h : existingNamed ρ symbols n = some t) :
    t ∈ symbols ∧ renameOf ρ t.name = none ∧ t.name = n := by
  unfold existingNamed at h
  have h2 := List.find?_some h
  simp at h2
  exact ⟨List.mem_of_find?_eq_some h, h2.1, h2.2⟩

theorem existingNamed_eq_none_iff :
    existingNamed ρ symbols n = none ↔ ∀ t, t ∈ symbols → renameOf ρ t.name = none → t.name ≠ n := by
  unfold existingNamed
  rw [List.find?_eq_none]
  simp

theorem existingNamed_unique {b : Sym} (hb : b ∈ symbols) (hr : renameOf ρ b.name = none) (hn : b.name = n)
    (huniq : ∀ t, t ∈ symbols → t.name = n → t = b) : existingNamed ρ symbols n = some b := by
  cases h : existingNamed ρ symbols n with
  | none => exact absurd hn (existingNamed_eq_none_iff.mp h b hb hr)
  | some t =>
    obtain ⟨ht, _, htn⟩ := existingNamed_some h
    rw [huniq t ht htn]

theorem firstSource_some {t : Sym} (h : firstSource ρ symbols n = some t) :
    t ∈ symbols ∧ renameOf ρ t.name = some n := by
  unfold firstSource at h
  have h2 := List.find?_some h
  simp at h2
  exact ⟨List.mem_of_find?_eq_some h, h2⟩

theorem exists_firstSource (hs : s ∈ symbols) (h : renameOf ρ s.name = some n) :
    ∃ a₀, firstSource ρ symbols n = some a₀ :=
  Option.isSome_iff_exists.mp (List.find?_isSome.mpr ⟨s, hs, by simp [h]⟩)

theorem freshTarget_of_many (hv : v.oneSymbolPerNewName = false) :
    freshTarget v ρ symbols s n' = ⟨n', s.asm⟩ := by
  simp [freshTarget, hv]

theorem freshTarget_of_one (hv : v.oneSymbolPerNewName = true) {a₀ : Sym} (hf : firstSource ρ symbols n' = some a₀) :
    freshTarget v ρ symbols s n' = ⟨n', a₀.asm⟩ := by
  simp [freshTarget, hv, hf]

theorem freshTarget_name : (freshTarget v ρ symbols s n').name = n' := by
  unfold freshTarget
  cases v.oneSymbolPerNewName
  · rfl
  · cases firstSource ρ symbols n' <;> rfl

theorem target_of_none (h : renameOf ρ s.name = none) : target v ρ symbols s = s := by
  simp [target, h]

theorem target_of_some (h : renameOf ρ s.name = some n') :
    target v ρ symbols s =
      if v.reusesExisting = true then (existingNamed ρ symbols n').getD (freshTarget v ρ symbols s n')
      else freshTarget v ρ symbols s n' := by
  simp only [target, h]
  cases existingNamed ρ symbols n' <;> rfl

theorem target_name (h : renameOf ρ s.name = some n') : (target v ρ symbols s).name = n' := by
  rw [target_of_some h]
  split
  · cases he : existingNamed ρ symbols n' with
    | none => exact freshTarget_name
    | some t => exact (existingNamed_some he).2.2
  · exact freshTarget_name

/-- since c9b6eb9 the image of a renamed symbol depends on its NEW name only -/
theorem target_depends_on_new_name (hv : v.oneSymbolPerNewName = true) {a b : Sym} (has : a ∈ symbols)
    (ha : renameOf ρ a.name = some n') (hb : renameOf ρ b.name = some n') :
    target v ρ symbols a = target v ρ symbols b := by
  obtain ⟨a₀, hf⟩ := exists_firstSource has ha
  rw [target_of_some ha, target_of_some hb, freshTarget_of_one hv hf, freshTarget_of_one hv hf]

theorem target_nameMap (s : Sym) : (target v ρ symbols s).name = nameMap ρ s.name := by
  cases h : renameOf ρ s.name with
  | none => simp [target_of_none h, nameMap, h]
  | some n' => simp [target_name h, nameMap, h]

/-- the list that `rename` looks targets up in -/
def ordered (v : Variant) (m : Model) : List Sym := lookupOrder v (collect v m)

theorem lookupOrder_of_one (hv : v.oneSymbolPerNewName = true) (l : List Sym) :
    lookupOrder v l = isort (cmpLt symCmp) l := by
  simp [lookupOrder, hv]; rfl

theorem mem_lookupOrder (v : Variant) (l : List Sym) (s : Sym) : s ∈ lookupOrder v l ↔ s ∈ l := by
  unfold lookupOrder
  cases v.oneSymbolPerNewName
  · exact Iff.rfl
  · exact mem_isort _ _ _

theorem mem_ordered (v : Variant) (m : Model) (s : Sym) : s ∈ ordered v m ↔ s ∈ collect v m :=
  mem_lookupOrder v _ s

theorem sigma_of_mem (v : Variant) (m : Model) (ρ : List (Name × Name)) (s : Sym)
    (h : s ∈ collect v m) : sigma v m ρ s = target v ρ (ordered v m) s := by
  simp [sigma, applyMap, symbolMapping, alookup_map_self, h, ordered]

theorem sigma_of_not_mem (v : Variant) (m : Model) (ρ : List (Name × Name)) (s : Sym)
    (h : s ∉ collect v m) : sigma v m ρ s = s := by
  simp [sigma, applyMap, symbolMapping, alookup_map_self, h]

/-- the new symbol carries the assumptions of a source `a₀` of that name (`s` itself before c9b6eb9), since
c9b6eb9 those of the first source in lookup order -/
theorem freshTarget_spec {l : List Sym} (hs : s ∈ l) (h : renameOf ρ s.name = some n') :
    ∃ a₀, a₀ ∈ l ∧ renameOf ρ a₀.name = some n' ∧ freshTarget v ρ (lookupOrder v l) s n' = ⟨n', a₀.asm⟩ ∧
      (v.oneSymbolPerNewName = true → firstSource ρ (lookupOrder v l) n' = some a₀) := by
  cases hv : v.oneSymbolPerNewName
  · exact ⟨s, hs, h, freshTarget_of_many hv, nofun⟩
  · obtain ⟨a₀, hf⟩ := exists_firstSource ((mem_lookupOrder v l s).mpr hs) h
    exact ⟨a₀, (mem_lookupOrder v l a₀).mp (firstSource_some hf).1, (firstSource_some hf).2,
      freshTarget_of_one hv hf, fun _ => hf⟩

/-- a collected symbol renamed to a name that no unrenamed collected symbol carries becomes the new symbol -/
theorem sigma_fresh {m : Model} (hs : s ∈ collect v m) (h : renameOf ρ s.name = some n')
    (hfresh : ∀ t, t ∈ collect v m → renameOf ρ t.name = none → t.name ≠ n') :
    sigma v m ρ s = freshTarget v ρ (ordered v m) s n' := by
  rw [sigma_of_mem v m ρ s hs, target_of_some h,
    existingNamed_eq_none_iff.mpr fun t ht => hfresh t ((mem_ordered v m t).mp ht), Option.getD_none, ite_self]

/-- Every attribute with the one map `σ` applied: expressions by `xreplace σ`, dictionary keys by `σ` (then
Python's dict semantics and the attrs converters) — the record that `rename` builds from `sigma v m ρ`. -/
def Model.xreplace (σ : Sym → Sym) (m : Model) : Model :=
  { expr := m.expr.xreplace σ
    intensity := m.intensity.xreplace σ
    amplitudes := orderAmplitudes (m.amplitudes.map (fun a => { a with defn := a.defn.xreplace σ }))
    params := dictOfList (m.params.map (fun kv => (σ kv.1, kv.2)))
    components := orderComponentMapping (m.components.map (fun c => (c.1, c.2.xreplace σ)))
    kinvars := orderSymbolMapping (dictOfList (m.kinvars.map (fun kv => (σ kv.1, kv.2.xreplace σ)))) }

theorem rename_of_ne_nil (v : Variant) (m : Model) {ρ : List (Name × Name)} (hρ : ρ ≠ []) :
    rename v m ρ = m.xreplace (sigma v m ρ) := by
  cases ρ with
  | nil => exact absurd rfl hρ
  | cons _ _ => rfl

theorem map_snd_xreplace_id {κ : Type} (l : List (κ × Expr)) :
    l.map (fun c => (c.1, c.2.xreplace fun s => s)) = l :=
  List.map_id'' (fun c => by rw [xreplace_id]) l

/-- the identity map gives the model back when it is in the form the constructor produces -/
theorem xreplace_model_id (m : Model) (hwf : m.WF) (hord : m.Ordered) : m.xreplace (fun s => s) = m := by
  have ea : m.amplitudes.map (fun a => { a with defn := a.defn.xreplace fun s => s }) = m.amplitudes :=
    List.map_id'' (fun a => by rw [xreplace_id]) _
  have ep : m.params.map (fun kv => (kv.1, kv.2)) = m.params := List.map_id'' (fun _ => rfl) _
  unfold Model.xreplace orderAmplitudes orderSymbolMapping orderComponentMapping
  rw [xreplace_id, xreplace_id, ea, ep, map_snd_xreplace_id, map_snd_xreplace_id,
    dictOfList_of_nodup _ hwf.1, dictOfList_of_nodup _ hwf.2,
    isort_of_sorted _ _ hord.1, isort_of_sorted _ _ hord.2.1, isort_of_sorted _ _ hord.2.2]

/-- The intensity of the model with `σ` applied — parameters from its own `parameter_defaults`, kinematic
variables from its own definitions, data `data'` — is the intensity of the original on every data that `data'`
carries over, for any `σ` that is injective on the symbols the model mentions. -/
theorem value_xreplace {α : Type} (I : Interp α) (m : Model) (σ : Sym → Sym) (hwf : m.WF)
    (hinj : ∀ s, m.mentions s → ∀ t, m.mentions t → σ s = σ t → s = t) (data data' : Sym → α)
    (hdata : ∀ s, m.mentions s → data' (σ s) = data s) :
    (m.xreplace σ).value I data' = m.value I data := by
  have hpk : ∀ k, k ∈ keys m.params → m.mentions k := fun k hk => Or.inr (Or.inr (Or.inl hk))
  have hkk : ∀ k, k ∈ keys m.kinvars → m.mentions k := fun k hk => Or.inr (Or.inl hk)
  have hip := fun a ha b hb => hinj a (hpk a ha) b (hpk b hb)
  have hik := fun a ha b hb => hinj a (hkk a ha) b (hkk b hb)
  have hA : ∀ s, m.mentions s → paramEnv I (m.xreplace σ) data' (σ s) = paramEnv I m data s := by
    intro s hs
    have : alookup (σ s) (m.xreplace σ).params = alookup s m.params :=
      (congrArg _ (dictOfList_map_of_injOn id hwf.1 hip)).trans <|
        (alookup_map_inj σ id m.params s fun k hk => hinj k (hpk k hk) s hs).trans Option.map_id'
    unfold paramEnv
    rw [this]
    cases alookup s m.params with
    | none => exact hdata s hs
    | some _ => rfl
  have hB : ∀ s, m.mentions s → fullEnv I (m.xreplace σ) data' (σ s) = fullEnv I m data s := by
    intro s hs
    have : alookup (σ s) (m.xreplace σ).kinvars = (alookup s m.kinvars).map (·.xreplace σ) := by
      show alookup (σ s) (isort _ (dictOfList (m.kinvars.map _))) = _
      rw [dictOfList_map_of_injOn _ hwf.2 hik, alookup_isort _ (nodup_keys_map _ hwf.2 hik),
        alookup_map_inj σ _ m.kinvars s fun k hk => hinj k (hkk k hk) s hs]
    unfold fullEnv
    rw [this]
    cases hl : alookup s m.kinvars with
    | none => exact hA s hs
    | some e =>
      exact eval_xreplace_congr I e fun t ht => hA t (Or.inr (Or.inr (Or.inr ⟨(s, e), alookup_mem hl, ht⟩)))
  exact eval_xreplace_congr I m.expr fun s hs => hB s (Or.inl hs)

/-- `closedB` is what the line driver prints -/
theorem closedB_iff (m : Model) : m.closedB = true ↔ m.closed := by
  simp [Model.closedB, Model.closed]

end

/-! ### inputs of the witness theorems and non-vacuity examples

`witnessModel` is mirrored on the real code by `tools/props/C17.py: witness_models()`:
parameters `a` (no assumptions), `d` (positive), `m_0` (non-negative, occurs only in
`parameter_defaults`), kinematic variable `x = InvariantMass(p0)`, amplitudes `a*x`, `d*x`. -/

namespace Witness

def nA : Name := [97]                          -- "a"
def nD : Name := [100]                         -- "d"
def nM0 : Name := [109, 95, 48]                -- "m_0"
def nMgamma : Name := [109, 103, 97, 109, 109, 97]  -- "mgamma"
def nX : Name := [120]                         -- "x"
def nP0 : Name := [112, 48]                    -- "p0"
def nK : Name := [107]                         -- "k"
def nTheta : Name := [116, 104, 101, 116, 97]  -- "theta"

/-! declarations (complete `assumptions0` dicts of `Symbol(…)`, `Symbol(…, positive=True)`, …; fact numbers
as in `Model/C17Rename.lean`: 2 commutative, 3 complex, …, 28 real, 30 zero) -/
def declNone : Nat := mkDecl [(2, true)]
def declPositive : Nat := mkDecl [(2, true), (3, true), (6, false), (7, true), (8, false), (9, true), (10, true),
  (11, true), (12, true), (13, true), (14, false), (15, false), (18, false), (20, true), (21, false), (22, true),
  (25, true), (28, true), (30, false)]
def declNonnegative : Nat := mkDecl [(2, true), (3, true), (6, false), (7, true), (11, true), (12, true), (13, true),
  (14, false), (15, false), (18, false), (20, true), (28, true)]
def declReal : Nat := mkDecl [(2, true), (3, true), (11, true), (12, true), (13, true), (14, false), (15, false), (28, true)]
def declComplex : Nat := mkDecl [(2, true), (3, true), (12, true), (15, false)]
def declRational : Nat := mkDecl [(0, true), (2, true), (3, true), (11, true), (12, true), (13, true), (14, false),
  (15, false), (17, false), (27, true), (28, true), (29, false)]
/-- `Symbol("g", zero=False)`: a complex, non-zero coupling — `assumptions0 = {commutative: True, zero: False}` -/
def declNonzero : Nat := mkDecl [(2, true), (30, false)]

def a : Sym := ⟨nA, declNone⟩
def d : Sym := ⟨nD, declPositive⟩
def m0 : Sym := ⟨nM0, declNonnegative⟩
def x : Sym := ⟨nX, declReal⟩
def p0 : Sym := ⟨nP0, declNone⟩
/-- label of the amplitude `IndexedBase("A", complex=True)` and the summation index, a rational symbol
(`Symbol("m_A", rational=True)` in `tools/props/C17.py`; here it has the one-letter name "i") -/
def ampBase : Sym := ⟨[65], declComplex⟩
def idx : Sym := ⟨[105], declRational⟩

/-- Operator heads are uninterpreted numbers; in these inputs 0 is `Add`, 1 `Mul`, 2 `Abs(·)**2`, 3 `Indexed`,
4 `InvariantMass`, 5 `PoolSum`, 6 another function of a four-momentum.  `[65, 91, 48, 93]` is "A[0]", `[73]` "I". -/
def witnessModel : Model :=
  { expr := .app 0 [.app 2 [.app 1 [.sym a, .sym x]], .app 2 [.app 1 [.sym d, .sym x]]]
    intensity := .app 5 [.app 2 [.app 3 [.sym ampBase, .sym idx]], .sym idx]
    amplitudes := [⟨[65, 91, 48, 93], .app 3 [.sym ampBase, .const 0], .app 1 [.sym a, .sym x]⟩,
                   ⟨[65, 91, 49, 93], .app 3 [.sym ampBase, .const 1], .app 1 [.sym d, .sym x]⟩]
    params := [(a, 0), (d, 1), (m0, 2)]
    kinvars := [(x, .app 4 [.sym p0])]
    components := [([73], .app 1 [.sym a, .sym x])] }

/-- a second kinematic variable, to show what merging two of them does -/
def twoKinModel : Model :=
  { witnessModel with kinvars := [(⟨nTheta, declReal⟩, .app 6 [.sym p0]), (x, .app 4 [.sym p0])] }

/-- a second parameter with other assumptions than `a`, to merge with it under a fresh name -/
def g : Sym := ⟨[103], declNonnegative⟩

def mergeModel : Model :=
  { witnessModel with
    expr := .app 0 [.app 2 [.app 1 [.sym a, .sym x]], .app 2 [.app 1 [.sym g, .sym x, .sym a]]]
    amplitudes := [⟨[65, 91, 48, 93], .app 3 [.sym ampBase, .const 0], .app 1 [.sym a, .sym x]⟩,
                   ⟨[65, 91, 49, 93], .app 3 [.sym ampBase, .const 1], .app 1 [.sym g, .sym x, .sym a]⟩]
    params := [(a, 0), (g, 1)] }

/-- a complex coupling declared non-zero (`Symbol("g", zero=False)`: a False-valued fact that no True fact of
the symbol implies), as custom dynamics introduce them; mirrored by `tools/props/C17.py: witness_models()` -/
def gNonzero : Sym := ⟨[103], declNonzero⟩

def nonzeroModel : Model :=
  { witnessModel with
    expr := .app 0 [.app 2 [.app 1 [.sym a, .sym x]], .app 2 [.app 1 [.sym gNonzero, .sym x, .sym a]]]
    amplitudes := [⟨[65, 91, 48, 93], .app 3 [.sym ampBase, .const 0], .app 1 [.sym a, .sym x]⟩,
                   ⟨[65, 91, 49, 93], .app 3 [.sym ampBase, .const 1], .app 1 [.sym gNonzero, .sym x, .sym a]⟩]
    params := [(a, 0), (gNonzero, 1)] }

def unsoundNoParams : Variant := ⟨false, true, true⟩
/-- the tree before 137fbcb -/
def unsoundNoReuse : Variant := ⟨true, false, false⟩
/-- the tree between 137fbcb and c9b6eb9 -/
def unsoundManySymbols : Variant := ⟨true, true, false⟩

end Witness

end Ampverif.Model.C17
