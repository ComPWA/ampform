import Lean.Meta.Tactic.Simp.RegisterCommand

/-- Evaluates `Gram.dot` and `Gram.cos` at literal coefficient vectors: the two definitions and the
rules for products and sums with `0` and `1`. -/
register_simp_attr gram_eval
