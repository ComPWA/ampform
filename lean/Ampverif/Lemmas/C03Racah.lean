/-
C03 — Racah's closed formula (`Lemmas/C03CG.lean: racah`, the object of the all-spin mirror
theorem) IS the Clebsch–Gordan coefficient SymPy computes: an exact, executable rational twin.

`racah = √A · √B · S` with `A, B ∈ ℚ≥0` and `S ∈ ℚ`. Here the three rational numbers are
computable definitions (`Aq`, `Bq`, `Sq` over `ℚ`, the sum as a `List.range` fold), it is proved
that `racah = sign(S) · √(A·B·S²)` for ALL arguments (`racah_eq_exact`). The denominator of every
term of `S` divides the product `D` of the three factorials in `A`, so `S = Z / D` with an integer `Z`
(`Sq_eq`) and the comparison with a table value `sign · √(num/den)` is one equation between integers
(`racahCertifies`, lifted to the real-valued equality by `racah_eq_of_certifies`).
`Lemmas/C03RacahBlocks.lean` evaluates it in the kernel on the whole regenerated SymPy table.
-/
import Ampverif.Lemmas.C03CG
import Mathlib.Tactic.Positivity
import Mathlib.Tactic.FieldSimp
import Mathlib.Data.Rat.Cast.Order
import Mathlib.Algebra.Order.BigOperators.Ring.Finset
import Mathlib.Data.Nat.Cast.Field

namespace Ampverif.Lemmas.C03CG
open Ampverif.Model.C03CG Finset

/-- rational twin of `iF` -/
def iFq (x : Int) : ℚ := if x < 0 ∨ x % 2 ≠ 0 then 0 else 1 / ((x / 2).toNat.factorial : ℚ)

/-- rational twin of `fH` -/
def fHq (x : Int) : ℚ := if x < 0 ∨ x % 2 ≠ 0 then 0 else ((x / 2).toNat.factorial : ℚ)

def Tq (a b c m1 m2 : Int) (k : ℕ) : ℚ :=
  (-1) ^ k * iFq (2 * k) * iFq (a + b - c - 2 * k) * iFq (a - m1 - 2 * k) * iFq (b + m2 - 2 * k)
    * iFq (c - b + m1 + 2 * k) * iFq (c - a - m2 + 2 * k)

/-- the sum of Racah's formula as a list fold (executable) -/
def Sq (j1 : Nat) (m1 : Int) (j2 : Nat) (m2 : Int) (J : Nat) : ℚ :=
  ((List.range (j1 + j2 + 1)).map (Tq j1 j2 J m1 m2)).sum

def Aq (j1 j2 J : Nat) : ℚ :=
  (((J : Int) : ℚ) + 1) * fHq ((J : Int) + j1 - j2) * fHq ((J : Int) - j1 + j2) * fHq ((j1 : Int) + j2 - J)
    * iFq ((j1 : Int) + j2 + J + 2)

def Bq (j1 : Nat) (m1 : Int) (j2 : Nat) (m2 : Int) (J : Nat) (M : Int) : ℚ :=
  fHq ((J : Int) + M) * fHq ((J : Int) - M) * fHq ((j1 : Int) - m1) * fHq ((j1 : Int) + m1)
    * fHq ((j2 : Int) - m2) * fHq ((j2 : Int) + m2)

/-- exact value of Racah's formula as `sign · √sq` -/
def racahSq (j1 : Nat) (m1 : Int) (j2 : Nat) (m2 : Int) (J : Nat) (M : Int) : ℚ :=
  if M ≠ m1 + m2 then 0 else Aq j1 j2 J * Bq j1 m1 j2 m2 J M * Sq j1 m1 j2 m2 J ^ 2

def racahSign (j1 : Nat) (m1 : Int) (j2 : Nat) (m2 : Int) (J : Nat) (M : Int) : Int :=
  if M ≠ m1 + m2 then 0 else
    if 0 < Sq j1 m1 j2 m2 J then 1 else if Sq j1 m1 j2 m2 J < 0 then -1 else 0

theorem iFq_cast (x : Int) : ((iFq x : ℚ) : ℝ) = iF x := by
  unfold iFq iF; split_ifs <;> simp

theorem fHq_cast (x : Int) : ((fHq x : ℚ) : ℝ) = fH x := by
  unfold fHq fH; split_ifs <;> simp

theorem Tq_cast (a b c m1 m2 : Int) (k : ℕ) : ((Tq a b c m1 m2 k : ℚ) : ℝ) = T a b c m1 m2 k := by
  unfold Tq T; push_cast; simp only [iFq_cast]

theorem list_sum_range (f : ℕ → ℝ) (n : ℕ) : ((List.range n).map f).sum = ∑ k ∈ range n, f k := by
  induction n with
  | zero => simp
  | succ n ih => rw [List.range_succ, List.map_append, List.sum_append, ih, Finset.sum_range_succ]; simp

theorem Sq_cast (j1 : Nat) (m1 : Int) (j2 : Nat) (m2 : Int) (J : Nat) :
    ((Sq j1 m1 j2 m2 J : ℚ) : ℝ) = ∑ k ∈ range (j1 + j2 + 1), T j1 j2 J m1 m2 k := by
  unfold Sq
  rw [← list_sum_range]
  induction List.range (j1 + j2 + 1) with
  | nil => simp
  | cons x xs ih => simp only [List.map_cons, List.sum_cons]; push_cast; rw [ih, Tq_cast]

theorem fH_nonneg (x : Int) : 0 ≤ fH x := by unfold fH; split_ifs <;> positivity
theorem iF_nonneg (x : Int) : 0 ≤ iF x := by unfold iF; split_ifs <;> positivity

theorem racahB_nonneg (a b c m1 m2 M : Int) : 0 ≤ racahB a b c m1 m2 M :=
  mul_nonneg (mul_nonneg (mul_nonneg (mul_nonneg (mul_nonneg (fH_nonneg _) (fH_nonneg _))
    (fH_nonneg _)) (fH_nonneg _)) (fH_nonneg _)) (fH_nonneg _)

theorem Aq_cast (j1 j2 J : Nat) :
    ((Aq j1 j2 J : ℚ) : ℝ) = (((J : Int) : ℝ) + 1) * fH ((J : Int) + j1 - j2) * fH ((J : Int) - j1 + j2)
      * fH ((j1 : Int) + j2 - J) * iF ((j1 : Int) + j2 + J + 2) := by
  unfold Aq; push_cast; simp only [iFq_cast, fHq_cast]

theorem Bq_cast (j1 : Nat) (m1 : Int) (j2 : Nat) (m2 : Int) (J : Nat) (M : Int) :
    ((Bq j1 m1 j2 m2 J M : ℚ) : ℝ) = racahB j1 j2 J m1 m2 M := by
  unfold Bq racahB; push_cast; simp only [fHq_cast]

theorem sqrt_mul_sign (a b s : ℝ) (ha : 0 ≤ a) (hb : 0 ≤ b) :
    Real.sqrt a * Real.sqrt b * s
      = (if 0 < s then (1 : ℝ) else if s < 0 then -1 else 0) * Real.sqrt (a * b * s ^ 2) := by
  rw [Real.sqrt_mul (mul_nonneg ha hb), Real.sqrt_sq_eq_abs, Real.sqrt_mul ha]
  rcases lt_trichotomy s 0 with h | h | h
  · rw [if_neg (not_lt.mpr h.le), if_pos h, abs_of_neg h]; ring
  · subst h; simp
  · rw [if_pos h, abs_of_pos h]; ring

/-- **Racah's formula, exactly**: `racah = sign · √sq` with the executable rational `sign`, `sq`
(ALL arguments). -/
theorem racah_eq_exact (j1 : Nat) (m1 : Int) (j2 : Nat) (m2 : Int) (J : Nat) (M : Int) :
    racah j1 m1 j2 m2 J M
      = ((racahSign j1 m1 j2 m2 J M : Int) : ℝ) * Real.sqrt ((racahSq j1 m1 j2 m2 J M : ℚ) : ℝ) := by
  unfold racah racahSign racahSq
  by_cases hM : M ≠ m1 + m2
  · simp [hM]
  · have hJ : (0 : ℝ) ≤ ((J : Int) : ℝ) + 1 := by positivity
    rw [if_neg hM, if_neg hM, if_neg hM, ← Sq_cast,
      sqrt_mul_sign _ _ _ (mul_nonneg (mul_nonneg (mul_nonneg (mul_nonneg hJ (fH_nonneg _)) (fH_nonneg _))
        (fH_nonneg _)) (iF_nonneg _)) (racahB_nonneg _ _ _ _ _ _)]
    push_cast [Aq_cast, Bq_cast]
    simp only [Rat.cast_pos, Rat.cast_lt_zero]

/-- `(x/2)!` for an even non-negative doubled argument, else 0 -/
def fHn : Int → Nat
  | .ofNat n => if n % 2 = 0 then (n / 2).factorial else 0
  | .negSucc _ => 0

theorem fHq_eq (x : Int) : fHq x = fHn x := by
  cases x with
  | ofNat n =>
    have h : ((n : Int) < 0 ∨ (n : Int) % 2 ≠ 0) ↔ ¬ n % 2 = 0 := by omega
    have h2 : ((n : Int) / 2).toNat = n / 2 := by omega
    simp only [fHq, fHn, Int.ofNat_eq_natCast, h, h2, ite_not, Nat.cast_ite, Nat.cast_zero]
  | negSucc n => simp [fHq, fHn, Int.negSucc_lt_zero]

theorem iFq_eq (x : Int) : iFq x = (fHn x : ℚ)⁻¹ := by
  rw [← fHq_eq, iFq, fHq]
  split_ifs <;> simp

/-- the denominator of the `i`-th term of Racah's sum (0 when the term is absent) -/
def termDen (a b c m1 m2 : Int) (i : Nat) : Nat :=
  fHn (2 * i) * fHn (a + b - c - 2 * i) * fHn (a - m1 - 2 * i) * fHn (b + m2 - 2 * i)
    * fHn (c - b + m1 + 2 * i) * fHn (c - a - m2 + 2 * i)

theorem Tq_eq (a b c m1 m2 : Int) (i : Nat) :
    Tq a b c m1 m2 i = (-1) ^ i * (termDen a b c m1 m2 i : ℚ)⁻¹ := by
  simp only [Tq, termDen, iFq_eq, Nat.cast_mul, mul_inv, mul_assoc]

/-- a unit fraction over a multiple `D` of its denominator; both sides are 0 when `t = 0` -/
theorem inv_eq_div (t D : Nat) (hD : D ≠ 0) (h : t = 0 ∨ t ∣ D) :
    (t : ℚ)⁻¹ = ((D / t : Nat) : ℚ) / D := by
  rcases h with rfl | h
  · simp
  · rw [Nat.cast_div_charZero h, div_div_cancel_left' (Nat.cast_ne_zero.mpr hD)]

/-- the numerator of Racah's sum over a common denominator `D` of its terms -/
def racahZ (D : Nat) (a b c m1 m2 : Int) (N : Nat) : Int :=
  ((List.range N).map fun i => (-1) ^ i * ((D / termDen a b c m1 m2 i : Nat) : Int)).sum

theorem sum_range_cut (f : ℕ → ℚ) (N M : ℕ) (h : N ≤ M) (hf : ∀ i, N ≤ i → f i = 0) :
    ((List.range M).map f).sum = ((List.range N).map f).sum := by
  induction M, h using Nat.le_induction with
  | base => rfl
  | succ M hM ih => rw [List.range_succ, List.map_append, List.sum_append, ih]; simp [hf M hM]

/-- `S = Z / D` for any common multiple `D` of the term denominators; the terms from
`i = (j₁+j₂−J)/2 + 1` on are absent (a negative argument of a factorial), which cuts the range -/
theorem Sq_eq (j1 j2 J : Nat) (m1 m2 : Int) (D : Nat) (hD : D ≠ 0)
    (h : ∀ i < (j1 + j2 - J) / 2 + 1, termDen j1 j2 J m1 m2 i = 0 ∨ termDen j1 j2 J m1 m2 i ∣ D) :
    Sq j1 m1 j2 m2 J = (racahZ D j1 j2 J m1 m2 ((j1 + j2 - J) / 2 + 1) : ℚ) / D := by
  have hcut : ∀ i, (j1 + j2 - J) / 2 + 1 ≤ i → Tq j1 j2 J m1 m2 i = 0 := fun i hi => by
    have : (j1 : Int) + j2 - J - 2 * i < 0 := by omega
    simp only [Tq, iFq, if_pos (Or.inl this), mul_zero, zero_mul]
  rw [Sq, racahZ, sum_range_cut _ _ _ (by omega) hcut]
  simp only [← List.mem_range] at h
  revert h
  induction List.range ((j1 + j2 - J) / 2 + 1) with
  | nil => simp
  | cons i l ih =>
    intro h
    rw [List.map_cons, List.sum_cons, List.map_cons, List.sum_cons, ih fun i hi => h i (List.mem_cons_of_mem _ hi),
      Tq_eq, inv_eq_div _ D hD (h i List.mem_cons_self), Int.cast_add, add_div, Int.cast_mul, Int.cast_pow,
      Int.cast_neg, Int.cast_one, Int.cast_natCast, mul_div_assoc]

theorem sign_div (z : Int) (D : Nat) (hD : D ≠ 0) :
    (if 0 < (z : ℚ) / D then 1 else if (z : ℚ) / D < 0 then -1 else 0 : Int) = z.sign := by
  have hD' : (0 : ℚ) < D := Nat.cast_pos.mpr (Nat.pos_of_ne_zero hD)
  simp only [lt_div_iff₀ hD', div_lt_iff₀ hD', zero_mul, Int.cast_pos, Int.cast_lt_zero]
  rcases lt_trichotomy z 0 with h | rfl | h
  · rw [if_neg (not_lt.mpr h.le), if_pos h, Int.sign_eq_neg_one_of_neg h]
  · rfl
  · rw [if_pos h, Int.sign_eq_one_of_pos h]

/-- Integer certificate that the table value `v = sign · √(num/den)` is Racah's value at `k`: the
denominator of every term of the sum divides `D`, the product of the three factorials of the first
root, so the sum is `z / D` with an integer `z`, and `racah k = sign z · √((J+1) · B · z² / (F · D))`
with `F = ((j₁+j₂+J)/2 + 1)!` and `B` the product of the six factorials of the second root. -/
def racahCertifies (k : Key) (v : Val) : Bool :=
  let D := fHn ((k.J : Int) + k.j1 - k.j2) * fHn ((k.J : Int) - k.j1 + k.j2) * fHn ((k.j1 : Int) + k.j2 - k.J)
  let z := racahZ D k.j1 k.j2 k.J k.m1 k.m2 ((k.j1 + k.j2 - k.J) / 2 + 1)
  decide (k.M = k.m1 + k.m2) && decide (D ≠ 0)
    && (List.range ((k.j1 + k.j2 - k.J) / 2 + 1)).all (fun i =>
        decide (termDen k.j1 k.j2 k.J k.m1 k.m2 i = 0 ∨ D % termDen k.j1 k.j2 k.J k.m1 k.m2 i = 0))
    && decide (z.sign = v.sign) && decide (v.den ≠ 0) && decide (fHn ((k.j1 : Int) + k.j2 + k.J + 2) ≠ 0)
    && decide ((v.num : Int) * (fHn ((k.j1 : Int) + k.j2 + k.J + 2) * D : Nat)
        = (v.den : Int) * (((k.J : Int) + 1)
            * (fHn ((k.J : Int) + k.M) * fHn ((k.J : Int) - k.M) * fHn ((k.j1 : Int) - k.m1) * fHn ((k.j1 : Int) + k.m1)
                * fHn ((k.j2 : Int) - k.m2) * fHn ((k.j2 : Int) + k.m2) : Nat) * z ^ 2))

theorem cert_algebra (c B Z F D num den : ℚ) (hF : F ≠ 0) (hD : D ≠ 0) (hden : den ≠ 0)
    (he : num * (F * D) = den * (c * B * Z ^ 2)) :
    c * D * F⁻¹ * B * (Z / D) ^ 2 = num / den := by
  rw [eq_div_iff hden]
  field_simp
  linarith

theorem racah_eq_of_certifies (k : Key) (v : Val) (h : racahCertifies k v = true) :
    racah k.j1 k.m1 k.j2 k.m2 k.J k.M = v.toReal := by
  simp only [racahCertifies, Bool.and_eq_true, decide_eq_true_eq, List.all_eq_true, List.mem_range] at h
  obtain ⟨⟨⟨⟨⟨⟨hM, hD⟩, hdvd⟩, hs⟩, hd⟩, hF⟩, he⟩ := h
  have hS := Sq_eq k.j1 k.j2 k.J k.m1 k.m2 _ hD fun i hi => (hdvd i hi).imp_right Nat.dvd_of_mod_eq_zero
  have hsq : racahSq k.j1 k.m1 k.j2 k.m2 k.J k.M = v.num / v.den := by
    have he' := congrArg (Int.cast (R := ℚ)) he
    push_cast at he'
    rw [racahSq, if_neg (not_not.mpr hM), hS, Aq, Bq,
      ← cert_algebra _ _ _ _ _ _ _ (Nat.cast_ne_zero.mpr hF) (by exact_mod_cast hD) (Nat.cast_ne_zero.mpr hd) he']
    simp only [fHq_eq, iFq_eq]
    push_cast
    ring
  rw [racah_eq_exact, hsq, racahSign, if_neg (not_not.mpr hM), hS, sign_div _ _ hD, hs, Val.toReal]
  push_cast
  rfl

end Ampverif.Lemmas.C03CG
