/-
Helper lemmas for C11: the Chew–Mandelstam S-wave function at and above threshold.
-/
import Ampverif.Lemmas.C11Defs

namespace Ampverif.Lemmas.C11
open Ampverif.Gen.C11

theorem swave_eq_neg_I_mul_cm (s m1 m2 : ℝ) :
    PhaseSpaceFactorSWave s m1 m2 = -Complex.I * chewMandelstamSWave s m1 m2 := by
  unfold PhaseSpaceFactorSWave chewMandelstamSWave
  push_cast
  ring

/-- at threshold `q² = 0` kills the logarithm of the first term and `1/s - 1/(m1+m2)²` the
second -/
theorem swave_at_threshold (m1 m2 : ℝ) : PhaseSpaceFactorSWave ((m1 + m2) ^ 2) m1 m2 = 0 := by
  unfold PhaseSpaceFactorSWave
  rw [q2_at_threshold, ComplexSqrt_of_nonneg le_rfl]
  simp

/-- argument of the logarithm above threshold, as a real number -/
noncomputable def cmArgAbove (s m1 m2 : ℝ) : ℝ :=
  (1 / 2) * m1⁻¹ * m2⁻¹ *
    (m1 ^ 2 + m2 ^ 2 - s + 2 * Real.sqrt s * Real.sqrt (BreakupMomentumSquared s m1 m2))

theorem sqrt_s_q2_sq {s m1 m2 : ℝ} (hs : 0 < s) (hq : 0 ≤ BreakupMomentumSquared s m1 m2) :
    (2 * Real.sqrt s * Real.sqrt (BreakupMomentumSquared s m1 m2)) ^ 2
      = (s - (m1 + m2) ^ 2) * (s - (m1 - m2) ^ 2) := by
  rw [← four_s_q2 hs.ne', mul_pow, mul_pow, Real.sq_sqrt hs.le, Real.sq_sqrt hq]
  norm_num

/-- With `A = s - m1² - m2² > 0` and `B = 2√s√q² ≥ 0`: `A² - B² = 4m1²m2² > 0`, so `B < A`. -/
theorem cmArgAbove_neg {s m1 m2 : ℝ} (h1 : 0 < m1) (h2 : 0 < m2) (h : (m1 + m2) ^ 2 < s) :
    cmArgAbove s m1 m2 < 0 := by
  obtain ⟨hs, hq⟩ := above_pos h1.le h2.le h
  have h12 := mul_pos h1 h2
  have hA : 0 < s - m1 ^ 2 - m2 ^ 2 := by linarith
  have hlt : 2 * Real.sqrt s * Real.sqrt (BreakupMomentumSquared s m1 m2)
      < s - m1 ^ 2 - m2 ^ 2 := by
    apply lt_of_pow_lt_pow_left₀ 2 hA.le
    rw [sqrt_s_q2_sq hs hq.le]
    linarith [pow_pos h12 2]
  unfold cmArgAbove
  exact mul_neg_of_pos_of_neg (by positivity) (by linarith)

/-- Chew–Mandelstam function above threshold with the logarithm of the negative real argument
resolved: `log w = log(-w) + iπ`.  The "right term" `r` is real for positive masses. -/
theorem cm_above {s m1 m2 : ℝ} (h1 : 0 < m1) (h2 : 0 < m2) (h : (m1 + m2) ^ 2 < s) :
    ∃ r : ℝ, chewMandelstamSWave s m1 m2
      = ((Real.pi⁻¹ : ℝ) : ℂ) *
          (((PhaseSpaceFactorAbs s m1 m2 : ℝ) : ℂ)
              * (((Real.log (-cmArgAbove s m1 m2) : ℝ) : ℂ) + (Real.pi : ℂ) * Complex.I)
            - (r : ℂ)) := by
  refine ⟨(m1 ^ 2 - m2 ^ 2) * (s⁻¹ - ((m1 + m2) ^ 2)⁻¹) * Real.log (m1 * m2⁻¹), ?_⟩
  obtain ⟨hs, hq⟩ := above_pos h1.le h2.le h
  have hρ := rhoComplex_of_pos_pos hs.le hq.le
  unfold PhaseSpaceFactorComplex at hρ
  unfold chewMandelstamSWave
  rw [hρ, csqrt_ofReal_of_nonneg hs.le, ComplexSqrt_of_nonneg hq.le,
    clog_ofReal_of_pos (mul_pos h1 (inv_pos.mpr h2))]
  have harg : ((((1 : ℝ) / 2 : ℝ) : ℂ) * (((m1)⁻¹ : ℝ) : ℂ) * (((m2)⁻¹ : ℝ) : ℂ) *
      ((((m1 ^ 2) : ℝ) : ℂ) + (((m2 ^ 2) : ℝ) : ℂ) + ((((-1 : ℝ) * s) : ℝ) : ℂ) +
        ((((2 : ℝ) : ℝ) : ℂ) * ((Real.sqrt s : ℝ) : ℂ) *
          ((Real.sqrt (BreakupMomentumSquared s m1 m2) : ℝ) : ℂ))))
      = ((cmArgAbove s m1 m2 : ℝ) : ℂ) := by
    unfold cmArgAbove; push_cast; ring
  rw [harg, clog_ofReal_of_neg (cmArgAbove_neg h1 h2 h)]
  push_cast
  ring

/-- `Re ρ_CM = ρ̂` above threshold: the `iπ` of the logarithm times `-i/π`. -/
theorem swave_above_re {s m1 m2 : ℝ} (h1 : 0 < m1) (h2 : 0 < m2) (h : (m1 + m2) ^ 2 < s) :
    (PhaseSpaceFactorSWave s m1 m2).re = PhaseSpaceFactorAbs s m1 m2 := by
  obtain ⟨r, hr⟩ := cm_above h1 h2 h
  rw [swave_eq_neg_I_mul_cm, hr]
  have hpi : Real.pi ≠ 0 := Real.pi_ne_zero
  simp
  field_simp

end Ampverif.Lemmas.C11
