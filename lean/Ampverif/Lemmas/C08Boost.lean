/-
Helper lemmas for C08 that do not mention the regenerated definitions: 4×4 matrix literals taken entry by entry,
and an abstract boost / rotation matrix over ℝ whose Lorentz properties are polynomial identities modulo the
relations `γ²(1−β²) = 1`, `u·β² = γ−1`, `u·(γ+1) = γ²` (resp. `c² + s² = 1`). The property file instantiates them
with the regenerated definitions.
-/
import Mathlib.LinearAlgebra.Matrix.Notation
import Mathlib.LinearAlgebra.Matrix.Determinant.Basic
import Mathlib.Data.Real.Basic
import Mathlib.Analysis.Real.Sqrt
import Mathlib.Tactic.Ring
import Mathlib.Tactic.FieldSimp
import Mathlib.Tactic.LinearCombination
import Mathlib.Tactic.Linarith
import Mathlib.Tactic.FinCases
import Ampverif.Lemmas.C08Attr

namespace Ampverif.Lemmas.C08
open Matrix

/-! ### Matrix literals

Products and equality of 4×4 literals entry by entry, so that a matrix identity between literals becomes 16 scalar
goals without a case split over the indices. -/

theorem literal_ext {a00 a01 a02 a03 a10 a11 a12 a13 a20 a21 a22 a23 a30 a31 a32 a33
    b00 b01 b02 b03 b10 b11 b12 b13 b20 b21 b22 b23 b30 b31 b32 b33 : ℝ}
    (h00 : a00 = b00) (h01 : a01 = b01) (h02 : a02 = b02) (h03 : a03 = b03)
    (h10 : a10 = b10) (h11 : a11 = b11) (h12 : a12 = b12) (h13 : a13 = b13)
    (h20 : a20 = b20) (h21 : a21 = b21) (h22 : a22 = b22) (h23 : a23 = b23)
    (h30 : a30 = b30) (h31 : a31 = b31) (h32 : a32 = b32) (h33 : a33 = b33) :
    !![a00, a01, a02, a03; a10, a11, a12, a13; a20, a21, a22, a23; a30, a31, a32, a33]
      = !![b00, b01, b02, b03; b10, b11, b12, b13; b20, b21, b22, b23; b30, b31, b32, b33] := by
  subst h00 h01 h02 h03 h10 h11 h12 h13 h20 h21 h22 h23 h30 h31 h32 h33
  rfl

theorem mul_literal (a00 a01 a02 a03 a10 a11 a12 a13 a20 a21 a22 a23 a30 a31 a32 a33
    b00 b01 b02 b03 b10 b11 b12 b13 b20 b21 b22 b23 b30 b31 b32 b33 : ℝ) :
    !![a00, a01, a02, a03; a10, a11, a12, a13; a20, a21, a22, a23; a30, a31, a32, a33]
      * !![b00, b01, b02, b03; b10, b11, b12, b13; b20, b21, b22, b23; b30, b31, b32, b33]
    = !![a00 * b00 + a01 * b10 + a02 * b20 + a03 * b30, a00 * b01 + a01 * b11 + a02 * b21 + a03 * b31,
         a00 * b02 + a01 * b12 + a02 * b22 + a03 * b32, a00 * b03 + a01 * b13 + a02 * b23 + a03 * b33;
         a10 * b00 + a11 * b10 + a12 * b20 + a13 * b30, a10 * b01 + a11 * b11 + a12 * b21 + a13 * b31,
         a10 * b02 + a11 * b12 + a12 * b22 + a13 * b32, a10 * b03 + a11 * b13 + a12 * b23 + a13 * b33;
         a20 * b00 + a21 * b10 + a22 * b20 + a23 * b30, a20 * b01 + a21 * b11 + a22 * b21 + a23 * b31,
         a20 * b02 + a21 * b12 + a22 * b22 + a23 * b32, a20 * b03 + a21 * b13 + a22 * b23 + a23 * b33;
         a30 * b00 + a31 * b10 + a32 * b20 + a33 * b30, a30 * b01 + a31 * b11 + a32 * b21 + a33 * b31,
         a30 * b02 + a31 * b12 + a32 * b22 + a33 * b32, a30 * b03 + a31 * b13 + a32 * b23 + a33 * b33] := by
  ext i j
  fin_cases i <;> fin_cases j <;> exact Matrix.mul_apply.trans (Fin.sum_univ_four _)

theorem mulVec_literal (a00 a01 a02 a03 a10 a11 a12 a13 a20 a21 a22 a23 a30 a31 a32 a33 x0 x1 x2 x3 : ℝ) :
    !![a00, a01, a02, a03; a10, a11, a12, a13; a20, a21, a22, a23; a30, a31, a32, a33].mulVec ![x0, x1, x2, x3]
    = ![a00 * x0 + a01 * x1 + a02 * x2 + a03 * x3, a10 * x0 + a11 * x1 + a12 * x2 + a13 * x3,
        a20 * x0 + a21 * x1 + a22 * x2 + a23 * x3, a30 * x0 + a31 * x1 + a32 * x2 + a33 * x3] := by
  ext i
  fin_cases i <;> simp [Matrix.mulVec, dotProduct, Fin.sum_univ_four]

theorem transpose_literal (a00 a01 a02 a03 a10 a11 a12 a13 a20 a21 a22 a23 a30 a31 a32 a33 : ℝ) :
    !![a00, a01, a02, a03; a10, a11, a12, a13; a20, a21, a22, a23; a30, a31, a32, a33]ᵀ
      = !![a00, a10, a20, a30; a01, a11, a21, a31; a02, a12, a22, a32; a03, a13, a23, a33] := by
  ext i j
  fin_cases i <;> fin_cases j <;> simp [Matrix.transpose_apply]

theorem one_literal : (1 : Matrix (Fin 4) (Fin 4) ℝ) = !![1, 0, 0, 0; 0, 1, 0, 0; 0, 0, 1, 0; 0, 0, 0, 1] := by
  ext i j
  fin_cases i <;> fin_cases j <;> rfl

theorem vec_literal_ext {a0 a1 a2 a3 b0 b1 b2 b3 : ℝ} (h0 : a0 = b0) (h1 : a1 = b1) (h2 : a2 = b2) (h3 : a3 = b3) :
    ![a0, a1, a2, a3] = ![b0, b1, b2, b3] := by
  subst h0 h1 h2 h3
  rfl

/-- Minkowski metric `diag(1,−1,−1,−1)` (hand-written reference; the regenerated
`MinkowskiMetric` is proved equal to it in the property file). -/
def eta : Matrix (Fin 4) (Fin 4) ℝ := !![1,0,0,0; 0,-1,0,0; 0,0,-1,0; 0,0,0,-1]

/-- Laplace expansion of a 4×4 determinant. -/
theorem det4 (A : Matrix (Fin 4) (Fin 4) ℝ) :
    A.det = A 0 0 * (A 1 1 * A 2 2 * A 3 3 - A 1 1 * A 2 3 * A 3 2 - A 1 2 * A 2 1 * A 3 3 + A 1 2 * A 2 3 * A 3 1 + A 1 3 * A 2 1 * A 3 2 - A 1 3 * A 2 2 * A 3 1)
          - A 0 1 * (A 1 0 * A 2 2 * A 3 3 - A 1 0 * A 2 3 * A 3 2 - A 1 2 * A 2 0 * A 3 3 + A 1 2 * A 2 3 * A 3 0 + A 1 3 * A 2 0 * A 3 2 - A 1 3 * A 2 2 * A 3 0)
          + A 0 2 * (A 1 0 * A 2 1 * A 3 3 - A 1 0 * A 2 3 * A 3 1 - A 1 1 * A 2 0 * A 3 3 + A 1 1 * A 2 3 * A 3 0 + A 1 3 * A 2 0 * A 3 1 - A 1 3 * A 2 1 * A 3 0)
          - A 0 3 * (A 1 0 * A 2 1 * A 3 2 - A 1 0 * A 2 2 * A 3 1 - A 1 1 * A 2 0 * A 3 2 + A 1 1 * A 2 2 * A 3 0 + A 1 2 * A 2 0 * A 3 1 - A 1 2 * A 2 1 * A 3 0) := by
  rw [Matrix.det_succ_row_zero]
  simp [Fin.sum_univ_succ, Matrix.det_fin_three, Matrix.submatrix_apply, Fin.succAbove]
  ring

/-- The boost matrix in terms of `γ`, the velocity components and `u = (γ−1)/β²`. -/
def absBoost (g bx by' bz u : ℝ) : Matrix (Fin 4) (Fin 4) ℝ :=
  !![g, -g*bx, -g*by', -g*bz;
     -g*bx, 1+u*bx*bx, u*bx*by', u*bx*bz;
     -g*by', u*by'*bx, 1+u*by'*by', u*by'*bz;
     -g*bz, u*bz*bx, u*bz*by', 1+u*bz*bz]

theorem absBoost_det (g bx by' bz u : ℝ)
    (h1 : g^2 * (1 - (bx^2+by'^2+bz^2)) = 1)
    (h2 : u * (bx^2+by'^2+bz^2) = g - 1) :
    (absBoost g bx by' bz u).det = 1 := by
  rw [det4]
  simp [absBoost]
  linear_combination h1 + g * h2

/-- Boosting `e·(1, β⃗)` with the boost of velocity `β⃗` gives `(e/γ, 0⃗)`. -/
theorem absBoost_mulVec (g bx by' bz u e : ℝ)
    (h1 : g^2 * (1 - (bx^2+by'^2+bz^2)) = 1)
    (h2 : u * (bx^2+by'^2+bz^2) = g - 1) :
    (absBoost g bx by' bz u).mulVec ![e, e*bx, e*by', e*bz] = ![e / g, 0, 0, 0] := by
  have hg : g ≠ 0 := by
    rintro rfl
    simp at h1
  unfold absBoost
  rw [mulVec_literal]
  apply vec_literal_ext
  · field_simp
    linear_combination e * h1
  · linear_combination e * bx * h2
  · linear_combination e * by' * h2
  · linear_combination e * bz * h2

/-- The boost with the opposite velocity is the inverse. -/
theorem absBoost_neg_mul (g bx by' bz u : ℝ)
    (h1 : g^2 * (1 - (bx^2+by'^2+bz^2)) = 1)
    (h2 : u * (bx^2+by'^2+bz^2) = g - 1)
    (h3 : u * (g + 1) = g^2) :
    absBoost g (-bx) (-by') (-bz) u * absBoost g bx by' bz u = 1 := by
  unfold absBoost
  rw [mul_literal, one_literal]
  -- time-time: `h1`; time-space: `g·bᵢ·h2`; space-space: `g² = 2u + u²β²`, from `h2` and `h3`
  apply literal_ext
  · linear_combination h1
  · linear_combination g * bx * h2
  · linear_combination g * by' * h2
  · linear_combination g * bz * h2
  · linear_combination (-(g * bx)) * h2
  · linear_combination u * bx * bx * h2 + bx * bx * h3
  · linear_combination u * bx * by' * h2 + bx * by' * h3
  · linear_combination u * bx * bz * h2 + bx * bz * h3
  · linear_combination (-(g * by')) * h2
  · linear_combination u * by' * bx * h2 + by' * bx * h3
  · linear_combination u * by' * by' * h2 + by' * by' * h3
  · linear_combination u * by' * bz * h2 + by' * bz * h3
  · linear_combination (-(g * bz)) * h2
  · linear_combination u * bz * bx * h2 + bz * bx * h3
  · linear_combination u * bz * by' * h2 + bz * by' * h3
  · linear_combination u * bz * bz * h2 + bz * bz * h3

theorem absBoost_transpose (g bx by' bz u : ℝ) : (absBoost g bx by' bz u)ᵀ = absBoost g bx by' bz u := by
  unfold absBoost
  rw [transpose_literal]
  apply literal_ext <;> ring

theorem absBoost_mul_eta (g bx by' bz u : ℝ) :
    absBoost g bx by' bz u * eta = eta * absBoost g (-bx) (-by') (-bz) u := by
  unfold absBoost eta
  rw [mul_literal, mul_literal]
  apply literal_ext <;> ring

/-- `Bᵀ η B = B η B = η B(−β⃗) B = η`. -/
theorem absBoost_lorentz (g bx by' bz u : ℝ)
    (h1 : g^2 * (1 - (bx^2+by'^2+bz^2)) = 1)
    (h2 : u * (bx^2+by'^2+bz^2) = g - 1)
    (h3 : u * (g + 1) = g^2) :
    (absBoost g bx by' bz u)ᵀ * eta * absBoost g bx by' bz u = eta := by
  rw [absBoost_transpose, absBoost_mul_eta, Matrix.mul_assoc, absBoost_neg_mul g bx by' bz u h1 h2 h3,
    Matrix.mul_one]

def absRotY (c s : ℝ) : Matrix (Fin 4) (Fin 4) ℝ :=
  !![1,0,0,0; 0,c,0,s; 0,0,1,0; 0,-s,0,c]

def absRotZ (c s : ℝ) : Matrix (Fin 4) (Fin 4) ℝ :=
  !![1,0,0,0; 0,c,-s,0; 0,s,c,0; 0,0,0,1]

theorem absRotY_lorentz (c s : ℝ) (h : c^2 + s^2 = 1) :
    (absRotY c s)ᵀ * eta * absRotY c s = eta := by
  unfold absRotY eta
  rw [transpose_literal, mul_literal, mul_literal]
  apply literal_ext <;> first | ring1 | linear_combination (-1 : ℝ) * h

theorem absRotZ_lorentz (c s : ℝ) (h : c^2 + s^2 = 1) :
    (absRotZ c s)ᵀ * eta * absRotZ c s = eta := by
  unfold absRotZ eta
  rw [transpose_literal, mul_literal, mul_literal]
  apply literal_ext <;> first | ring1 | linear_combination (-1 : ℝ) * h

theorem absRotY_det (c s : ℝ) (h : c^2 + s^2 = 1) : (absRotY c s).det = 1 := by
  rw [det4]; simp [absRotY]; linear_combination h

theorem absRotZ_det (c s : ℝ) (h : c^2 + s^2 = 1) : (absRotZ c s).det = 1 := by
  rw [det4]; simp [absRotZ]; linear_combination h

theorem absRotY_mul (c1 s1 c2 s2 : ℝ) :
    absRotY c1 s1 * absRotY c2 s2 = absRotY (c1*c2 - s1*s2) (s1*c2 + c1*s2) := by
  unfold absRotY
  rw [mul_literal]
  apply literal_ext <;> ring

theorem absRotZ_mul (c1 s1 c2 s2 : ℝ) :
    absRotZ c1 s1 * absRotZ c2 s2 = absRotZ (c1*c2 - s1*s2) (s1*c2 + c1*s2) := by
  unfold absRotZ
  rw [mul_literal]
  apply literal_ext <;> ring

/-- With `u = γ²/(γ+1)` the relations `u·β² = γ−1` and `u(γ+1) = γ²` follow from `γ²(1−β²) = 1`
(no `β ≠ 0` needed). -/
theorem u_relations (g b2 : ℝ) (hg : 0 < g) (h1 : g ^ 2 * (1 - b2) = 1) :
    g ^ 2 / (g + 1) * b2 = g - 1 ∧ g ^ 2 / (g + 1) * (g + 1) = g ^ 2 := by
  have hg1 : g + 1 ≠ 0 := by linarith
  constructor
  · field_simp; linear_combination -h1
  · field_simp

/-- `√((E²−p²)/E²) = √(E²−p²)/E` for `E > 0`. -/
theorem sqrt_radicand (E p2 r : ℝ) (hE : 0 < E) (h : r = (E^2 - p2) / E^2) :
    Real.sqrt r = Real.sqrt (E^2 - p2) / E := by
  rw [h, Real.sqrt_div' _ (sq_nonneg E), Real.sqrt_sq hE.le]

/-- `√(a − b)` for `b < a`: with `a = E²`, `b = |p⃗|²` the invariant mass of a time-like momentum, with `a = 1`,
`b = β²` the inverse of `γ`. -/
theorem sqrt_sub_pos {a b : ℝ} (h : b < a) : 0 < Real.sqrt (a - b) :=
  Real.sqrt_pos.mpr (sub_pos.mpr h)

theorem sq_sqrt_sub {a b : ℝ} (h : b < a) : Real.sqrt (a - b) ^ 2 = a - b :=
  Real.sq_sqrt (sub_pos.mpr h).le

/-- The space-space entries of the boost at `β⃗ = p⃗/E` in terms of `p⃗`. -/
theorem scaled_mul_div {E : ℝ} (hE : E ≠ 0) (k p2 x y : ℝ) :
    k * E ^ 2 / p2 * (x / E) * (y / E) = p2⁻¹ * k * x * y := by
  field_simp

end Ampverif.Lemmas.C08
