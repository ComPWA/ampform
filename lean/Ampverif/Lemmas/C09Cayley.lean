/-
The Cayley transform `S = 1 + 2i K(1 − iK)⁻¹` of a Hermitian matrix, and its relativistic form with
a positive diagonal `ρ`, over `Matrix n n ℂ` for an arbitrary finite index type `n`. No reference to
generated definitions.
-/
import Ampverif.Lemmas.C09Real
import Mathlib.LinearAlgebra.Matrix.PosDef
import Mathlib.LinearAlgebra.Matrix.NonsingularInverse
import Mathlib.LinearAlgebra.Matrix.Hermitian
import Mathlib.LinearAlgebra.Matrix.Symmetric
import Mathlib.Analysis.Complex.Order
import Mathlib.Analysis.RCLike.Basic
import Mathlib.Analysis.Complex.Basic
import Mathlib.Tactic.NoncommRing
import Mathlib.Tactic.Ring

set_option linter.unusedSectionVars false

namespace Ampverif.Lemmas.C09
open Matrix Complex
open scoped ComplexOrder

variable {n : Type*} [Fintype n] [DecidableEq n]

noncomputable def D (K : Matrix n n ℂ) : Matrix n n ℂ := 1 - Complex.I • K

noncomputable def T (K : Matrix n n ℂ) : Matrix n n ℂ := K * (D K)⁻¹

noncomputable def S (K : Matrix n n ℂ) : Matrix n n ℂ := 1 + (2 * Complex.I) • T K

theorem D_apply (K : Matrix n n ℂ) (i j : n) :
    D K i j = (1 : Matrix n n ℂ) i j - Complex.I * K i j := rfl

theorem D_conjTranspose {K : Matrix n n ℂ} (hK : K.IsHermitian) :
    (D K)ᴴ = 1 + Complex.I • K := by
  unfold D
  rw [conjTranspose_sub, conjTranspose_one, conjTranspose_smul, hK.eq]
  simp [sub_eq_add_neg]

/-- `(1 − iK)ᴴ (1 − iK) = 1 + KᴴK` for Hermitian `K`. -/
theorem D_gram {K : Matrix n n ℂ} (hK : K.IsHermitian) :
    (D K)ᴴ * D K = 1 + Kᴴ * K := by
  rw [D_conjTranspose hK, hK.eq]
  unfold D
  have h : (Complex.I • K) * (Complex.I • K) = -(K * K) := by
    rw [smul_mul_smul_comm, Complex.I_mul_I]; simp
  generalize Complex.I • K = J at h
  calc (1 + J) * (1 - J) = 1 - J * J := by noncomm_ring
    _ = 1 + K * K := by rw [h]; noncomm_ring

/-- For Hermitian `K` the matrix `1 − iK` is invertible (its Gram matrix `1 + KᴴK` is positive
definite). No hypothesis on the size or on the eigenvalues. -/
theorem isUnit_det_D {K : Matrix n n ℂ} (hK : K.IsHermitian) : IsUnit (D K).det := by
  have hpd : (1 + Kᴴ * K).PosDef :=
    Matrix.PosDef.one.add_posSemidef (posSemidef_conjTranspose_mul_self K)
  have hu : IsUnit ((D K)ᴴ * D K) := by rw [D_gram hK]; exact hpd.isUnit
  have hdet : IsUnit ((D K)ᴴ * D K).det := (Matrix.isUnit_iff_isUnit_det _).1 hu
  rw [det_mul] at hdet
  exact isUnit_of_mul_isUnit_right hdet

theorem K_comm_Dinv (K : Matrix n n ℂ) (h : IsUnit (D K).det) :
    K * (D K)⁻¹ = (D K)⁻¹ * K := by
  have hc : K * D K = D K * K := by unfold D; noncomm_ring
  calc K * (D K)⁻¹ = (D K)⁻¹ * (D K * K) * (D K)⁻¹ := by
        rw [← Matrix.mul_assoc, nonsing_inv_mul _ h, Matrix.one_mul]
    _ = (D K)⁻¹ * (K * D K) * (D K)⁻¹ := by rw [hc]
    _ = (D K)⁻¹ * K := by
        rw [Matrix.mul_assoc, Matrix.mul_assoc, mul_nonsing_inv _ h, Matrix.mul_one]

/-- A left solution of `X A = K` is `K A⁻¹`; with `A = 1 − iK` resp. `1 − iρK̂` this is how the
regenerated entries are recognised as `T K` resp. `That ρ K̂`. -/
theorem eq_mul_inv_of_mul_eq {E A K : Matrix n n ℂ} (h : IsUnit A.det) (hE : E * A = K) :
    E = K * A⁻¹ := by
  rw [← hE, Matrix.mul_nonsing_inv_cancel_right _ _ h]

/-- `S = (1 + iK)(1 − iK)⁻¹`. -/
theorem S_eq (K : Matrix n n ℂ) (h : IsUnit (D K).det) :
    S K = (1 + Complex.I • K) * (D K)⁻¹ := by
  unfold S T
  have h1 : (1 : Matrix n n ℂ) = D K * (D K)⁻¹ := (mul_nonsing_inv _ h).symm
  conv_lhs => rw [h1]
  rw [← Matrix.smul_mul, ← Matrix.add_mul]
  congr 1
  unfold D
  rw [mul_smul]
  module

/-- **Cayley transform, all sizes.** For Hermitian `K` with `1 − iK` invertible,
`S = 1 + 2i K(1−iK)⁻¹` is unitary. -/
theorem S_unitary_of_isUnit {K : Matrix n n ℂ} (hK : K.IsHermitian) (h : IsUnit (D K).det) :
    (S K)ᴴ * S K = 1 := by
  have hA : (1 + Complex.I • K) = (D K)ᴴ := (D_conjTranspose hK).symm
  have h' : IsUnit ((D K)ᴴ).det := by rw [det_conjTranspose]; exact h.star
  rw [S_eq K h, hA, conjTranspose_mul, conjTranspose_conjTranspose, conjTranspose_nonsing_inv]
  -- ((Dᴴ)⁻¹ * D) * (Dᴴ * D⁻¹), and D, Dᴴ commute
  have hcomm : D K * (D K)ᴴ = (D K)ᴴ * D K := by
    rw [D_conjTranspose hK]; unfold D
    generalize Complex.I • K = J
    noncomm_ring
  calc (D K)ᴴ⁻¹ * D K * ((D K)ᴴ * (D K)⁻¹)
      = (D K)ᴴ⁻¹ * (D K * (D K)ᴴ) * (D K)⁻¹ := by simp only [Matrix.mul_assoc]
    _ = (D K)ᴴ⁻¹ * ((D K)ᴴ * D K) * (D K)⁻¹ := by rw [hcomm]
    _ = ((D K)ᴴ⁻¹ * (D K)ᴴ) * (D K * (D K)⁻¹) := by simp only [Matrix.mul_assoc]
    _ = 1 := by rw [nonsing_inv_mul _ h', mul_nonsing_inv _ h, Matrix.one_mul]

/-- **Unitarity for every size**: Hermitian `K` ⇒ `S†S = 1` (invertibility is proved, not
assumed). -/
theorem S_unitary {K : Matrix n n ℂ} (hK : K.IsHermitian) : (S K)ᴴ * S K = 1 :=
  S_unitary_of_isUnit hK (isUnit_det_D hK)

/-- **Symmetry for every size**: `Kᵀ = K` ⇒ `Tᵀ = T` whenever `1 − iK` is invertible. -/
theorem T_symm_of_isUnit {K : Matrix n n ℂ} (hK : Kᵀ = K) (h : IsUnit (D K).det) :
    (T K)ᵀ = T K := by
  unfold T
  rw [transpose_mul, transpose_nonsing_inv]
  have : (D K)ᵀ = D K := by
    unfold D; rw [transpose_sub, transpose_one, transpose_smul, hK]
  rw [this, hK]
  exact (K_comm_Dinv K h).symm

/-- Whatever equals `K(1−iK)⁻¹` for a Hermitian symmetric `K` is unitary and symmetric. -/
theorem unitary_symmetric_of_eq_T {K F : Matrix n n ℂ} (hK : K.IsHermitian) (hs : Kᵀ = K)
    (hF : F = T K) :
    (1 + (2 * Complex.I) • F)ᴴ * (1 + (2 * Complex.I) • F) = 1 ∧ Fᵀ = F := by
  rw [hF]
  exact ⟨S_unitary hK, T_symm_of_isUnit hs (isUnit_det_D hK)⟩

/-- A real symmetric matrix, seen in ℂ, is Hermitian and symmetric. -/
theorem hermitian_symm_of_real_symm (k : n → n → ℝ) (hs : ∀ i j, k i j = k j i) :
    (Matrix.of fun i j => ((k i j : ℝ) : ℂ)).IsHermitian
      ∧ (Matrix.of fun i j => ((k i j : ℝ) : ℂ))ᵀ = Matrix.of fun i j => ((k i j : ℝ) : ℂ) := by
  constructor <;> ext i j
  · simp [conjTranspose_apply, hs j i]
  · simp [transpose_apply, hs j i]

/-- The relativistic `T̂ = K̂ (1 − iρK̂)⁻¹`. -/
noncomputable def That (ρ Kh : Matrix n n ℂ) : Matrix n n ℂ := Kh * (1 - Complex.I • (ρ * Kh))⁻¹

/-- `(1 − iR²K̂) R = R (1 − i RK̂R)`. -/
theorem rel_intertwine (R Kh : Matrix n n ℂ) :
    (1 - Complex.I • (R * R * Kh)) * R = R * D (R * Kh * R) := by
  unfold D
  simp only [Matrix.sub_mul, Matrix.mul_sub, Matrix.one_mul, Matrix.mul_one,
    Matrix.smul_mul, Matrix.mul_smul, Matrix.mul_assoc]

/-- `1 − iR²K̂` is invertible when `R` and `1 − i RK̂R` are (it is similar to the latter). -/
theorem isUnit_det_rel_of (R Kh : Matrix n n ℂ) (hR : IsUnit R.det)
    (h : IsUnit (D (R * Kh * R)).det) :
    IsUnit (1 - Complex.I • (R * R * Kh)).det := by
  have h1 : 1 - Complex.I • (R * R * Kh) = R * D (R * Kh * R) * R⁻¹ := by
    rw [← rel_intertwine, Matrix.mul_assoc _ R R⁻¹, mul_nonsing_inv _ hR, Matrix.mul_one]
  rw [h1, det_mul, det_mul]
  exact (hR.mul h).mul ((Matrix.isUnit_nonsing_inv_det_iff).2 hR)

/-- `√ρ K̂ (1 − iρK̂)⁻¹ √ρ = K'(1 − iK')⁻¹` with `K' = √ρ K̂ √ρ`, for an invertible `R = √ρ`
(`ρ = R²`) and `1 − iK'` invertible. -/
theorem rel_reduction (R Kh : Matrix n n ℂ) (hR : IsUnit R.det)
    (h : IsUnit (D (R * Kh * R)).det) :
    R * That (R * R) Kh * R = T (R * Kh * R) := by
  have hA := isUnit_det_rel_of R Kh hR h
  unfold That T
  set A : Matrix n n ℂ := 1 - Complex.I • (R * R * Kh)
  set B : Matrix n n ℂ := D (R * Kh * R)
  have hAB : A * R = R * B := rel_intertwine R Kh
  have key : A⁻¹ * R = R * B⁻¹ := by
    calc A⁻¹ * R = A⁻¹ * (R * B) * B⁻¹ := by
          rw [Matrix.mul_assoc, Matrix.mul_assoc, mul_nonsing_inv _ h, Matrix.mul_one]
      _ = A⁻¹ * (A * R) * B⁻¹ := by rw [hAB]
      _ = R * B⁻¹ := by rw [← Matrix.mul_assoc A⁻¹, nonsing_inv_mul _ hA, Matrix.one_mul]
  calc R * (Kh * A⁻¹) * R = R * Kh * (A⁻¹ * R) := by simp only [Matrix.mul_assoc]
    _ = R * Kh * (R * B⁻¹) := by rw [key]
    _ = R * Kh * R * B⁻¹ := by simp only [Matrix.mul_assoc]

/-- Diagonal matrix of square roots of positive reals, as a complex matrix. -/
noncomputable def sqrtDiag (r : n → ℝ) : Matrix n n ℂ :=
  Matrix.diagonal fun i => ((Real.sqrt (r i) : ℝ) : ℂ)

theorem sqrtDiag_mul_self (r : n → ℝ) (hr : ∀ i, 0 ≤ r i) :
    sqrtDiag r * sqrtDiag r = Matrix.diagonal fun i => ((r i : ℝ) : ℂ) := by
  unfold sqrtDiag
  rw [diagonal_mul_diagonal]
  congr 1; funext i
  rw [← Complex.ofReal_mul, Real.mul_self_sqrt (hr i)]

theorem sqrtDiag_isHermitian (r : n → ℝ) : (sqrtDiag r).IsHermitian := by
  unfold sqrtDiag
  rw [Matrix.IsHermitian, diagonal_conjTranspose]
  congr 1; funext i; simp

theorem sqrtDiag_det_isUnit (r : n → ℝ) (hr : ∀ i, 0 < r i) : IsUnit (sqrtDiag r).det := by
  unfold sqrtDiag
  rw [det_diagonal, isUnit_iff_ne_zero]
  apply Finset.prod_ne_zero_iff.2
  intro i _
  exact_mod_cast (Real.sqrt_pos.2 (hr i)).ne'

theorem conj_sqrtDiag_isHermitian (r : n → ℝ) {Kh : Matrix n n ℂ} (hK : Kh.IsHermitian) :
    (sqrtDiag r * Kh * sqrtDiag r).IsHermitian := by
  have := sqrtDiag_isHermitian r
  unfold Matrix.IsHermitian at *
  rw [conjTranspose_mul, conjTranspose_mul, this, hK, Matrix.mul_assoc]

/-- `E = √ρ Ê √ρ` from the entrywise form `E_ij = (√ρ_i)* Ê_ij √ρ_j` with the principal complex
roots, for non-negative `ρ`. -/
theorem eq_sqrtDiag_conj (r : n → ℝ) (hr : ∀ i, 0 ≤ r i) {E Eh : Matrix n n ℂ}
    (h : ∀ i j, E i j = (starRingEnd ℂ) ((r i : ℂ) ^ ((1 : ℂ) / 2)) * Eh i j
      * (r j : ℂ) ^ ((1 : ℂ) / 2)) : E = sqrtDiag r * Eh * sqrtDiag r := by
  ext i j
  rw [h, sqrtDiag, Matrix.mul_diagonal, Matrix.diagonal_mul, csqrt_ofReal (hr i),
    csqrt_ofReal (hr j), Complex.conj_ofReal]

/-- The relativistic T-matrix `T = √ρ T̂ √ρ` with `ρ = diag(r)`. -/
noncomputable def Trel (r : n → ℝ) (Kh : Matrix n n ℂ) : Matrix n n ℂ :=
  sqrtDiag r * That (Matrix.diagonal fun i => ((r i : ℝ) : ℂ)) Kh * sqrtDiag r

theorem Trel_eq (r : n → ℝ) (hr : ∀ i, 0 < r i) {Kh : Matrix n n ℂ} (hK : Kh.IsHermitian) :
    Trel r Kh = T (sqrtDiag r * Kh * sqrtDiag r) := by
  unfold Trel
  rw [← sqrtDiag_mul_self r (fun i => (hr i).le)]
  exact rel_reduction _ _ (sqrtDiag_det_isUnit r hr)
    (isUnit_det_D (conj_sqrtDiag_isHermitian r hK))

/-- `1 − iρK̂` is invertible for positive diagonal `ρ` and Hermitian `K̂`. -/
theorem isUnit_det_rel (r : n → ℝ) (hr : ∀ i, 0 < r i) {Kh : Matrix n n ℂ} (hK : Kh.IsHermitian) :
    IsUnit (1 - Complex.I • ((Matrix.diagonal fun i => ((r i : ℝ) : ℂ)) * Kh)).det := by
  rw [← sqrtDiag_mul_self r (fun i => (hr i).le)]
  exact isUnit_det_rel_of _ _ (sqrtDiag_det_isUnit r hr)
    (isUnit_det_D (conj_sqrtDiag_isHermitian r hK))

/-- **Relativistic unitarity, all sizes**: `ρ` positive diagonal, `K̂` Hermitian ⇒
`S = 1 + 2i √ρ K̂(1−iρK̂)⁻¹ √ρ` is unitary. -/
theorem Srel_unitary (r : n → ℝ) (hr : ∀ i, 0 < r i) {Kh : Matrix n n ℂ} (hK : Kh.IsHermitian) :
    (1 + (2 * Complex.I) • Trel r Kh)ᴴ * (1 + (2 * Complex.I) • Trel r Kh) = 1 := by
  rw [Trel_eq r hr hK]
  exact S_unitary (conj_sqrtDiag_isHermitian r hK)

/-- **Relativistic symmetry, all sizes**: `K̂ᵀ = K̂` Hermitian ⇒ `Tᵀ = T`. -/
theorem Trel_symm (r : n → ℝ) (hr : ∀ i, 0 < r i) {Kh : Matrix n n ℂ} (hK : Kh.IsHermitian)
    (hs : Khᵀ = Kh) : (Trel r Kh)ᵀ = Trel r Kh := by
  rw [Trel_eq r hr hK]
  apply T_symm_of_isUnit _ (isUnit_det_D (conj_sqrtDiag_isHermitian r hK))
  have hd : (sqrtDiag r)ᵀ = sqrtDiag r := by unfold sqrtDiag; exact diagonal_transpose _
  rw [transpose_mul, transpose_mul, hd, hs, Matrix.mul_assoc]

theorem unitary_symmetric_of_eq_Trel (r : n → ℝ) (hr : ∀ i, 0 < r i) {Kh F : Matrix n n ℂ}
    (hK : Kh.IsHermitian) (hs : Khᵀ = Kh) (hF : F = Trel r Kh) :
    (1 + (2 * Complex.I) • F)ᴴ * (1 + (2 * Complex.I) • F) = 1 ∧ Fᵀ = F := by
  rw [hF]
  exact ⟨Srel_unitary r hr hK, Trel_symm r hr hK hs⟩

/-- `K_ij = Σ_R g_R,i g_R,j / (m_R² − s)` over any finite pole set. -/
noncomputable def poleK {ι : Type*} (poles : Finset ι) (g : ι → n → ℝ) (m : ι → ℝ) (s : ℝ)
    (i j : n) : ℝ :=
  ∑ R ∈ poles, g R i * g R j / (m R ^ 2 - s)

theorem poleK_symm {ι : Type*} (poles : Finset ι) (g : ι → n → ℝ) (m : ι → ℝ) (s : ℝ)
    (i j : n) : poleK poles g m s i j = poleK poles g m s j i := by
  unfold poleK
  apply Finset.sum_congr rfl
  intro R _
  rw [mul_comm]

/-- The pole K-matrix as a complex matrix. -/
noncomputable def poleKMatrix {ι : Type*} (poles : Finset ι) (g : ι → n → ℝ) (m : ι → ℝ)
    (s : ℝ) : Matrix n n ℂ :=
  Matrix.of fun i j => ((poleK poles g m s i j : ℝ) : ℂ)

end Ampverif.Lemmas.C09
