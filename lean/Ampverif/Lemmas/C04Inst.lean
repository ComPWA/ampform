/-
C04, layer (I) — instances of `WignerRep`: J = 0 trivial; J = 1 as `D(R) = U · R · U†` with the
spherical-basis matrix `U` (multiplicative on ALL matrices, unitary on proper rotations, diagonal
`e^{-imδ}` on `Rz δ`). The REGENERATED SymPy entries `Rotation.D(1, m, m', α, β, γ).doit()` are
exactly `W1.D (Rz α · Ry β · Rz γ)`; hence SymPy's D¹ is unitary, diagonal on z-rotations and
multiplicative in the rotation it represents.
-/
import Ampverif.Lemmas.C04Rep
import Mathlib.Analysis.SpecialFunctions.Trigonometric.Basic
import Mathlib.Analysis.Real.Sqrt

namespace Ampverif.Lemmas.C04
open Matrix Ampverif.Gen.C04

noncomputable def W0 : WignerRep 1 where
  D := fun _ => 1
  wt := fun _ => 0
  mul := by intros; simp
  unitary := by intros; simp
  diag := by
    intro δ
    ext i j
    simp [Matrix.diagonal_apply, Matrix.one_apply]

/-- `1/√2` as a complex number -/
noncomputable def rh : ℂ := (((Real.sqrt 2 : ℝ) : ℂ))⁻¹

theorem sqrt2_sq : ((Real.sqrt 2 : ℝ) : ℂ) * ((Real.sqrt 2 : ℝ) : ℂ) = 2 := by
  rw [← Complex.ofReal_mul, Real.mul_self_sqrt (by norm_num)]; norm_num

theorem sqrt2_ne : ((Real.sqrt 2 : ℝ) : ℂ) ≠ 0 := by
  intro h
  have := sqrt2_sq
  rw [h] at this
  norm_num at this

theorem rh_sq : rh ^ 2 = 1 / 2 := by
  unfold rh
  rw [pow_two, ← mul_inv, sqrt2_sq]; norm_num

theorem star_rh : (starRingEnd ℂ) rh = rh := by
  unfold rh
  rw [map_inv₀, Complex.conj_ofReal]

/-- spherical basis: rows `e_{+1}† , e_0†, e_{−1}†` with `e_{±1} = ∓(x̂ ± iŷ)/√2` -/
noncomputable def Usph : Matrix (Fin 3) (Fin 3) ℂ :=
  !![-rh, Complex.I * rh, 0; 0, 0, 1; rh, Complex.I * rh, 0]

theorem Usph_conjTranspose :
    Usphᴴ = !![-rh, 0, rh; -(Complex.I * rh), 0, -(Complex.I * rh); 0, 1, 0] := by
  rw [Matrix.eta_fin_three Usphᴴ]
  simp [Usph, Matrix.conjTranspose_apply, star_rh]

theorem Usph_unitary : Usphᴴ * Usph = 1 := by
  rw [Usph_conjTranspose, Usph, Matrix.mul_fin_three, Matrix.one_fin_three]
  congr! 3 <;> ring_nf <;> simp only [rh_sq, Complex.I_sq] <;> ring_nf

theorem Usph_mul_conjTranspose : Usph * Usphᴴ = 1 := mul_eq_one_comm.mp Usph_unitary

/-- complexification of a real matrix -/
def cplx (R : Matrix (Fin 3) (Fin 3) ℝ) : Matrix (Fin 3) (Fin 3) ℂ := R.map Complex.ofReal

theorem cplx_mul (R S : Matrix (Fin 3) (Fin 3) ℝ) : cplx (R * S) = cplx R * cplx S := by
  ext i j
  simp [cplx, Matrix.mul_apply]

theorem cplx_conjTranspose (R : Matrix (Fin 3) (Fin 3) ℝ) : (cplx R)ᴴ = cplx Rᵀ := by
  ext i j
  simp [cplx, Matrix.conjTranspose_apply]

theorem cplx_one : cplx 1 = 1 := by
  ext i j
  simp [cplx, Matrix.one_apply]
  split_ifs <;> simp

noncomputable def D1rep (R : Matrix (Fin 3) (Fin 3) ℝ) : Matrix (Fin 3) (Fin 3) ℂ :=
  Usph * cplx R * Usphᴴ

theorem D1rep_mul (R S : Matrix (Fin 3) (Fin 3) ℝ) : D1rep (R * S) = D1rep R * D1rep S := by
  unfold D1rep
  rw [cplx_mul]
  calc Usph * (cplx R * cplx S) * Usphᴴ
      = Usph * cplx R * (1 : Matrix (Fin 3) (Fin 3) ℂ) * cplx S * Usphᴴ := by
        simp only [Matrix.mul_one, Matrix.mul_assoc]
    _ = Usph * cplx R * Usphᴴ * (Usph * cplx S * Usphᴴ) := by
        rw [← Usph_unitary]; simp only [Matrix.mul_assoc]

theorem D1rep_unitary (R : Matrix (Fin 3) (Fin 3) ℝ) (hR : IsRot R) : (D1rep R)ᴴ * D1rep R = 1 := by
  unfold D1rep
  rw [Matrix.conjTranspose_mul, Matrix.conjTranspose_mul, Matrix.conjTranspose_conjTranspose,
    cplx_conjTranspose]
  calc Usph * (cplx Rᵀ * Usphᴴ) * (Usph * cplx R * Usphᴴ)
      = Usph * cplx Rᵀ * (Usphᴴ * Usph) * cplx R * Usphᴴ := by simp only [Matrix.mul_assoc]
    _ = 1 := by
        rw [Usph_unitary, Matrix.mul_one, Matrix.mul_assoc Usph, ← cplx_mul, hR.1, cplx_one,
          Matrix.mul_one, Usph_mul_conjTranspose]

theorem cexp_neg_mul_I (x : ℝ) :
    Complex.exp (-(x : ℂ) * Complex.I) = (Real.cos x : ℂ) - (Real.sin x : ℂ) * Complex.I := by
  rw [Complex.exp_mul_I, Complex.cos_neg, Complex.sin_neg, neg_mul, sub_eq_add_neg,
    Complex.ofReal_cos, Complex.ofReal_sin]

theorem cexp_mul_I (x : ℝ) :
    Complex.exp ((x : ℂ) * Complex.I) = (Real.cos x : ℂ) + (Real.sin x : ℂ) * Complex.I := by
  rw [Complex.exp_mul_I, ← Complex.ofReal_cos, ← Complex.ofReal_sin]

/-- `U R U†` written out -/
theorem D1rep_entries (R : Matrix (Fin 3) (Fin 3) ℝ) :
    D1rep R = !![((R 0 0 : ℂ) + R 1 1 + Complex.I * (R 0 1 - R 1 0)) / 2,
                 rh * (-(R 0 2 : ℂ) + Complex.I * R 1 2),
                 (-(R 0 0 : ℂ) + R 1 1 + Complex.I * (R 0 1 + R 1 0)) / 2;
                 rh * (-(R 2 0 : ℂ) - Complex.I * R 2 1), (R 2 2 : ℂ), rh * ((R 2 0 : ℂ) - Complex.I * R 2 1);
                 (-(R 0 0 : ℂ) + R 1 1 - Complex.I * (R 0 1 + R 1 0)) / 2,
                 rh * ((R 0 2 : ℂ) + Complex.I * R 1 2),
                 ((R 0 0 : ℂ) + R 1 1 - Complex.I * (R 0 1 - R 1 0)) / 2] := by
  rw [D1rep, Usph_conjTranspose, Usph, Matrix.eta_fin_three (cplx R), Matrix.mul_fin_three,
    Matrix.mul_fin_three]
  congr! 3 <;> simp only [cplx, Matrix.map_apply] <;> ring_nf <;>
    (try simp only [rh_sq, Complex.I_sq]) <;> (try ring_nf)

/-- weights of the J = 1 basis, ordered m = +1, 0, −1 -/
def wt1 : Fin 3 → ℝ := ![1, 0, -1]

theorem D1rep_Rz3_entries (δ : ℝ) :
    D1rep (Rz3 δ) = !![Complex.exp (-(δ : ℂ) * Complex.I), 0, 0; 0, 1, 0;
                       0, 0, Complex.exp ((δ : ℂ) * Complex.I)] := by
  rw [D1rep_entries, cexp_neg_mul_I, cexp_mul_I]
  simp [Rz3]
  constructor <;> ring

theorem D1rep_Rz3 (δ : ℝ) :
    D1rep (Rz3 δ) = Matrix.diagonal fun m => Complex.exp (-(↑(wt1 m * δ) : ℂ) * Complex.I) := by
  rw [D1rep_Rz3_entries, ← Matrix.ext_iff]
  simp [Fin.forall_fin_succ, wt1, Matrix.diagonal_apply]

/-- Wigner's small `d¹(β)` -/
theorem D1rep_Ry3 (β : ℝ) :
    D1rep (Ry3 β) = !![(1 + Complex.cos β) / 2, -(rh * Complex.sin β), (1 - Complex.cos β) / 2;
                       rh * Complex.sin β, Complex.cos β, -(rh * Complex.sin β);
                       (1 - Complex.cos β) / 2, rh * Complex.sin β, (1 + Complex.cos β) / 2] := by
  rw [D1rep_entries]
  simp [Ry3]
  ring_nf
  simp

noncomputable def W1 : WignerRep 3 where
  D := D1rep
  wt := wt1
  mul := fun R S _ _ => D1rep_mul R S
  unitary := D1rep_unitary
  diag := D1rep_Rz3

theorem sqrt2_eq : ((Real.sqrt 2 : ℝ) : ℂ) = 2 * rh := by
  unfold rh
  have := sqrt2_sq
  field_simp [sqrt2_ne]
  linear_combination this

/-- The regenerated SymPy matrix `Rotation.D(1, m, m', α, β, γ).doit()` IS the J = 1
representation of the Euler rotation `Rz(α) Ry(β) Rz(γ)`. -/
theorem sympy_D1_eq (α β γ : ℝ) : D1 α β γ = W1.D (euler α β γ) := by
  have hn : ∀ a : ℝ, Complex.exp ((-1 : ℂ) * Complex.I * a) = Complex.exp (-(a : ℂ) * Complex.I) :=
    fun a => by rw [neg_one_mul, neg_mul, neg_mul, mul_comm]
  have hp : ∀ a : ℝ, Complex.exp (Complex.I * a) = Complex.exp ((a : ℂ) * Complex.I) :=
    fun a => by rw [mul_comm]
  show D1 α β γ = D1rep (euler α β γ)
  -- `D¹(α, β, γ) = diag(e^{∓iα}) · d¹(β) · diag(e^{∓iγ})`, entry by entry a product of three scalars
  rw [euler, D1rep_mul, D1rep_mul, D1rep_Rz3_entries, D1rep_Rz3_entries, D1rep_Ry3,
    Matrix.mul_fin_three, Matrix.mul_fin_three]
  simp only [D1, D1_p_p, D1_p_z, D1_p_m, D1_z_p, D1_z_z, D1_z_m, D1_m_p, D1_m_z, D1_m_m, hn, hp,
    sqrt2_eq]
  generalize Complex.exp (-(α : ℂ) * Complex.I) = a
  generalize Complex.exp ((α : ℂ) * Complex.I) = a'
  generalize Complex.exp (-(γ : ℂ) * Complex.I) = g
  generalize Complex.exp ((γ : ℂ) * Complex.I) = g'
  congr! 3 <;> ring_nf

end Ampverif.Lemmas.C04
