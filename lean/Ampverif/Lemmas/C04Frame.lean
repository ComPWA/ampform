/-
C04, layer (K): proper rotations and helicity frames. The fact everything else rests on is
`rot_fix_ez_is_Rz3`: a proper rotation that fixes ẑ is a rotation about z, so two frames with the
same z axis differ by some `Rz3 δ` on the right. `hframe φ θ = Rz3 φ * Ry3 θ` is the frame whose
z axis has polar angles `(θ, φ)`.
-/
import Ampverif.Lemmas.C04Rot
import Mathlib.Analysis.SpecialFunctions.Complex.Arg
import Mathlib.Analysis.SpecialFunctions.Trigonometric.Inverse
import Mathlib.LinearAlgebra.Matrix.Determinant.Basic
import Mathlib.LinearAlgebra.Matrix.NonsingularInverse
import Mathlib.Tactic.FieldSimp
import Mathlib.Tactic.Positivity
import Mathlib.Tactic.LinearCombination

namespace Ampverif.Lemmas.C04
open Matrix Ampverif.Gen.C04

/-- proper rotations: orthogonal with determinant one -/
def IsRot (R : Matrix (Fin 3) (Fin 3) ℝ) : Prop := Rᵀ * R = 1 ∧ R.det = 1

def ez : Fin 3 → ℝ := ![0, 0, 1]

theorem exists_angle {c s : ℝ} (h : c ^ 2 + s ^ 2 = 1) : ∃ δ : ℝ, Real.cos δ = c ∧ Real.sin δ = s := by
  have hn : ‖(⟨c, s⟩ : ℂ)‖ = 1 := by
    rw [Complex.norm_def, Complex.normSq_mk]
    have : c * c + s * s = 1 := by nlinarith
    rw [this, Real.sqrt_one]
  have hne : (⟨c, s⟩ : ℂ) ≠ 0 := by
    intro h0
    rw [h0, norm_zero] at hn
    exact zero_ne_one hn
  refine ⟨Complex.arg ⟨c, s⟩, ?_, ?_⟩
  · rw [Complex.cos_arg hne, hn]; simp
  · rw [Complex.sin_arg, hn]; simp

theorem Rz3_isRot (a : ℝ) : IsRot (Rz3 a) := by
  constructor
  · rw [Rz3_transpose, Rz3_add]; simp [Rz3_zero]
  · simp [Rz3, Matrix.det_fin_three]
    nlinarith [Real.sin_sq_add_cos_sq a]

theorem Ry3_isRot (a : ℝ) : IsRot (Ry3 a) := by
  constructor
  · rw [Ry3_transpose, Ry3_add]; simp [Ry3_zero]
  · simp [Ry3, Matrix.det_fin_three]
    nlinarith [Real.sin_sq_add_cos_sq a]

theorem IsRot.mul {R S : Matrix (Fin 3) (Fin 3) ℝ} (hR : IsRot R) (hS : IsRot S) : IsRot (R * S) := by
  constructor
  · rw [Matrix.transpose_mul, Matrix.mul_assoc, ← Matrix.mul_assoc Rᵀ, hR.1, Matrix.one_mul, hS.1]
  · rw [Matrix.det_mul, hR.2, hS.2, one_mul]

theorem IsRot.transpose {R : Matrix (Fin 3) (Fin 3) ℝ} (hR : IsRot R) : IsRot Rᵀ := by
  constructor
  · rw [Matrix.transpose_transpose]; exact mul_eq_one_comm.mp hR.1
  · rw [Matrix.det_transpose]; exact hR.2

theorem IsRot.mul_transpose {R : Matrix (Fin 3) (Fin 3) ℝ} (hR : IsRot R) : R * Rᵀ = 1 :=
  mul_eq_one_comm.mp hR.1

theorem IsRot.mul_left_cancel {Q X Y : Matrix (Fin 3) (Fin 3) ℝ} (hQ : IsRot Q)
    (h : Q * X = Q * Y) : X = Y := by
  rw [← Matrix.one_mul X, ← Matrix.one_mul Y, ← hQ.1, Matrix.mul_assoc, h, Matrix.mul_assoc]

theorem mulVec_ez (R : Matrix (Fin 3) (Fin 3) ℝ) (i : Fin 3) : (R *ᵥ ez) i = R i 2 := by
  simp [ez, Matrix.mulVec, dotProduct, Fin.sum_univ_three]

theorem IsRot.col_dot {R : Matrix (Fin 3) (Fin 3) ℝ} (hR : IsRot R) (i j : Fin 3) :
    R 0 i * R 0 j + R 1 i * R 1 j + R 2 i * R 2 j = (1 : Matrix (Fin 3) (Fin 3) ℝ) i j := by
  rw [← hR.1, Matrix.mul_apply, Fin.sum_univ_three]; rfl

theorem IsRot.row_dot {R : Matrix (Fin 3) (Fin 3) ℝ} (hR : IsRot R) (i j : Fin 3) :
    R i 0 * R j 0 + R i 1 * R j 1 + R i 2 * R j 2 = (1 : Matrix (Fin 3) (Fin 3) ℝ) i j := by
  rw [← hR.mul_transpose, Matrix.mul_apply, Fin.sum_univ_three]; rfl

/-- A proper rotation that fixes the z axis is a rotation about z. -/
theorem rot_fix_ez_is_Rz3 {R : Matrix (Fin 3) (Fin 3) ℝ} (hR : IsRot R) (hz : R *ᵥ ez = ez) :
    ∃ δ : ℝ, R = Rz3 δ := by
  have c : ∀ i, R i 2 = ez i := fun i => by rw [← mulVec_ez R i, hz]
  have c0 : R 0 2 = 0 := c 0
  have c1 : R 1 2 = 0 := c 1
  have c2 : R 2 2 = 1 := c 2
  -- the third row has unit length, so its other two entries vanish
  obtain ⟨r0, r1⟩ : R 2 0 = 0 ∧ R 2 1 = 0 := by
    have := hR.row_dot 2 2
    rw [c2, Matrix.one_apply_eq] at this
    exact mul_self_add_mul_self_eq_zero.mp (by linarith)
  -- the upper-left 2×2 block is orthogonal with determinant one
  have e00 := hR.col_dot 0 0
  have e01 := hR.col_dot 0 1
  rw [r0, Matrix.one_apply_eq] at e00
  rw [r0, Matrix.one_apply_ne (by decide)] at e01
  have hd : R 0 0 * R 1 1 - R 0 1 * R 1 0 = 1 := by
    have := hR.2
    rw [Matrix.det_fin_three, c0, c1, c2, r0, r1] at this
    linarith
  have h11 : R 1 1 = R 0 0 := by linear_combination (-R 1 1) * e00 + R 0 0 * hd + R 1 0 * e01
  have h01 : R 0 1 = -R 1 0 := by linear_combination (-R 0 1) * e00 + R 0 0 * e01 - R 1 0 * hd
  obtain ⟨δ, hc, hs⟩ := exists_angle (c := R 0 0) (s := R 1 0) (by linear_combination e00)
  refine ⟨δ, (Matrix.eta_fin_three R).trans ?_⟩
  rw [c0, c1, c2, r0, r1, h11, h01, ← hc, ← hs]
  rfl

/-- two proper rotations with the same image of ẑ differ by a rotation about z on the right -/
theorem IsRot.eq_mul_Rz3 {A B : Matrix (Fin 3) (Fin 3) ℝ} (hA : IsRot A) (hB : IsRot B)
    (h : A *ᵥ ez = B *ᵥ ez) : ∃ δ : ℝ, B = A * Rz3 δ := by
  have hfix : (Aᵀ * B) *ᵥ ez = ez := by
    rw [← Matrix.mulVec_mulVec, ← h, Matrix.mulVec_mulVec, hA.1, Matrix.one_mulVec]
  obtain ⟨δ, hδ⟩ := rot_fix_ez_is_Rz3 (hA.transpose.mul hB) hfix
  exact ⟨δ, by rw [← hδ, ← Matrix.mul_assoc, hA.mul_transpose, Matrix.one_mul]⟩

/-- the rotation `Rz(φ) Ry(θ)` that takes ẑ to the direction `(θ, φ)` -/
noncomputable def hframe (φ θ : ℝ) : Matrix (Fin 3) (Fin 3) ℝ := Rz3 φ * Ry3 θ

theorem hframe_isRot (φ θ : ℝ) : IsRot (hframe φ θ) := (Rz3_isRot φ).mul (Ry3_isRot θ)

theorem hframe_ez (φ θ : ℝ) :
    hframe φ θ *ᵥ ez = ![Real.sin θ * Real.cos φ, Real.sin θ * Real.sin φ, Real.cos θ] := by
  ext i
  fin_cases i <;>
    simp [hframe, ez, Rz3, Ry3, Matrix.mulVec, dotProduct, Matrix.mul_apply, Fin.sum_univ_three] <;> ring

/-- Euler rotation `Rz(α) Ry(β) Rz(γ)` -/
noncomputable def euler (α β γ : ℝ) : Matrix (Fin 3) (Fin 3) ℝ := Rz3 α * Ry3 β * Rz3 γ

theorem euler_isRot (α β γ : ℝ) : IsRot (euler α β γ) :=
  ((Rz3_isRot α).mul (Ry3_isRot β)).mul (Rz3_isRot γ)

end Ampverif.Lemmas.C04
