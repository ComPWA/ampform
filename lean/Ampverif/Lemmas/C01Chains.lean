/-
C01: classification of the parameters / free symbols that chains, transitions and registered
amplitude definitions contribute.
-/
import Ampverif.Lemmas.C01Cover

namespace Ampverif.Model.C01

theorem foldl_symOut_append {α} (f : α → SymOut) (xs : List α) (init : SymOut) :
    xs.foldl (fun acc x => acc.append (f x)) init
      = init.append ⟨xs.flatMap (fun x => (f x).params), xs.flatMap (fun x => (f x).free)⟩ := by
  induction xs generalizing init with
  | nil => simp [SymOut.append]
  | cons x xs ih =>
    simp only [List.foldl_cons, List.flatMap_cons]
    rw [ih]
    simp [SymOut.append, List.append_assoc]

theorem kind_params_class (k : Kind) (p : Particle) : ∀ n ∈ k.params p, isParamName n = true := by
  -- each name starts with a literal prefix that `isParamName` recognises
  have h : (k.params p).all isParamName = true := by cases k <;> rfl
  exact fun n hn => List.all_eq_true.1 h n hn

/-- contract of the library's builders (and of the custom builder used by the harness): the
expression only mentions its own parameters and symbols of the node's variable set -/
theorem kind_vars_contract (k : Kind) (vs : VarSet) :
    ∀ s ∈ k.vars vs, s ∈ [vs.inv, vs.m1, vs.m2, vs.phi, vs.theta] := by
  have h : (k.vars vs).Sublist [vs.inv, vs.m1, vs.m2, vs.phi, vs.theta] := by
    cases k <;> simp [Kind.vars]
  exact fun s hs => h.subset hs

theorem nodeOut_params_class (v : Variant) (c : NameCtx) (keys) (ss : List State) (is : List Inter) (ni : NodeInfo) :
    ∀ n ∈ (nodeOut v c keys ss is ni).params, isParamName n = true := by
  intro n hn
  simp only [nodeOut, List.mem_append] at hn
  rcases hn with hn | hn
  · split at hn
    · simp only [List.mem_singleton] at hn; subst hn; simp [couplingName, isParamName]
    · cases hn
  · exact kind_params_class _ _ n hn

theorem nodeOut_free_class (v : Variant) (c : NameCtx) (keys) (ss : List State) (is : List Inter) (ni : NodeInfo) :
    ∀ s ∈ (nodeOut v c keys ss is ni).free, s ∈ (nodeOut v c keys ss is ni).params ∨ s ∈ ni.kinSyms := by
  intro s hs
  simp only [nodeOut, List.mem_append] at hs ⊢
  rcases hs with ((hs | hs) | hs) | hs
  · left; left; exact hs
  · right
    simp only [NodeInfo.kinSyms]
    simp only [List.mem_cons, List.mem_nil_iff, or_false] at hs ⊢
    rcases hs with h | h <;> simp [h]
  · left; right; exact hs
  · right
    have := kind_vars_contract _ _ s hs
    simp only [varSet, NodeInfo.kinSyms, List.mem_cons, List.mem_nil_iff, or_false] at this ⊢
    rcases this with h | h | h | h | h <;> simp [h]

theorem chainOut_params_class (v : Variant) (c : NameCtx) (m keys) (is : List Inter) (ch : Chain) :
    ∀ n ∈ (chainOut v c m keys is ch).params, isParamName n = true := by
  intro n hn
  simp only [chainOut, foldl_symOut_append] at hn
  simp only [SymOut.append, SymOut.empty, List.nil_append, List.mem_append, List.mem_flatMap] at hn
  rcases hn with hn | ⟨ni, _, hn⟩
  · split at hn
    · cases hn
    · simp only [List.mem_singleton] at hn; subst hn; simp [coefficientName, isParamName]
  · exact nodeOut_params_class _ _ _ _ _ _ n hn

theorem chainOut_free_class (v : Variant) (c : NameCtx) (m keys) (is : List Inter) (ch : Chain) :
    ∀ s ∈ (chainOut v c m keys is ch).free,
      s ∈ (chainOut v c m keys is ch).params ∨ ∃ ni ∈ (c.r.tree ch.topo).infos, s ∈ ni.kinSyms := by
  intro s hs
  simp only [chainOut, foldl_symOut_append] at hs ⊢
  simp only [SymOut.append, SymOut.empty, List.nil_append, List.mem_append, List.mem_flatMap] at hs ⊢
  rcases hs with hs | ⟨ni, hni, hs⟩
  · left; left; exact hs
  · rcases nodeOut_free_class _ _ _ _ _ _ s hs with h | h
    · left; right; exact ⟨ni, hni, h⟩
    · right
      exact ⟨ni, (mem_sortBy _ _ _).1 hni, h⟩

/-- every symbol that a value of the dictionary mentions (through `f`) is a free symbol of some chain of
some transition of `outs` -/
def AllFrom {κ ν} (outs : List TOut) (f : ν → List Name) (d : List (κ × ν)) : Prop :=
  ∀ e ∈ d, ∀ s ∈ f e.2, ∃ o ∈ outs, s ∈ o.free

theorem AllFrom.dictSet {κ ν} [DecidableEq κ] {outs : List TOut} {f : ν → List Name} {d : List (κ × ν)}
    (hd : AllFrom outs f d) (k : κ) (v : ν) (hv : ∀ s ∈ f v, ∃ o ∈ outs, s ∈ o.free) :
    AllFrom outs f (dictSet k v d) := by
  intro e he
  rcases dictSet_entries k v d e he with rfl | h
  · exact hv
  · exact hd e h

theorem topoExpressions_entries (r : Reaction) (ts : List TOut) : AllFrom ts id (topoExpressions r ts) := by
  unfold topoExpressions
  refine foldl_inv (AllFrom ts id) _ _ _ nofun fun d o ho hd => ?_
  refine foldl_inv (AllFrom ts id) _ _ _ hd fun d2 co hco hd2 => hd2.dictSet _ _ fun s hs => ?_
  rcases List.mem_append.1 hs with hs | hs
  · cases hg : dictGet? (chainHel r co.1) d2 with
    | none => rw [hg] at hs; cases hs
    | some old => rw [hg] at hs; exact hd2 _ (dictGet?_mem _ _ _ hg) s hs
  · exact ⟨o, ho, List.mem_flatMap.2 ⟨co, hco, hs⟩⟩

/-- every free symbol of a registered amplitude definition is a free symbol of some chain of some transition -/
theorem registeredOf_freeFrom (v : Variant) (r : Reaction) (outs : List TOut) :
    AllFrom outs AmpDef.free (registeredOf v r outs) := by
  unfold registeredOf
  refine foldl_inv (AllFrom outs AmpDef.free) _ _ _ nofun fun acc g hg hacc => ?_
  refine foldl_inv (AllFrom outs AmpDef.free) _ _ _ hacc fun acc2 tg htg hacc2 => ?_
  have hsub : ∀ o ∈ tg.2, o ∈ outs := by
    intro o ho
    obtain ⟨kv, hkv, rfl⟩ := List.mem_map.1 hg
    exact (groupByKey_mem _ outs kv hkv).2 o ((groupByKey_mem _ _ tg htg).2 o ho)
  split
  · exact hacc2
  · split
    · -- one symbol per distinct projection tuple of the chains
      refine foldl_inv (AllFrom outs AmpDef.free) _ _ _ hacc2 fun acc3 e he hacc3 => ?_
      refine hacc3.dictSet _ _ fun s hs => ?_
      obtain ⟨o, ho, hso⟩ := topoExpressions_entries r tg.2 e he s hs
      exact ⟨o, hsub o ho, hso⟩
    · refine hacc2.dictSet _ _ fun s hs => ?_
      obtain ⟨o, ho, hs⟩ := List.mem_flatMap.1 hs
      exact ⟨o, hsub o ho, hs⟩

theorem transOuts_mem (v : Variant) (r : Reaction) (cfg : Config) (o : TOut) (h : o ∈ transOuts v r cfg) :
    ∃ t ∈ r.transitions, o = (t, t.chains.map (fun ch =>
      (ch, chainOut v ⟨r, cfg⟩ (parityMapping ⟨r, cfg⟩) (selectorKeys v r) t.inters ch))) := by
  simp only [transOuts, List.mem_map] at h
  obtain ⟨t, ht, rfl⟩ := h
  exact ⟨t, ht, rfl⟩

theorem chainParams_class (v : Variant) (r : Reaction) (cfg : Config) :
    ∀ n ∈ (transOuts v r cfg).flatMap TOut.params, isParamName n = true := by
  intro n hn
  simp only [List.mem_flatMap] at hn
  obtain ⟨o, ho, hn⟩ := hn
  obtain ⟨t, _, rfl⟩ := transOuts_mem v r cfg o ho
  simp only [TOut.params, List.mem_flatMap, List.mem_map] at hn
  obtain ⟨co, ⟨ch, _, rfl⟩, hn⟩ := hn
  exact chainOut_params_class _ _ _ _ _ _ n hn

theorem tout_free_class (v : Variant) (r : Reaction) (cfg : Config) (o : TOut) (ho : o ∈ transOuts v r cfg) :
    ∀ s ∈ o.free, s ∈ o.params ∨ ∃ ch ∈ o.1.chains, ∃ ni ∈ (r.tree ch.topo).infos, s ∈ ni.kinSyms := by
  obtain ⟨t, _, rfl⟩ := transOuts_mem v r cfg o ho
  intro s hs
  simp only [TOut.free, TOut.params, List.mem_flatMap, List.mem_map] at hs ⊢
  obtain ⟨co, ⟨ch, hch, rfl⟩, hs⟩ := hs
  rcases chainOut_free_class _ _ _ _ _ _ s hs with h | h
  · left; exact ⟨_, ⟨ch, hch, rfl⟩, h⟩
  · right; exact ⟨ch, hch, h⟩

theorem adapterKeys_class (v : Variant) (r : Reaction) (cfg : Config) (hwf : ∀ t ∈ registeredTopos v r cfg, t.wf = true) :
    ∀ k ∈ adapterKeys v r cfg, isKinName k = true := by
  intro k hk
  simp only [adapterKeys, List.mem_flatMap] at hk
  obtain ⟨t, ht, hk⟩ := hk
  exact adapterKeysOf_isKin t (hwf t ht) k hk

end Ampverif.Model.C01
