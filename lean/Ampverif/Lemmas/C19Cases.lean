/-
Case analysis on the generated tables `thetaCos`, `thetaHatCos`, `zetaCos` of `Gen/C19Table.lean`:
a property of every arccos argument in a table follows from the property of each listed entry
(all other index tuples give `none`).
-/
import Ampverif.Gen.C19Table

namespace Ampverif.Lemmas.C19
open Ampverif.Gen.C19

variable {m_0 m_1 m_2 m_3 m_12 m_13 m_23 : ℝ}

theorem thetaCos_cases {motive : Nat → Nat → ℝ → Prop}
    (h12 : motive 1 2 (cosTheta_1_2 m_0 m_1 m_2 m_3 m_12 m_13 m_23))
    (h13 : motive 1 3 (cosTheta_1_3 m_0 m_1 m_2 m_3 m_12 m_13 m_23))
    (h21 : motive 2 1 (cosTheta_2_1 m_0 m_1 m_2 m_3 m_12 m_13 m_23))
    (h23 : motive 2 3 (cosTheta_2_3 m_0 m_1 m_2 m_3 m_12 m_13 m_23))
    (h31 : motive 3 1 (cosTheta_3_1 m_0 m_1 m_2 m_3 m_12 m_13 m_23))
    (h32 : motive 3 2 (cosTheta_3_2 m_0 m_1 m_2 m_3 m_12 m_13 m_23))
    {i j : Nat} {x : ℝ} (h : thetaCos i j m_0 m_1 m_2 m_3 m_12 m_13 m_23 = some x) : motive i j x := by
  unfold thetaCos at h
  split at h
  · exact Option.some.inj h ▸ h12
  · exact Option.some.inj h ▸ h13
  · exact Option.some.inj h ▸ h21
  · exact Option.some.inj h ▸ h23
  · exact Option.some.inj h ▸ h31
  · exact Option.some.inj h ▸ h32
  · cases h

theorem thetaHatCos_cases {motive : Nat → Nat → ℝ → Prop}
    (h12 : motive 1 2 (cosThetaHat_1_2 m_0 m_1 m_2 m_3 m_12 m_13 m_23))
    (h13 : motive 1 3 (cosThetaHat_1_3 m_0 m_1 m_2 m_3 m_12 m_13 m_23))
    (h21 : motive 2 1 (cosThetaHat_2_1 m_0 m_1 m_2 m_3 m_12 m_13 m_23))
    (h23 : motive 2 3 (cosThetaHat_2_3 m_0 m_1 m_2 m_3 m_12 m_13 m_23))
    (h31 : motive 3 1 (cosThetaHat_3_1 m_0 m_1 m_2 m_3 m_12 m_13 m_23))
    (h32 : motive 3 2 (cosThetaHat_3_2 m_0 m_1 m_2 m_3 m_12 m_13 m_23))
    {i j : Nat} {x : ℝ} (h : thetaHatCos i j m_0 m_1 m_2 m_3 m_12 m_13 m_23 = some x) : motive i j x := by
  unfold thetaHatCos at h
  split at h
  · exact Option.some.inj h ▸ h12
  · exact Option.some.inj h ▸ h13
  · exact Option.some.inj h ▸ h21
  · exact Option.some.inj h ▸ h23
  · exact Option.some.inj h ▸ h31
  · exact Option.some.inj h ▸ h32
  · cases h

theorem zetaCos_cases {motive : Nat → Nat → Nat → ℝ → Prop}
    (h012 : motive 0 1 2 (cosZeta_0_1_2 m_0 m_1 m_2 m_3 m_12 m_13 m_23))
    (h013 : motive 0 1 3 (cosZeta_0_1_3 m_0 m_1 m_2 m_3 m_12 m_13 m_23))
    (h021 : motive 0 2 1 (cosZeta_0_2_1 m_0 m_1 m_2 m_3 m_12 m_13 m_23))
    (h023 : motive 0 2 3 (cosZeta_0_2_3 m_0 m_1 m_2 m_3 m_12 m_13 m_23))
    (h031 : motive 0 3 1 (cosZeta_0_3_1 m_0 m_1 m_2 m_3 m_12 m_13 m_23))
    (h032 : motive 0 3 2 (cosZeta_0_3_2 m_0 m_1 m_2 m_3 m_12 m_13 m_23))
    (h112 : motive 1 1 2 (cosZeta_1_1_2 m_0 m_1 m_2 m_3 m_12 m_13 m_23))
    (h113 : motive 1 1 3 (cosZeta_1_1_3 m_0 m_1 m_2 m_3 m_12 m_13 m_23))
    (h120 : motive 1 2 0 (cosZeta_1_2_0 m_0 m_1 m_2 m_3 m_12 m_13 m_23))
    (h121 : motive 1 2 1 (cosZeta_1_2_1 m_0 m_1 m_2 m_3 m_12 m_13 m_23))
    (h123 : motive 1 2 3 (cosZeta_1_2_3 m_0 m_1 m_2 m_3 m_12 m_13 m_23))
    (h130 : motive 1 3 0 (cosZeta_1_3_0 m_0 m_1 m_2 m_3 m_12 m_13 m_23))
    (h131 : motive 1 3 1 (cosZeta_1_3_1 m_0 m_1 m_2 m_3 m_12 m_13 m_23))
    (h132 : motive 1 3 2 (cosZeta_1_3_2 m_0 m_1 m_2 m_3 m_12 m_13 m_23))
    (h210 : motive 2 1 0 (cosZeta_2_1_0 m_0 m_1 m_2 m_3 m_12 m_13 m_23))
    (h212 : motive 2 1 2 (cosZeta_2_1_2 m_0 m_1 m_2 m_3 m_12 m_13 m_23))
    (h213 : motive 2 1 3 (cosZeta_2_1_3 m_0 m_1 m_2 m_3 m_12 m_13 m_23))
    (h221 : motive 2 2 1 (cosZeta_2_2_1 m_0 m_1 m_2 m_3 m_12 m_13 m_23))
    (h223 : motive 2 2 3 (cosZeta_2_2_3 m_0 m_1 m_2 m_3 m_12 m_13 m_23))
    (h230 : motive 2 3 0 (cosZeta_2_3_0 m_0 m_1 m_2 m_3 m_12 m_13 m_23))
    (h231 : motive 2 3 1 (cosZeta_2_3_1 m_0 m_1 m_2 m_3 m_12 m_13 m_23))
    (h232 : motive 2 3 2 (cosZeta_2_3_2 m_0 m_1 m_2 m_3 m_12 m_13 m_23))
    (h310 : motive 3 1 0 (cosZeta_3_1_0 m_0 m_1 m_2 m_3 m_12 m_13 m_23))
    (h312 : motive 3 1 2 (cosZeta_3_1_2 m_0 m_1 m_2 m_3 m_12 m_13 m_23))
    (h313 : motive 3 1 3 (cosZeta_3_1_3 m_0 m_1 m_2 m_3 m_12 m_13 m_23))
    (h320 : motive 3 2 0 (cosZeta_3_2_0 m_0 m_1 m_2 m_3 m_12 m_13 m_23))
    (h321 : motive 3 2 1 (cosZeta_3_2_1 m_0 m_1 m_2 m_3 m_12 m_13 m_23))
    (h323 : motive 3 2 3 (cosZeta_3_2_3 m_0 m_1 m_2 m_3 m_12 m_13 m_23))
    (h331 : motive 3 3 1 (cosZeta_3_3_1 m_0 m_1 m_2 m_3 m_12 m_13 m_23))
    (h332 : motive 3 3 2 (cosZeta_3_3_2 m_0 m_1 m_2 m_3 m_12 m_13 m_23))
    {i j k : Nat} {x : ℝ} (h : zetaCos i j k m_0 m_1 m_2 m_3 m_12 m_13 m_23 = some x) : motive i j k x := by
  unfold zetaCos at h
  split at h
  · exact Option.some.inj h ▸ h012
  · exact Option.some.inj h ▸ h013
  · exact Option.some.inj h ▸ h021
  · exact Option.some.inj h ▸ h023
  · exact Option.some.inj h ▸ h031
  · exact Option.some.inj h ▸ h032
  · exact Option.some.inj h ▸ h112
  · exact Option.some.inj h ▸ h113
  · exact Option.some.inj h ▸ h120
  · exact Option.some.inj h ▸ h121
  · exact Option.some.inj h ▸ h123
  · exact Option.some.inj h ▸ h130
  · exact Option.some.inj h ▸ h131
  · exact Option.some.inj h ▸ h132
  · exact Option.some.inj h ▸ h210
  · exact Option.some.inj h ▸ h212
  · exact Option.some.inj h ▸ h213
  · exact Option.some.inj h ▸ h221
  · exact Option.some.inj h ▸ h223
  · exact Option.some.inj h ▸ h230
  · exact Option.some.inj h ▸ h231
  · exact Option.some.inj h ▸ h232
  · exact Option.some.inj h ▸ h310
  · exact Option.some.inj h ▸ h312
  · exact Option.some.inj h ▸ h313
  · exact Option.some.inj h ▸ h320
  · exact Option.some.inj h ▸ h321
  · exact Option.some.inj h ▸ h323
  · exact Option.some.inj h ▸ h331
  · exact Option.some.inj h ▸ h332
  · cases h

end Ampverif.Lemmas.C19
