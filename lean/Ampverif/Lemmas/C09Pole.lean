/-
The single pole terms of the regenerated K-matrix parametrisations, over variables. Every entry of
a parametrisation is a sum over the poles of terms of one of four shapes (diagonal / off-diagonal,
constant width / energy-dependent width). Each term is the cast of a real number, and for
non-negative mass and width it is the `poleK` summand with residue `γ √(m Γ)`. For two poles and two
channels the summands add up to the `poleK` entries and three entries determine `poleKMatrix`.
-/
import Ampverif.Lemmas.C09Cayley
import Ampverif.Lemmas.C09Real
import Mathlib.LinearAlgebra.Matrix.Notation
import Mathlib.Tactic.Positivity
import Mathlib.Tactic.LinearCombination

namespace Ampverif.Lemmas.C09

variable {s m γ γ' Γ Γ' ff ff' ff0 ff0' ρ ρ' ρR ρR' : ℝ}

theorem isRe_nrDiag :
    IsRe (((m : ℂ) ^ 2 + (-1 : ℂ) * (s : ℂ))⁻¹ * (γ : ℂ) ^ 2 * (m : ℂ) * (Γ : ℂ)) :=
  ⟨(m ^ 2 + -1 * s)⁻¹ * γ ^ 2 * m * Γ, by push_cast; rfl⟩

theorem isRe_nrOff (h : 0 ≤ Γ) (h' : 0 ≤ Γ') :
    IsRe (((m : ℂ) ^ 2 + (-1 : ℂ) * (s : ℂ))⁻¹ * (Γ : ℂ) ^ ((1 : ℂ) / 2)
      * (Γ' : ℂ) ^ ((1 : ℂ) / 2) * (m : ℂ) * (γ : ℂ) * (γ' : ℂ)) := by
  rw [csqrt_ofReal h, csqrt_ofReal h']
  exact ⟨(m ^ 2 + -1 * s)⁻¹ * √Γ * √Γ' * m * γ * γ', by push_cast; rfl⟩

/-- The energy-dependent width `Γ₀ (ff/ff₀)² ρ(s)/ρ(m_R²)`, in the shape the regenerated terms have
it, is the cast of the same real expression. -/
theorem width_eq :
    (ff : ℂ) ^ 2 * ((ff0 : ℂ) ^ 2)⁻¹ * (ρR : ℂ)⁻¹ * (Γ : ℂ) * (ρ : ℂ)
      = ((ff ^ 2 * (ff0 ^ 2)⁻¹ * ρR⁻¹ * Γ * ρ : ℝ) : ℂ) := by
  push_cast; rfl

theorem width_nonneg (h : 0 ≤ Γ) (hρ : 0 < ρ) (hρR : 0 < ρR) :
    0 ≤ ff ^ 2 * (ff0 ^ 2)⁻¹ * ρR⁻¹ * Γ * ρ := by positivity

theorem isRe_relDiag :
    IsRe (((m : ℂ) ^ 2 + (-1 : ℂ) * (s : ℂ))⁻¹ * (γ : ℂ) ^ 2
      * ((ff : ℂ) ^ 2 * ((ff0 : ℂ) ^ 2)⁻¹ * (ρR : ℂ)⁻¹ * (Γ : ℂ) * (ρ : ℂ)) * (m : ℂ)) :=
  ⟨(m ^ 2 + -1 * s)⁻¹ * γ ^ 2 * (ff ^ 2 * (ff0 ^ 2)⁻¹ * ρR⁻¹ * Γ * ρ) * m, by push_cast; rfl⟩

/-- The off-diagonal term needs the guard: the widths under the square roots are non-negative
because the phase-space factors at `s` and at the pole mass are positive. -/
theorem isRe_relOff (h : 0 ≤ Γ) (hρ : 0 < ρ) (hρR : 0 < ρR) (h' : 0 ≤ Γ') (hρ' : 0 < ρ')
    (hρR' : 0 < ρR') :
    IsRe (((m : ℂ) ^ 2 + (-1 : ℂ) * (s : ℂ))⁻¹
      * ((ff : ℂ) ^ 2 * ((ff0 : ℂ) ^ 2)⁻¹ * (ρR : ℂ)⁻¹ * (Γ : ℂ) * (ρ : ℂ)) ^ ((1 : ℂ) / 2)
      * ((ff' : ℂ) ^ 2 * ((ff0' : ℂ) ^ 2)⁻¹ * (ρR' : ℂ)⁻¹ * (Γ' : ℂ) * (ρ' : ℂ)) ^ ((1 : ℂ) / 2)
      * (m : ℂ) * (γ : ℂ) * (γ' : ℂ)) := by
  rw [width_eq, width_eq]
  exact isRe_nrOff (width_nonneg h hρ hρR) (width_nonneg h' hρ' hρR')

theorem nrDiag_eq (hm : 0 ≤ m) (h : 0 ≤ Γ) :
    ((m : ℂ) ^ 2 + (-1 : ℂ) * (s : ℂ))⁻¹ * (γ : ℂ) ^ 2 * (m : ℂ) * (Γ : ℂ)
      = ((γ * √(m * Γ) * (γ * √(m * Γ)) / (m ^ 2 - s) : ℝ) : ℂ) := by
  have q : γ * √(m * Γ) * (γ * √(m * Γ)) = γ ^ 2 * m * Γ := by
    linear_combination γ ^ 2 * Real.mul_self_sqrt (mul_nonneg hm h)
  rw [q]; push_cast; ring

theorem nrOff_eq (hm : 0 ≤ m) (h : 0 ≤ Γ) (h' : 0 ≤ Γ') :
    ((m : ℂ) ^ 2 + (-1 : ℂ) * (s : ℂ))⁻¹ * (Γ : ℂ) ^ ((1 : ℂ) / 2) * (Γ' : ℂ) ^ ((1 : ℂ) / 2)
        * (m : ℂ) * (γ : ℂ) * (γ' : ℂ)
      = ((γ * √(m * Γ) * (γ' * √(m * Γ')) / (m ^ 2 - s) : ℝ) : ℂ) := by
  have q : γ * (√m * √Γ) * (γ' * (√m * √Γ')) = √Γ * √Γ' * m * γ * γ' := by
    linear_combination γ * γ' * √Γ * √Γ' * Real.mul_self_sqrt hm
  rw [csqrt_ofReal h, csqrt_ofReal h', Real.sqrt_mul hm, Real.sqrt_mul hm, q]; push_cast; ring

theorem relDiag_eq (hm : 0 ≤ m) (h : 0 ≤ Γ) (hρ : 0 < ρ) (hρR : 0 < ρR) :
    ((m : ℂ) ^ 2 + (-1 : ℂ) * (s : ℂ))⁻¹ * (γ : ℂ) ^ 2
        * ((ff : ℂ) ^ 2 * ((ff0 : ℂ) ^ 2)⁻¹ * (ρR : ℂ)⁻¹ * (Γ : ℂ) * (ρ : ℂ)) * (m : ℂ)
      = ((γ * √(m * (ff ^ 2 * (ff0 ^ 2)⁻¹ * ρR⁻¹ * Γ * ρ))
          * (γ * √(m * (ff ^ 2 * (ff0 ^ 2)⁻¹ * ρR⁻¹ * Γ * ρ))) / (m ^ 2 - s) : ℝ) : ℂ) := by
  rw [width_eq, ← nrDiag_eq hm (width_nonneg h hρ hρR)]; ring

theorem relOff_eq (hm : 0 ≤ m) (h : 0 ≤ Γ) (hρ : 0 < ρ) (hρR : 0 < ρR) (h' : 0 ≤ Γ')
    (hρ' : 0 < ρ') (hρR' : 0 < ρR') :
    ((m : ℂ) ^ 2 + (-1 : ℂ) * (s : ℂ))⁻¹
        * ((ff : ℂ) ^ 2 * ((ff0 : ℂ) ^ 2)⁻¹ * (ρR : ℂ)⁻¹ * (Γ : ℂ) * (ρ : ℂ)) ^ ((1 : ℂ) / 2)
        * ((ff' : ℂ) ^ 2 * ((ff0' : ℂ) ^ 2)⁻¹ * (ρR' : ℂ)⁻¹ * (Γ' : ℂ) * (ρ' : ℂ)) ^ ((1 : ℂ) / 2)
        * (m : ℂ) * (γ : ℂ) * (γ' : ℂ)
      = ((γ * √(m * (ff ^ 2 * (ff0 ^ 2)⁻¹ * ρR⁻¹ * Γ * ρ))
          * (γ' * √(m * (ff' ^ 2 * (ff0' ^ 2)⁻¹ * ρR'⁻¹ * Γ' * ρ'))) / (m ^ 2 - s) : ℝ) : ℂ) := by
  rw [width_eq, width_eq]
  exact nrOff_eq hm (width_nonneg h hρ hρR) (width_nonneg h' hρ' hρR')

section TwoPoles
variable {n : Type*} {g : Fin 2 → n → ℝ} {M : Fin 2 → ℝ} {i j : n} {t₀ t₁ : ℂ}

/-- Two pole terms that are the two `poleK` summands add up to the `poleK` entry. -/
theorem two_pole_entry (h₀ : t₀ = ((g 0 i * g 0 j / (M 0 ^ 2 - s) : ℝ) : ℂ))
    (h₁ : t₁ = ((g 1 i * g 1 j / (M 1 ^ 2 - s) : ℝ) : ℂ)) :
    t₀ + t₁ = ((poleK Finset.univ g M s i j : ℝ) : ℂ) := by
  rw [h₀, h₁, ← Complex.ofReal_add, poleK, Fin.sum_univ_two]

/-- `poleK` is symmetric, so three entries determine the matrix. -/
theorem eq_poleKMatrix_two_symm {g : Fin 2 → Fin 2 → ℝ} {a b d : ℂ}
    (ha : a = ((poleK Finset.univ g M s 0 0 : ℝ) : ℂ))
    (hb : b = ((poleK Finset.univ g M s 0 1 : ℝ) : ℂ))
    (hd : d = ((poleK Finset.univ g M s 1 1 : ℝ) : ℂ)) :
    !![a, b; b, d] = poleKMatrix Finset.univ g M s := by
  rw [Matrix.eta_fin_two (poleKMatrix Finset.univ g M s), ha, hd]
  simp only [poleKMatrix, Matrix.of_apply, poleK_symm Finset.univ g M s 1 0, hb]

end TwoPoles

end Ampverif.Lemmas.C09
