/-
C02 — when is memoising node factors by `TwoBodyDecay` harmless?  Exactly when equal keys have equal
factors on the graphs at hand (`keyDeterminesFactor`); helper lemmas for `Props/C02.lean`.
-/
import Ampverif.Model.C02Memo

namespace Ampverif.Lemmas.C02Memo
open Ampverif.Model.C03 Ampverif.Model.C02

/-- every cache entry is the factor of some node of some graph of `gs`. -/
def CacheOK (cfg : Config) (sel : List DecayKey) (gs : List Transition) (c : NodeCache) : Prop :=
  ∀ k f, (k, f) ∈ c → ∃ g' ∈ gs, ∃ n' ∈ g'.nodes, k = g'.decayKey n' ∧ f = g'.nodeFactor cfg sel n'

theorem lookup_some {c : NodeCache} {k : DecayKey} {f : NodeFactor} (h : c.lookup k = some f) :
    (k, f) ∈ c := by
  unfold NodeCache.lookup at h
  split at h
  · rename_i p hp
    cases h
    have hk : p.1 = k := by simpa using List.find?_some hp
    exact hk ▸ List.mem_of_find?_eq_some hp
  · cases h

theorem key_factor {cfg : Config} {sel : List DecayKey} {gs : List Transition}
    (h : keyDeterminesFactor cfg sel gs = true) {g g' : Transition} (hg : g ∈ gs) (hg' : g' ∈ gs)
    {n n' : Nat} (hn : n ∈ g.nodes) (hn' : n' ∈ g'.nodes) (hk : g.decayKey n = g'.decayKey n') :
    g.nodeFactor cfg sel n = g'.nodeFactor cfg sel n' := by
  simp only [keyDeterminesFactor, List.all_eq_true, Bool.or_eq_true, Bool.not_eq_true', decide_eq_false_iff_not,
    decide_eq_true_eq] at h
  exact (h g hg n hn g' hg' n' hn').resolve_left (not_not_intro hk)

theorem nodes_memo {cfg : Config} {sel : List DecayKey} {gs : List Transition}
    (h : keyDeterminesFactor cfg sel gs = true) {g : Transition} (hg : g ∈ gs) :
    ∀ (ns : List Nat) (c : NodeCache), (∀ n ∈ ns, n ∈ g.nodes) → CacheOK cfg sel gs c →
      (g.nodeFactorsMemo cfg sel ns c).1 = ns.map (g.nodeFactor cfg sel)
      ∧ CacheOK cfg sel gs (g.nodeFactorsMemo cfg sel ns c).2 := by
  intro ns
  induction ns with
  | nil => intro c _ hc; exact ⟨rfl, hc⟩
  | cons n ns ih =>
    intro c hsub hc
    have hn : n ∈ g.nodes := hsub n (List.mem_cons_self ..)
    have hsub' : ∀ x ∈ ns, x ∈ g.nodes := fun x hx => hsub x (List.mem_cons_of_mem _ hx)
    unfold Transition.nodeFactorsMemo
    split
    · rename_i f hf
      obtain ⟨g', hg', n', hn', hk, hfe⟩ := hc _ _ (lookup_some hf)
      have := key_factor h hg hg' hn hn' hk
      obtain ⟨ih1, ih2⟩ := ih c hsub' hc
      refine ⟨?_, ih2⟩
      simp only [List.map_cons, ih1, this, hfe]
    · have hc' : CacheOK cfg sel gs (c ++ [(g.decayKey n, g.nodeFactor cfg sel n)]) := by
        intro k f hm
        rcases List.mem_append.mp hm with hm | hm
        · exact hc k f hm
        · simp only [List.mem_singleton, Prod.mk.injEq] at hm
          exact ⟨g, hg, n, hn, hm.1, hm.2⟩
      obtain ⟨ih1, ih2⟩ := ih _ hsub' hc'
      refine ⟨?_, ih2⟩
      simp only [List.map_cons, ih1]

theorem terms_memo {v : Variant} {cfg : Config} {m : Mapping} {sel : List DecayKey} {gs : List Transition}
    (h : keyDeterminesFactor cfg sel gs = true) :
    ∀ (gs' : List Transition) (c : NodeCache), (∀ g ∈ gs', g ∈ gs) → CacheOK cfg sel gs c →
      termsMemo v cfg m sel gs' c = termsOwn v cfg m sel gs' := by
  intro gs'
  induction gs' with
  | nil => intro c _ _; rfl
  | cons g rest ih =>
    intro c hsub hc
    have hg : g ∈ gs := hsub g (List.mem_cons_self ..)
    obtain ⟨h1, h2⟩ := nodes_memo h hg g.nodes c (fun _ hn => hn) hc
    have ih' := ih (g.nodeFactorsMemo cfg sel g.nodes c).2 (fun x hx => hsub x (List.mem_cons_of_mem _ hx)) h2
    unfold termsMemo termsOwn
    simp only [List.map_cons]
    rw [ih', h1]
    rfl

end Ampverif.Lemmas.C02Memo
