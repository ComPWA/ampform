/-
Helper lemmas for C11: continuity of ρ̂ and the bound `‖ρ_eq(s)‖ ≤ 2ρ̂(s)` near threshold.
-/
import Ampverif.Lemmas.C11Equal
import Mathlib.Topology.Algebra.Order.Field
import Mathlib.Analysis.SpecialFunctions.Sqrt
import Mathlib.Tactic.FunProp

namespace Ampverif.Lemmas.C11
open Ampverif.Gen.C11 Filter Topology

theorem rhoAbs_continuousAt (m s0 : ℝ) (hs0 : s0 ≠ 0) :
    ContinuousAt (fun s => PhaseSpaceFactorAbs s m m) s0 := by
  unfold PhaseSpaceFactorAbs BreakupMomentumSquared
  have h1 : Real.sqrt |s0| ≠ 0 := by
    rw [Real.sqrt_ne_zero']; exact abs_pos.mpr hs0
  fun_prop (disch := assumption)

/-- `‖ρ_eq(s)‖ ≤ 2 ρ̂(s)` as soon as `s > 0` and `ρ̂(s) ≤ 1/2`: the logarithm is at most
`(1+ρ̂)/(1-ρ̂) - 1 ≤ 2`, the arctangent at most `π/2`, and `1/π ≤ 1/2`. -/
theorem rho_eq_norm_le (s m1 m2 : ℝ) (hs : 0 < s) (hρ : PhaseSpaceFactorAbs s m1 m2 ≤ 1 / 2) :
    ‖EqualMassPhaseSpaceFactor s m1 m2‖ ≤ 2 * PhaseSpaceFactorAbs s m1 m2 := by
  have h0 := rhoAbs_nonneg s m1 m2
  have hpi : 0 < Real.pi⁻¹ := inv_pos.mpr Real.pi_pos
  rcases lt_or_ge ((m1 + m2) ^ 2) s with hthr | hthr
  · rw [eqMass_of_above hthr]
    set ρ := PhaseSpaceFactorAbs s m1 m2
    have hpiinv : Real.pi⁻¹ ≤ 1 / 2 := by
      rw [one_div]; exact inv_anti₀ two_pos Real.two_le_pi
    have hL : |Real.log (|(-1 + ρ)⁻¹ * (1 + ρ)|)| ≤ 2 := by
      rw [abs_ratio_of_lt_one h0 (by linarith)]
      have hden : 0 < 1 - ρ := by linarith
      have hx1 : 1 ≤ (1 + ρ) / (1 - ρ) := (one_le_div hden).mpr (by linarith)
      have hx3 : (1 + ρ) / (1 - ρ) ≤ 3 := (div_le_iff₀ hden).mpr (by linarith)
      rw [abs_of_nonneg (Real.log_nonneg hx1)]
      linarith [Real.log_le_sub_one_of_pos (lt_of_lt_of_le one_pos hx1)]
    refine (norm_add_le _ _).trans ?_
    simp only [norm_mul, Complex.norm_I, Complex.norm_real, Real.norm_eq_abs, one_mul,
      abs_of_nonneg h0, abs_of_pos hpi]
    have := mul_le_mul (mul_le_mul_of_nonneg_right hpiinv h0) hL (abs_nonneg _)
      (mul_nonneg (by norm_num) h0)
    linarith
  · rw [eqMass_of_le hs.le hthr]
    set ρ := PhaseSpaceFactorAbs s m1 m2
    have hA : |Real.arctan ρ⁻¹| ≤ Real.pi / 2 :=
      abs_le.mpr ⟨(Real.neg_pi_div_two_lt_arctan _).le, (Real.arctan_lt_pi_div_two _).le⟩
    simp only [norm_mul, Complex.norm_I, Complex.norm_real, Real.norm_eq_abs, mul_one,
      abs_of_nonneg h0, abs_of_pos hpi, abs_two]
    calc 2 * Real.pi⁻¹ * ρ * |Real.arctan ρ⁻¹|
        ≤ 2 * Real.pi⁻¹ * ρ * (Real.pi / 2) := mul_le_mul_of_nonneg_left hA (by positivity)
      _ = ρ := by field_simp
      _ ≤ 2 * ρ := by linarith

end Ampverif.Lemmas.C11
