/-
C04, layer (K): the REGENERATED `Phi`/`Theta` (`Gen.C04.PhiOf`, `Gen.C04.ThetaOf`) are
the polar angles of the vector: `hframe (phiOf v) (thetaOf v)` maps ẑ to `v/|v|`.
-/
import Ampverif.Lemmas.C04Frame
import Ampverif.Lemmas.C07Polar

namespace Ampverif.Lemmas.C04
open Matrix Ampverif.Gen.C04

/-- euclidean norm of a 3-vector (the expression `three_momentum_norm` unfolds to) -/
noncomputable def nrm (v : Fin 3 → ℝ) : ℝ := Real.sqrt (v 0 ^ 2 + v 1 ^ 2 + v 2 ^ 2)

noncomputable def phiOf (v : Fin 3 → ℝ) : ℝ := PhiOf (v 0) (v 1)
noncomputable def thetaOf (v : Fin 3 → ℝ) : ℝ := ThetaOf (v 0) (v 1) (v 2)

theorem nrm_sq (v : Fin 3 → ℝ) : nrm v ^ 2 = v 0 ^ 2 + v 1 ^ 2 + v 2 ^ 2 :=
  Real.sq_sqrt (by positivity)

theorem thetaOf_eq (v : Fin 3 → ℝ) : thetaOf v = Real.arccos ((nrm v)⁻¹ * v 2) := rfl

theorem cos_thetaOf (v : Fin 3 → ℝ) (h : 0 < nrm v) : Real.cos (thetaOf v) = v 2 / nrm v := by
  rw [thetaOf_eq, eq_div_iff h.ne', mul_comm]
  exact (C07.polar_of_norm h (nrm_sq v)).1

theorem sin_thetaOf (v : Fin 3 → ℝ) (h : 0 < nrm v) :
    Real.sin (thetaOf v) = Real.sqrt (v 0 ^ 2 + v 1 ^ 2) / nrm v := by
  rw [thetaOf_eq, eq_div_iff h.ne', mul_comm]
  exact (C07.polar_of_norm h (nrm_sq v)).2

theorem rho_eq (x y : ℝ) : ‖(⟨x, y⟩ : ℂ)‖ = Real.sqrt (x ^ 2 + y ^ 2) := by
  rw [Complex.norm_def, Complex.normSq_mk]; congr 1; ring

/-! The regenerated `PhiOf x y` is `atan2 y x`: `(x, y) = ρ (cos φ, sin φ)` with `ρ = √(x² + y²)`. -/

theorem rho_mul_cos_PhiOf (x y : ℝ) : Real.sqrt (x ^ 2 + y ^ 2) * Real.cos (PhiOf x y) = x :=
  (C07.azimuth x y).1

theorem rho_mul_sin_PhiOf (x y : ℝ) : Real.sqrt (x ^ 2 + y ^ 2) * Real.sin (PhiOf x y) = y :=
  (C07.azimuth x y).2

/-- `Rz(atan2(r sin δ, r cos δ)) = Rz(δ)` for `r > 0` -/
theorem Rz3_PhiOf_polar (r δ : ℝ) (hr : 0 < r) :
    Rz3 (PhiOf (r * Real.cos δ) (r * Real.sin δ)) = Rz3 δ := by
  have hρ : Real.sqrt ((r * Real.cos δ) ^ 2 + (r * Real.sin δ) ^ 2) = r := by
    rw [show (r * Real.cos δ) ^ 2 + (r * Real.sin δ) ^ 2 = r ^ 2 by
      linear_combination r ^ 2 * Real.cos_sq_add_sin_sq δ, Real.sqrt_sq hr.le]
  have hc := rho_mul_cos_PhiOf (r * Real.cos δ) (r * Real.sin δ)
  have hs := rho_mul_sin_PhiOf (r * Real.cos δ) (r * Real.sin δ)
  rw [hρ] at hc hs
  exact Rz3_congr (mul_left_cancel₀ hr.ne' hc) (mul_left_cancel₀ hr.ne' hs)

/-- turning `(x, y)` by δ shifts the azimuth by δ (on the rotation matrices, i.e. modulo 2π) -/
theorem Rz3_PhiOf_rot (x y δ : ℝ) (h : 0 < x ^ 2 + y ^ 2) :
    Rz3 (PhiOf (Real.cos δ * x - Real.sin δ * y) (Real.sin δ * x + Real.cos δ * y))
      = Rz3 (PhiOf x y + δ) := by
  have hρ := Real.sqrt_pos.mpr h
  have hx := rho_mul_cos_PhiOf x y
  have hy := rho_mul_sin_PhiOf x y
  generalize PhiOf x y = φ at hx hy ⊢
  generalize Real.sqrt (x ^ 2 + y ^ 2) = ρ at hρ hx hy
  subst hx hy
  rw [← Rz3_PhiOf_polar ρ (φ + δ) hρ, Real.cos_add, Real.sin_add]
  congr 2 <;> ring

/-- `h(v) := Rz(Phi v) · Ry(Theta v)` maps ẑ to `v/|v|` (every non-zero `v`). -/
theorem hframe_angles (v : Fin 3 → ℝ) (h : 0 < nrm v) :
    hframe (phiOf v) (thetaOf v) *ᵥ ez = (nrm v)⁻¹ • v := by
  rw [hframe_ez, sin_thetaOf v h, div_mul_eq_mul_div, div_mul_eq_mul_div, phiOf, rho_mul_cos_PhiOf,
    rho_mul_sin_PhiOf, cos_thetaOf v h]
  ext i
  fin_cases i <;> simp [div_eq_inv_mul]

/-- the inverse helicity rotation `h(v)ᵀ = Ry(−θ) Rz(−φ)` (the order used by
`compute_helicity_angles`) takes `v` to `|v|·ẑ`. -/
theorem hframe_transpose_apply (v : Fin 3 → ℝ) (h : 0 < nrm v) :
    (hframe (phiOf v) (thetaOf v))ᵀ *ᵥ v = nrm v • ez := by
  have hrot := (hframe_isRot (phiOf v) (thetaOf v)).1
  have hv : v = nrm v • (hframe (phiOf v) (thetaOf v) *ᵥ ez) := by
    rw [hframe_angles v h, smul_smul, mul_inv_cancel₀ h.ne', one_smul]
  generalize hframe (phiOf v) (thetaOf v) = H at hv hrot ⊢
  calc Hᵀ *ᵥ v = Hᵀ *ᵥ (nrm v • (H *ᵥ ez)) := by rw [← hv]
    _ = nrm v • ez := by rw [Matrix.mulVec_smul, Matrix.mulVec_mulVec, hrot, Matrix.one_mulVec]

end Ampverif.Lemmas.C04
