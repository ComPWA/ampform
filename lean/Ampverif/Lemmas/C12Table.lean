/-
C12 — generic theorems about a table of normalised Blatt–Weisskopf factors.

An entry `(L, c, [a₀, …, a_L])` denotes `B(z) = c·z^L / (a₀ + a₁ z + … + a_L z^L)`. The table
itself is REGENERATED from `ampform.dynamics.form_factor` (`Gen/C12.lean`: `bwTable`); here are
the table-independent theorems: every well-formed entry is 1 at `z = 1`, is `z^L·(c/P(z))` with
`P(0) > 0`, and stays in `[0, c]` for `z ≥ 0`. Well-formedness is a decidable check.
-/
import Mathlib.Data.Real.Basic
import Mathlib.Data.Rat.Cast.Order
import Mathlib.Algebra.Order.Field.Basic
import Mathlib.Tactic.Ring
import Mathlib.Tactic.Linarith
import Mathlib.Tactic.Positivity
import Mathlib.Tactic.FieldSimp
import Mathlib.Tactic.NormNum

namespace Ampverif.Lemmas.C12

structure BWEntry where
  L : ℕ
  c : ℚ
  den : List ℚ

/-- Horner evaluation of ascending coefficients. -/
noncomputable def polyEval : List ℚ → ℝ → ℝ
  | [], _ => 0
  | a :: as, z => (a : ℝ) + z * polyEval as z

noncomputable def BWEntry.eval (e : BWEntry) (z : ℝ) : ℝ :=
  (e.c : ℝ) * z ^ e.L / polyEval e.den z

/-- Decidable well-formedness: positive constant, `L+1` non-negative coefficients, positive
constant term, monic, and normalised (`Σ aₖ = c`, i.e. `B(1) = 1`). -/
def BWEntry.wf (e : BWEntry) : Bool :=
  decide (0 < e.c) && decide (e.den.length = e.L + 1) && e.den.all (fun a => decide (0 ≤ a))
    && decide (0 < e.den.headD 0) && decide (e.den.getLastD 0 = 1) && decide (e.den.sum = e.c)

structure BWEntry.WF (e : BWEntry) : Prop where
  c_pos : 0 < e.c
  len : e.den.length = e.L + 1
  nonneg : ∀ a ∈ e.den, 0 ≤ a
  head_pos : 0 < e.den.headD 0
  monic : e.den.getLastD 0 = 1
  norm : e.den.sum = e.c

theorem BWEntry.wf_iff (e : BWEntry) : e.wf = true ↔ e.WF := by
  unfold BWEntry.wf
  simp only [Bool.and_eq_true, decide_eq_true_eq, List.all_eq_true]
  constructor
  · rintro ⟨⟨⟨⟨⟨h1, h2⟩, h3⟩, h4⟩, h5⟩, h6⟩
    exact ⟨h1, h2, h3, h4, h5, h6⟩
  · rintro ⟨h1, h2, h3, h4, h5, h6⟩
    exact ⟨⟨⟨⟨⟨h1, h2⟩, h3⟩, h4⟩, h5⟩, h6⟩

theorem polyEval_one (l : List ℚ) : polyEval l 1 = ((l.sum : ℚ) : ℝ) := by
  induction l with
  | nil => simp [polyEval]
  | cons a as ih => simp [polyEval, ih]

theorem polyEval_zero (l : List ℚ) : polyEval l 0 = ((l.headD 0 : ℚ) : ℝ) := by
  cases l <;> simp [polyEval]

theorem polyEval_nonneg (l : List ℚ) (h : ∀ a ∈ l, 0 ≤ a) {z : ℝ} (hz : 0 ≤ z) :
    0 ≤ polyEval l z := by
  induction l with
  | nil => simp [polyEval]
  | cons a as ih =>
    have ha : (0 : ℝ) ≤ (a : ℝ) := by exact_mod_cast h a (by simp)
    have := ih (fun b hb => h b (by simp [hb]))
    simp only [polyEval]
    positivity

theorem polyEval_ge_head (l : List ℚ) (h : ∀ a ∈ l, 0 ≤ a) {z : ℝ} (hz : 0 ≤ z) :
    ((l.headD 0 : ℚ) : ℝ) ≤ polyEval l z := by
  cases l with
  | nil => simp [polyEval]
  | cons a as =>
    have := polyEval_nonneg as (fun b hb => h b (by simp [hb])) hz
    simp only [polyEval, List.headD_cons]
    nlinarith

theorem polyEval_ge_lead (l : List ℚ) (h : ∀ a ∈ l, 0 ≤ a) {z : ℝ} (hz : 0 ≤ z) :
    ((l.getLastD 0 : ℚ) : ℝ) * z ^ (l.length - 1) ≤ polyEval l z := by
  induction l with
  | nil => simp [polyEval]
  | cons a as ih =>
    have ha : (0 : ℝ) ≤ (a : ℝ) := by exact_mod_cast h a (by simp)
    have has : ∀ b ∈ as, 0 ≤ b := fun b hb => h b (by simp [hb])
    cases as with
    | nil => simp [polyEval]
    | cons b bs =>
      have ih' := ih has
      simp only [List.length_cons, Nat.add_sub_cancel] at ih' ⊢
      have hl : (a :: b :: bs).getLastD 0 = (b :: bs).getLastD 0 := by simp [List.getLastD]
      rw [hl]
      have : polyEval (a :: b :: bs) z = (a : ℝ) + z * polyEval (b :: bs) z := rfl
      rw [this, pow_succ]
      nlinarith [mul_le_mul_of_nonneg_left ih' hz]

namespace BWEntry
variable {e : BWEntry}

theorem den_pos (h : e.WF) {z : ℝ} (hz : 0 ≤ z) : 0 < polyEval e.den z := by
  have h0 : (0 : ℝ) < ((e.den.headD 0 : ℚ) : ℝ) := by exact_mod_cast h.head_pos
  exact lt_of_lt_of_le h0 (polyEval_ge_head _ h.nonneg hz)

theorem den_zero_pos (h : e.WF) : 0 < polyEval e.den 0 := den_pos h le_rfl

theorem eval_one (h : e.WF) : e.eval 1 = 1 := by
  have hc : (0 : ℝ) < (e.c : ℝ) := by exact_mod_cast h.c_pos
  unfold BWEntry.eval
  rw [polyEval_one, h.norm, one_pow, mul_one]
  exact div_self hc.ne'

/-- Threshold behaviour: `B(z) = z^L · (c / P(z))` with `c > 0`, `P(0) > 0`. -/
theorem eval_threshold (e : BWEntry) (z : ℝ) : e.eval z = z ^ e.L * ((e.c : ℝ) / polyEval e.den z) := by
  unfold BWEntry.eval; ring

theorem eval_nonneg (h : e.WF) {z : ℝ} (hz : 0 ≤ z) : 0 ≤ e.eval z := by
  have hc : (0 : ℝ) < (e.c : ℝ) := by exact_mod_cast h.c_pos
  have := den_pos h hz
  unfold BWEntry.eval
  positivity

/-- Boundedness: `B(z) ≤ c` for `z ≥ 0` (the denominator is monic with non-negative coefficients). -/
theorem eval_le (h : e.WF) {z : ℝ} (hz : 0 ≤ z) : e.eval z ≤ (e.c : ℝ) := by
  have hc : (0 : ℝ) < (e.c : ℝ) := by exact_mod_cast h.c_pos
  have hd := den_pos h hz
  have hl := polyEval_ge_lead e.den h.nonneg hz
  rw [h.monic, h.len] at hl
  simp only [Nat.add_sub_cancel, Rat.cast_one, one_mul] at hl
  unfold BWEntry.eval
  rw [div_le_iff₀ hd]
  exact mul_le_mul_of_nonneg_left hl hc.le

end BWEntry

end Ampverif.Lemmas.C12
