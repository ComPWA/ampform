/-
C02 — generic list lemmas: first-appearance de-duplication, grouping, sums over a partition,
first-match lookup over pairwise distinct keys.
-/
import Ampverif.Model.C02Skeleton
import Mathlib.Algebra.BigOperators.Group.List.Basic
import Mathlib.Algebra.Ring.Basic
import Mathlib.Data.List.Nodup

namespace Ampverif.Lemmas.C02Lists
open Ampverif.Model.C02

variable {α κ : Type} [DecidableEq κ]

theorem mem_dedupFirst : ∀ (l : List κ) (x : κ), x ∈ dedupFirst l ↔ x ∈ l
  | [], _ => Iff.rfl
  | y :: ys, x => by
    rw [dedupFirst, List.mem_cons, List.mem_cons, List.mem_filter, mem_dedupFirst ys x]
    by_cases hxy : x = y <;> simp [hxy]

theorem nodup_dedupFirst : ∀ (l : List κ), (dedupFirst l).Nodup
  | [] => List.nodup_nil
  | y :: ys => by
    rw [dedupFirst, List.nodup_cons, List.mem_filter]
    exact ⟨fun h => of_decide_eq_true h.2 rfl, (nodup_dedupFirst ys).filter _⟩

/-- `(ks.filterMap fun k => all.find? (key · == k))` picks one element per key, in the order of `ks`. -/
theorem map_filterMap_find? {κ : Type} [BEq κ] [LawfulBEq κ] (key : α → κ) (all : List α) :
    ∀ ks : List κ, (∀ k ∈ ks, k ∈ all.map key) →
      (ks.filterMap fun k => all.find? (key · == k)).map key = ks
  | [], _ => rfl
  | k :: ks, h => by
    obtain ⟨x, hx, hxk⟩ := List.mem_map.mp (h k List.mem_cons_self)
    have hsome : (all.find? (key · == k)).isSome :=
      List.find?_isSome.mpr ⟨x, hx, beq_iff_eq.mpr hxk⟩
    obtain ⟨g, hg⟩ := Option.isSome_iff_exists.mp hsome
    have hgk := List.find?_some (p := (key · == k)) hg
    rw [List.filterMap_cons, hg, List.map_cons, eq_of_beq hgk,
      map_filterMap_find? key all ks fun k' hk' => h k' (List.mem_cons_of_mem _ hk')]

section sums
variable {R : Type} [CommRing R]

theorem sum_ite_eq {ks : List κ} (hks : ks.Nodup) (a : κ) (c : R) :
    (ks.map fun k => if a = k then c else 0).sum = if a ∈ ks then c else 0 := by
  rw [List.sum_map_eq_nsmul_single a _ fun k hk _ => if_neg (Ne.symm hk), if_pos rfl]
  split
  · rw [List.count_eq_one_of_mem hks ‹_›, one_nsmul]
  · rw [List.count_eq_zero_of_not_mem ‹_›, zero_nsmul]

/-- the same with the summand depending on the key, where the value at an absent key is `0`. -/
theorem sum_ite_eq_apply {ks : List κ} (hks : ks.Nodup) (a : κ) (F : κ → R) (h0 : a ∉ ks → F a = 0) :
    (ks.map fun k => if k = a then F k else 0).sum = F a := by
  have hentry : ∀ k, (if k = a then F k else 0) = if a = k then F a else 0 := by
    intro k
    by_cases e : a = k
    · rw [e]
    · rw [if_neg e, if_neg (Ne.symm e)]
  rw [List.map_congr_left fun k _ => hentry k, sum_ite_eq hks]
  split
  · rfl
  · exact (h0 ‹_›).symm

theorem sum_flatMap {β : Type} (f : α → List β) (g : β → R) :
    ∀ l : List α, ((l.flatMap f).map g).sum = (l.map fun x => ((f x).map g).sum).sum
  | [] => rfl
  | x :: xs => by
    simp [List.flatMap_cons, sum_flatMap f g xs]

/-- sums over the classes of a key add up to the sum over the list. -/
theorem sum_partition (key : α → κ) (f : α → R) {ks : List κ} (hks : ks.Nodup) :
    ∀ (l : List α), (∀ x ∈ l, key x ∈ ks) →
      (ks.map fun k => ((l.filter fun x => key x = k).map f).sum).sum = (l.map f).sum
  | [], _ => by simp
  | x :: xs, h => by
    have step : ∀ k, (((x :: xs).filter fun y => key y = k).map f).sum
        = (if key x = k then f x else 0) + ((xs.filter fun y => key y = k).map f).sum := by
      intro k
      by_cases hk : key x = k <;> simp [hk]
    simp only [step]
    rw [List.sum_map_add, sum_partition key f hks xs fun y hy => h y (List.mem_cons_of_mem _ hy),
      sum_ite_eq hks, if_pos (h x List.mem_cons_self), List.map_cons, List.sum_cons]

theorem sum_groupByFirst (key : α → κ) (f : α → R) (l : List α) :
    ((groupByFirst key l).map fun c => (c.map f).sum).sum = (l.map f).sum := by
  rw [groupByFirst, List.map_map]
  exact sum_partition key f (nodup_dedupFirst _) l
    fun x hx => (mem_dedupFirst _ _).mpr (List.mem_map_of_mem hx)

/-- Looking up every query of a duplicate-free list by first match, in a list with pairwise distinct
keys, reads each entry whose key is queried exactly once. -/
theorem sum_find? (key : α → κ) (F : Option α → R) (hF : F none = 0) {qs : List κ} (hqs : qs.Nodup) :
    ∀ w : List α, (w.map key).Nodup →
      (qs.map fun q => F (w.find? fun x => key x = q)).sum
        = (w.map fun x => if key x ∈ qs then F (some x) else 0).sum
  | [], _ => List.sum_eq_zero fun r hr => by
    obtain ⟨_, _, rfl⟩ := List.mem_map.mp hr
    exact hF
  | x :: w, hw => by
    rw [List.map_cons, List.nodup_cons] at hw
    have step : ∀ q, F ((x :: w).find? fun y => key y = q)
        = (if key x = q then F (some x) else 0) + F (w.find? fun y => key y = q) := by
      intro q
      rw [List.find?_cons]
      by_cases e : key x = q
      · -- no later entry has the key of `x`
        have hnone : w.find? (fun y => key y = q) = none :=
          List.find?_eq_none.mpr fun y hy hyq =>
            hw.1 (e ▸ of_decide_eq_true hyq ▸ List.mem_map_of_mem hy)
        simp [e, hnone, hF]
      · simp [e]
    rw [List.map_congr_left fun q _ => step q, List.sum_map_add, sum_find? key F hF hqs w hw.2,
      sum_ite_eq hqs, List.map_cons, List.sum_cons]

end sums

theorem mem_groupByFirst {key : α → κ} {l c : List α} :
    c ∈ groupByFirst key l ↔ ∃ k ∈ l.map key, (l.filter fun x => key x = k) = c := by
  rw [groupByFirst, List.mem_map]
  simp only [mem_dedupFirst]

theorem exists_cell_of_mem (key : α → κ) {l : List α} {x : α} (hx : x ∈ l) :
    ∃ c ∈ groupByFirst key l, x ∈ c :=
  ⟨_, mem_groupByFirst.mpr ⟨key x, List.mem_map_of_mem hx, rfl⟩,
    List.mem_filter.mpr ⟨hx, decide_eq_true rfl⟩⟩

theorem mem_of_mem_cell {key : α → κ} {l c : List α} (hc : c ∈ groupByFirst key l) {x : α}
    (hx : x ∈ c) : x ∈ l := by
  obtain ⟨k, _, rfl⟩ := mem_groupByFirst.mp hc
  exact (List.mem_filter.mp hx).1

theorem key_eq_of_mem_cell {key : α → κ} {l c : List α} (hc : c ∈ groupByFirst key l) {x y : α}
    (hx : x ∈ c) (hy : y ∈ c) : key x = key y := by
  obtain ⟨k, _, rfl⟩ := mem_groupByFirst.mp hc
  exact (of_decide_eq_true (List.mem_filter.mp hx).2).trans
    (of_decide_eq_true (List.mem_filter.mp hy).2).symm

theorem headD_mem_cell [Inhabited α] {key : α → κ} {l c : List α} (hc : c ∈ groupByFirst key l) :
    c.headD default ∈ c := by
  obtain ⟨k, hk, rfl⟩ := mem_groupByFirst.mp hc
  obtain ⟨x, hx, rfl⟩ := List.mem_map.mp hk
  have hne : (l.filter fun y => key y = key x) ≠ [] :=
    List.ne_nil_of_mem (List.mem_filter.mpr ⟨hx, decide_eq_true rfl⟩)
  rw [List.headD_eq_head?_getD, List.head?_eq_some_head hne]
  exact List.head_mem hne

theorem groupByFirst_pairwise (key : α → κ) (l : List α) :
    (groupByFirst key l).Pairwise fun c c' => ∀ x ∈ c, ∀ y ∈ c', key x ≠ key y := by
  rw [groupByFirst, List.pairwise_map]
  refine (nodup_dedupFirst (l.map key)).imp fun {k k'} hne x hx y hy e => hne ?_
  rw [← of_decide_eq_true (List.mem_filter.mp hx).2, ← of_decide_eq_true (List.mem_filter.mp hy).2, e]

end Ampverif.Lemmas.C02Lists
