/-
One pole's contribution to an entry of the regenerated P-vector parametrisation, over variables:
it is the cast of `β⁰ g / (m² − s)` with `β⁰ = β √(m Γ)` and the residue function `g = γ √(m Γ)` of
the K-matrix (`Lemmas/C09Pole.lean` has the K-matrix terms).
-/
import Ampverif.Lemmas.C09Pole

namespace Ampverif.Lemmas.C10
open Ampverif.Lemmas.C09

theorem pvector_term_eq {s m Γ β γ : ℝ} (hm : 0 ≤ m) (h : 0 ≤ Γ) :
    ((m : ℂ) ^ 2 + (-1 : ℂ) * (s : ℂ))⁻¹ * (β : ℂ) * (m : ℂ) * (Γ : ℂ) * (γ : ℂ)
      = (((β * Real.sqrt (m * Γ)) * (γ * Real.sqrt (m * Γ)) / (m ^ 2 - s) : ℝ) : ℂ) := by
  have q : (β * Real.sqrt (m * Γ)) * (γ * Real.sqrt (m * Γ)) = β * γ * (m * Γ) := by
    rw [mul_mul_mul_comm, Real.mul_self_sqrt (mul_nonneg hm h)]
  rw [q]
  push_cast
  ring

theorem two_term_sum {f : Fin 2 → ℝ} {t₀ t₁ : ℂ} (h₀ : t₀ = ((f 0 : ℝ) : ℂ)) (h₁ : t₁ = ((f 1 : ℝ) : ℂ)) :
    t₀ + t₁ = ((∑ R, f R : ℝ) : ℂ) := by
  rw [h₀, h₁, ← Complex.ofReal_add, Fin.sum_univ_two]

end Ampverif.Lemmas.C10
