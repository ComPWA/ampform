/-
Histories of calls on a state machine whose state (a cache, an object's attributes) is meant to be
invisible: if every state reachable from the start satisfies an invariant under which one step on an
argument of the history returns what a function `f` of the argument alone returns, then the whole
history returns `hist.map f`.

The machine's `run` is not fixed here: any function satisfying the two equations of a left-to-right
fold of `step` will do (for a `run` defined by structural recursion both hold by `rfl`).
-/

namespace Ampverif.Lemmas.MemoRun

variable {σ α β : Type} (step : σ → α → β × σ) (run : σ → List α → List β × σ)
  (hnil : ∀ c, run c [] = ([], c))
  (hcons : ∀ c a rest,
    run c (a :: rest) = ((step c a).1 :: (run (step c a).2 rest).1, (run (step c a).2 rest).2))
  (Inv : σ → Prop) (f : α → β)

include hnil hcons

theorem run_eq_map (hist : List α)
    (hstep : ∀ c, Inv c → ∀ a ∈ hist, (step c a).1 = f a ∧ Inv (step c a).2) (c : σ) (hc : Inv c) :
    (run c hist).1 = hist.map f ∧ Inv (run c hist).2 := by
  induction hist generalizing c with
  | nil => rw [hnil]; exact ⟨rfl, hc⟩
  | cons a rest ih =>
    obtain ⟨ho, hs⟩ := hstep c hc a List.mem_cons_self
    obtain ⟨hos, hss⟩ := ih (fun c hc b hb => hstep c hc b (List.mem_cons_of_mem _ hb)) _ hs
    rw [hcons, List.map_cons, ho, hos]
    exact ⟨rfl, hss⟩

omit hnil hcons

/-- A first-match search through a list of cache entries returns a field of an entry that is in the
list and matches. -/
theorem lookup_mem {ε φ : Type} (look : List ε → Option φ) (p : ε → Prop) [DecidablePred p]
    (stored : ε → φ) (hnil : look [] = none)
    (hcons : ∀ e rest, look (e :: rest) = if p e then some (stored e) else look rest)
    (c : List ε) (g : φ) (h : look c = some g) : ∃ e ∈ c, p e ∧ stored e = g := by
  induction c with
  | nil => rw [hnil] at h; cases h
  | cons e rest ih =>
    rw [hcons] at h
    split at h
    · next hp => exact ⟨e, List.mem_cons_self, hp, Option.some.inj h⟩
    · obtain ⟨e', he', hpe'⟩ := ih h
      exact ⟨e', List.mem_cons_of_mem _ he', hpe'⟩

end Ampverif.Lemmas.MemoRun
