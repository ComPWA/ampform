/-
Helper lemmas for C06: insertion-ordered dictionaries, stable insertion sort by a key, linear
orders given as Boolean comparisons and their lexicographic combinations.  Core Lean only.
-/
import Ampverif.Model.C06Purity

set_option linter.unusedSectionVars false

namespace Ampverif.C06

/-- a relation kept by every step is kept by the fold -/
theorem foldl_rel {α β γ : Type} {R : α → β → Prop} {f : α → γ → α} {g : β → γ → β} (l : List γ)
    (hstep : ∀ a b x, R a b → R (f a x) (g b x)) :
    ∀ {a b}, R a b → R (l.foldl f a) (l.foldl g b) := by
  induction l with
  | nil => exact fun h => h
  | cons x t ih => exact fun h => ih (hstep _ _ x h)

/-- a relation between the branches of two conditionals on the same test relates the conditionals -/
theorem ite_rel {α β : Type} {R : α → β → Prop} (c : Prop) [Decidable c] {a b : α} {a' b' : β}
    (ha : R a a') (hb : R b b') : R (if c then a else b) (if c then a' else b') := by
  split
  · exact ha
  · exact hb

section Dict
variable {κ : Type} {β : Type} [DecidableEq κ]

theorem dget_dset (d : List (κ × β)) (k k' : κ) (v : β) :
    dget (dset d k v) k' = if k = k' then some v else dget d k' := by
  induction d with
  | nil => rfl
  | cons p t ih =>
    unfold dset
    split
    · next h =>
      subst h
      simp only [dget]
      split <;> rfl
    · next h =>
      simp only [dget, ih]
      split
      · next h' => subst h'; rw [if_neg (Ne.symm h)]
      · rfl

theorem dget_ddel (d : List (κ × β)) (k k' : κ) :
    dget (ddel d k) k' = if k = k' then none else dget d k' := by
  induction d with
  | nil => exact (ite_self _).symm
  | cons p t ih =>
    unfold ddel
    split
    · next h =>
      subst h
      simp only [ih, dget]
      split <;> rfl
    · next h =>
      simp only [dget, ih]
      split
      · next h' => subst h'; rw [if_neg (Ne.symm h)]
      · rfl

/-- same finite map -/
def DEquiv (d d' : List (κ × β)) : Prop := ∀ k, dget d k = dget d' k

theorem DEquiv.refl (d : List (κ × β)) : DEquiv d d := fun _ => rfl

theorem DEquiv.dset {d d' : List (κ × β)} (h : DEquiv d d') (k : κ) (v : β) :
    DEquiv (dset d k v) (dset d' k v) := by
  intro k'; rw [dget_dset, dget_dset, h k']

theorem DEquiv.ddel {d d' : List (κ × β)} (h : DEquiv d d') (k : κ) :
    DEquiv (ddel d k) (ddel d' k) := by
  intro k'; rw [dget_ddel, dget_ddel, h k']

theorem DEquiv.dupdate {d d' : List (κ × β)} (h : DEquiv d d') (e : List (κ × β)) :
    DEquiv (dupdate d e) (dupdate d' e) :=
  foldl_rel e (fun _ _ p h => h.dset p.1 p.2) h

theorem mem_dkeys_iff {d : List (κ × β)} {k : κ} : k ∈ dkeys d ↔ (dget d k).isSome = true := by
  induction d with
  | nil => simp [dkeys, dget]
  | cons p t ih =>
    simp only [dkeys, List.map_cons, List.mem_cons, dget] at ih ⊢
    by_cases h : p.1 = k
    · simp [h]
    · rw [if_neg h, ← ih, or_iff_right (Ne.symm h)]

theorem dget_none_not_mem {d : List (κ × β)} {k : κ} (h : dget d k = none) : k ∉ dkeys d := by
  rw [mem_dkeys_iff, h]; exact Bool.false_ne_true

theorem dget_some_mem {d : List (κ × β)} {k : κ} {v : β} (h : dget d k = some v) : (k, v) ∈ d := by
  induction d with
  | nil => cases h
  | cons p t ih =>
    simp only [dget] at h
    split at h
    · next hk => cases h; rw [← hk]; exact List.mem_cons_self
    · exact List.mem_cons_of_mem _ (ih h)

def NodupKeys (d : List (κ × β)) : Prop := (dkeys d).Nodup

theorem NodupKeys.nil : NodupKeys ([] : List (κ × β)) := List.nodup_nil

theorem NodupKeys.dset {d : List (κ × β)} (h : NodupKeys d) (k : κ) (v : β) :
    NodupKeys (dset d k v) := by
  induction d with
  | nil => exact List.nodup_cons.mpr ⟨List.not_mem_nil, List.nodup_nil⟩
  | cons p t ih =>
    obtain ⟨hp, ht⟩ := List.nodup_cons.mp h
    simp only [Ampverif.C06.dset]
    split
    · exact h
    · next hk =>
      refine List.nodup_cons.mpr ⟨fun hm => hp ?_, ih ht⟩
      have hm : p.1 ∈ dkeys (Ampverif.C06.dset t k v) := hm
      rw [mem_dkeys_iff, dget_dset, if_neg (Ne.symm hk)] at hm
      exact mem_dkeys_iff.mpr hm

theorem ddel_sublist (d : List (κ × β)) (k : κ) : (ddel d k).Sublist d := by
  induction d with
  | nil => exact .slnil
  | cons p t ih =>
    unfold ddel
    split
    · exact ih.cons _
    · exact ih.cons_cons _

theorem NodupKeys.ddel {d : List (κ × β)} (h : NodupKeys d) (k : κ) : NodupKeys (ddel d k) :=
  List.Nodup.sublist ((ddel_sublist d k).map _) h

theorem NodupKeys.dupdate {d : List (κ × β)} (h : NodupKeys d) (e : List (κ × β)) :
    NodupKeys (dupdate d e) :=
  List.foldlRecOn e _ h fun _ hd p _ => hd.dset p.1 p.2

theorem NodupKeys.dmerge (ms : List (List (κ × β))) : NodupKeys (dmerge ms) :=
  List.foldlRecOn ms _ .nil fun _ hd m _ => hd.dupdate m

/-- a dict with distinct keys is a functional list: lookup and membership coincide -/
theorem dget_eq_some_iff {d : List (κ × β)} (hn : NodupKeys d) {k : κ} {v : β} :
    dget d k = some v ↔ (k, v) ∈ d := by
  refine ⟨dget_some_mem, fun h => ?_⟩
  induction d with
  | nil => cases h
  | cons p t ih =>
    obtain ⟨hp, ht⟩ := List.nodup_cons.mp hn
    simp only [dget]
    rcases List.mem_cons.mp h with h1 | h1
    · rw [← h1, if_pos rfl]
    · rw [if_neg fun e => hp (List.mem_map.mpr ⟨(k, v), h1, e.symm⟩)]
      exact ih ht h1

theorem nodup_of_nodupKeys {d : List (κ × β)} (hn : NodupKeys d) : d.Nodup :=
  List.Pairwise.of_map Prod.fst (fun _ _ h e => h (congrArg Prod.fst e)) hn

/-- two dicts that denote the same finite map are permutations of each other -/
theorem perm_of_dequiv {d d' : List (κ × β)} (hn : NodupKeys d) (hn' : NodupKeys d')
    (h : DEquiv d d') : d.Perm d' :=
  (List.perm_ext_iff_of_nodup (nodup_of_nodupKeys hn) (nodup_of_nodupKeys hn')).mpr
    fun ⟨k, v⟩ => by rw [← dget_eq_some_iff hn, ← dget_eq_some_iff hn', h k]

end Dict

/-- `le` is a linear order, given as a Boolean comparison -/
structure LinOrd {α : Type} (le : α → α → Bool) : Prop where
  total : ∀ a b, le a b = true ∨ le b a = true
  anti : ∀ a b, le a b = true → le b a = true → a = b
  trans : ∀ a b c, le a b = true → le b c = true → le a c = true

section Sorting
variable {α : Type}

theorem insertBy_perm (le : α → α → Bool) (a : α) (l : List α) : (insertBy le a l).Perm (a :: l) := by
  induction l with
  | nil => simp [insertBy]
  | cons b t ih =>
    by_cases h : le a b = true
    · simp [insertBy, h]
    · simp only [insertBy, h]
      exact (List.Perm.cons b ih).trans (List.Perm.swap a b t)

theorem isort_perm (le : α → α → Bool) (l : List α) : (isort le l).Perm l := by
  induction l with
  | nil => simp [isort]
  | cons a t ih => exact (insertBy_perm le a _).trans (List.Perm.cons a ih)

def Sorted (le : α → α → Bool) (l : List α) : Prop := l.Pairwise (fun a b => le a b = true)

section
variable {le : α → α → Bool} (total : ∀ a b, le a b = true ∨ le b a = true)
  (trans : ∀ a b c, le a b = true → le b c = true → le a c = true)
include total trans

theorem insertBy_sorted (a : α) {l : List α} (h : Sorted le l) : Sorted le (insertBy le a l) := by
  induction l with
  | nil => exact List.pairwise_singleton _ a
  | cons b t ih =>
    obtain ⟨hb, ht⟩ := List.pairwise_cons.mp h
    unfold insertBy
    split
    · next hab =>
      refine List.pairwise_cons.mpr ⟨fun x hx => ?_, h⟩
      rcases List.mem_cons.mp hx with h1 | h1
      · rw [h1]; exact hab
      · exact trans a b x hab (hb x h1)
    · next hab =>
      refine List.pairwise_cons.mpr ⟨fun x hx => ?_, ih ht⟩
      rcases List.mem_cons.mp ((insertBy_perm le a t).mem_iff.mp hx) with h1 | h1
      · rw [h1]; exact (total a b).resolve_left hab
      · exact hb x h1

theorem isort_sorted (l : List α) : Sorted le (isort le l) := by
  induction l with
  | nil => exact List.Pairwise.nil
  | cons a t ih => exact insertBy_sorted total trans a ih

end

/-- `sorted(l, key=f)` under a linear order of the keys depends only on the elements of `l`,
provided distinct elements have distinct keys -/
theorem isort_eq_of_perm {κ : Type} {le : κ → κ → Bool} (h : LinOrd le) (f : α → κ)
    {l₁ l₂ : List α} (inj : ∀ a b, a ∈ l₁ → b ∈ l₁ → f a = f b → a = b) (hp : l₁.Perm l₂) :
    isort (fun a b => le (f a) (f b)) l₁ = isort (fun a b => le (f a) (f b)) l₂ := by
  have sorted := isort_sorted (fun a b => h.total (f a) (f b)) fun a b c => h.trans (f a) (f b) (f c)
  refine ((isort_perm _ l₁).trans (hp.trans (isort_perm _ l₂).symm)).eq_of_pairwise ?_
    (sorted l₁) (sorted l₂)
  intro a b ha hb h1 h2
  exact inj a b ((isort_perm _ l₁).mem_iff.mp ha)
    (hp.mem_iff.mpr ((isort_perm _ l₂).mem_iff.mp hb)) (h.anti _ _ h1 h2)

end Sorting

/-! Comparison by a first component `a b : γ`, ties decided by a second comparison with outcomes
`p q r`: the shape of `lexLe` on two non-empty lists, of `tokLe` on two numbers and of `nameLe`. -/

section KeyFirst
variable {γ : Type} [DecidableEq γ] {le : γ → γ → Bool} {a b c : γ} {p q r : Bool}

theorem LinOrd.keyFirst_total (h : LinOrd le) (hpq : p = true ∨ q = true) :
    (if a = b then p else le a b) = true ∨ (if b = a then q else le b a) = true := by
  by_cases e : a = b
  · rw [if_pos e, if_pos e.symm]; exact hpq
  · rw [if_neg e, if_neg (Ne.symm e)]; exact h.total a b

theorem LinOrd.keyFirst_anti (h : LinOrd le) (h1 : (if a = b then p else le a b) = true)
    (h2 : (if b = a then q else le b a) = true) : a = b ∧ p = true ∧ q = true := by
  by_cases e : a = b
  · rw [if_pos e] at h1; rw [if_pos e.symm] at h2; exact ⟨e, h1, h2⟩
  · rw [if_neg e] at h1; rw [if_neg (Ne.symm e)] at h2; exact absurd (h.anti a b h1 h2) e

theorem LinOrd.keyFirst_trans (h : LinOrd le) (hpqr : p = true → q = true → r = true)
    (h1 : (if a = b then p else le a b) = true) (h2 : (if b = c then q else le b c) = true) :
    (if a = c then r else le a c) = true := by
  by_cases hab : a = b
  · subst hab
    rw [if_pos rfl] at h1
    by_cases hac : a = c
    · rw [if_pos hac] at h2 ⊢; exact hpqr h1 h2
    · rw [if_neg hac] at h2 ⊢; exact h2
  · rw [if_neg hab] at h1
    by_cases hbc : b = c
    · subst hbc; rw [if_neg hab]; exact h1
    · rw [if_neg hbc] at h2
      by_cases hac : a = c
      · subst hac; exact absurd (h.anti a b h1 h2) hab
      · rw [if_neg hac]; exact h.trans a b c h1 h2

end KeyFirst

section Lex
variable {α : Type} [DecidableEq α]

theorem lexLe_refl (le : α → α → Bool) (l : List α) : lexLe le l l = true := by
  induction l with
  | nil => simp [lexLe]
  | cons a t ih => simp [lexLe, ih]

theorem LinOrd.lex {le : α → α → Bool} (h : LinOrd le) : LinOrd (lexLe le) where
  total := by
    intro l₁
    induction l₁ with
    | nil => exact fun _ => .inl rfl
    | cons a t ih =>
      intro l₂
      cases l₂ with
      | nil => exact .inr rfl
      | cons b u => exact h.keyFirst_total (ih u)
  anti := by
    intro l₁
    induction l₁ with
    | nil =>
      intro l₂ _ h2
      cases l₂ with
      | nil => rfl
      | cons b u => exact absurd h2 Bool.false_ne_true
    | cons a t ih =>
      intro l₂ h1 h2
      cases l₂ with
      | nil => exact absurd h1 Bool.false_ne_true
      | cons b u =>
        obtain ⟨e, p, q⟩ := h.keyFirst_anti h1 h2
        rw [e, ih u p q]
  trans := by
    intro l₁
    induction l₁ with
    | nil => exact fun _ _ _ _ => rfl
    | cons a t ih =>
      intro l₂ l₃ h1 h2
      cases l₂ with
      | nil => exact absurd h1 Bool.false_ne_true
      | cons b u =>
        cases l₃ with
        | nil => exact absurd h2 Bool.false_ne_true
        | cons c s => exact h.keyFirst_trans (ih u s) h1 h2

theorem natLe_linOrd : LinOrd natLe where
  total a b := by simp only [natLe, Nat.ble_eq]; omega
  anti a b := by simp only [natLe, Nat.ble_eq]; omega
  trans a b c := by simp only [natLe, Nat.ble_eq]; omega

end Lex

end Ampverif.C06
