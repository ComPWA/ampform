/-
C07: facts about the model's sorting and tuple comparison, and lookups by edge id: in a decay tree
whose edge ids are pairwise distinct they return the subtree, the ancestors and the sibling one
expects (so the id-addressed functions of the model coincide with structural recursion over the
tree); conversely every path found leads to a subtree.
-/
import Ampverif.Model.Topology

namespace Ampverif.Lemmas.C07
open Ampverif.Model.Topology

/-- Python's tuple comparison is a strict total order -/
theorem lexGt_swap : ∀ (x y : List Int), x ≠ y → lexGt y x = !lexGt x y := by
  intro x
  induction x with
  | nil => intro y hne; cases y with
    | nil => exact absurd rfl hne
    | cons b ys => rfl
  | cons a xs ih =>
    intro y hne
    cases y with
    | nil => rfl
    | cons b ys =>
      simp only [lexGt]
      rcases Int.lt_trichotomy a b with h | h | h
      · simp [h, Int.lt_asymm h]
      · subst h
        simp [ih ys (fun hh => hne (by rw [hh]))]
      · simp [h, Int.lt_asymm h]

theorem insertSorted_perm (x : Int) : ∀ l : List Int, (insertSorted x l).Perm (x :: l) := by
  intro l
  induction l with
  | nil => simp [insertSorted]
  | cons y ys ih =>
    simp only [insertSorted]
    by_cases h : x ≤ y
    · simp [h]
    · simp only [h, if_false]
      exact ((List.perm_cons y).2 ih).trans (List.Perm.swap x y ys)

theorem sortInts_perm : ∀ l : List Int, (sortInts l).Perm l := by
  intro l
  induction l with
  | nil => simp [sortInts]
  | cons x xs ih =>
    simp only [sortInts]
    exact (insertSorted_perm x _).trans ((List.perm_cons x).2 ih)

theorem insertSorted_sorted (x : Int) : ∀ l : List Int, l.Pairwise (· ≤ ·) →
    (insertSorted x l).Pairwise (· ≤ ·) := by
  intro l
  induction l with
  | nil => intro _; simp [insertSorted]
  | cons y ys ih =>
    intro h
    simp only [insertSorted]
    by_cases hxy : x ≤ y
    · simp only [hxy, if_true]
      rw [List.pairwise_cons] at h ⊢
      refine ⟨?_, List.pairwise_cons.2 h⟩
      intro z hz
      simp at hz
      rcases hz with rfl | hz
      · exact hxy
      · exact Int.le_trans hxy (h.1 z hz)
    · simp only [hxy, if_false]
      rw [List.pairwise_cons] at h ⊢
      refine ⟨?_, ih h.2⟩
      intro z hz
      have := (insertSorted_perm x ys).mem_iff.1 hz
      simp at this
      rcases this with rfl | hz'
      · omega
      · exact h.1 z hz'

theorem sortInts_sorted : ∀ l : List Int, (sortInts l).Pairwise (· ≤ ·) := by
  intro l
  induction l with
  | nil => simp [sortInts]
  | cons x xs ih => exact insertSorted_sorted x _ ih

theorem mem_sortInts {a : Int} {l : List Int} : a ∈ sortInts l ↔ a ∈ l :=
  (sortInts_perm l).mem_iff

theorem sorted_perm_eq {l l' : List Int} (h : l.Pairwise (· ≤ ·)) (h' : l'.Pairwise (· ≤ ·))
    (p : l.Perm l') : l = l' :=
  List.Perm.eq_of_pairwise (fun _ _ _ _ hab hba => Int.le_antisymm hab hba) h h' p

theorem sortInts_single (i : Int) : sortInts [i] = [i] := rfl

/-- edge ids are pairwise distinct (qrules keeps edges as a dict keyed by id) -/
def WF (t : Tree) : Prop := t.ids.Nodup

instance (t : Tree) : Decidable (WF t) := inferInstanceAs (Decidable t.ids.Nodup)

/-- `At top anc s`: `s` is the subtree of `top` reached through the proper ancestors `anc`
(outermost first; `anc = []` iff `s = top`). -/
inductive At : Tree → List Tree → Tree → Prop
  | here (t : Tree) : At t [] t
  | left {i : Int} {a b : Tree} {anc : List Tree} {s : Tree} :
      At a anc s → At (.node i a b) (.node i a b :: anc) s
  | right {i : Int} {a b : Tree} {anc : List Tree} {s : Tree} :
      At b anc s → At (.node i a b) (.node i a b :: anc) s

theorem id_mem_ids (t : Tree) : t.id ∈ t.ids := by
  cases t <;> simp [Tree.id, Tree.ids]

theorem At.ids_subset {t s : Tree} {anc : List Tree} (h : At t anc s) : ∀ x ∈ s.ids, x ∈ t.ids := by
  induction h with
  | here t => intro x hx; exact hx
  | left _ ih => intro x hx; simp [Tree.ids]; exact Or.inr (Or.inl (ih x hx))
  | right _ ih => intro x hx; simp [Tree.ids]; exact Or.inr (Or.inr (ih x hx))

theorem At.id_mem {t s : Tree} {anc : List Tree} (h : At t anc s) : s.id ∈ t.ids :=
  h.ids_subset _ (id_mem_ids s)

theorem At.mem_subtrees {t s : Tree} {anc : List Tree} (h : At t anc s) : s ∈ t.subtrees := by
  induction h with
  | here t => cases t <;> simp [Tree.subtrees]
  | left _ ih => simp [Tree.subtrees]; exact Or.inr (Or.inl ih)
  | right _ ih => simp [Tree.subtrees]; exact Or.inr (Or.inr ih)

theorem exists_at_of_mem_subtrees {t s : Tree} (h : s ∈ t.subtrees) : ∃ anc, At t anc s := by
  induction t with
  | leaf i =>
    simp [Tree.subtrees] at h; subst h; exact ⟨[], .here _⟩
  | node i a b iha ihb =>
    simp [Tree.subtrees] at h
    rcases h with h | h | h
    · subst h; exact ⟨[], .here _⟩
    · obtain ⟨anc, ha⟩ := iha h; exact ⟨_, .left ha⟩
    · obtain ⟨anc, hb⟩ := ihb h; exact ⟨_, .right hb⟩

/-- `c` and `sib` are the two decay products of `p`, in either order -/
inductive Kids : Tree → Tree → Tree → Prop
  | left (i : Int) (a b : Tree) : Kids (.node i a b) a b
  | right (i : Int) (a b : Tree) : Kids (.node i a b) b a

theorem Kids.symm {p c sib : Tree} (hk : Kids p c sib) : Kids p sib c := by
  cases hk with
  | left => exact .right _ _ _
  | right => exact .left _ _ _

theorem At.snoc {t p c sib : Tree} {anc : List Tree} (h : At t anc p) (hk : Kids p c sib) :
    At t (anc ++ [p]) c := by
  induction h with
  | here t =>
    cases hk with
    | left => exact .left (.here _)
    | right => exact .right (.here _)
  | left _ ih => exact .left (ih hk)
  | right _ ih => exact .right (ih hk)

theorem WF.node_inv {i : Int} {a b : Tree} (h : WF (.node i a b)) :
    i ∉ a.ids ∧ i ∉ b.ids ∧ WF a ∧ WF b ∧ (∀ x ∈ a.ids, x ∉ b.ids) := by
  unfold WF at *
  simp only [Tree.ids, List.nodup_cons, List.mem_append, not_or, List.nodup_append] at h
  obtain ⟨⟨h1, h2⟩, h3, h4, h5⟩ := h
  refine ⟨h1, h2, h3, h4, ?_⟩
  intro x hx hxb
  exact h5 x hx x hxb rfl

theorem At.wf {t s : Tree} {anc : List Tree} (h : At t anc s) (hw : WF t) : WF s := by
  induction h with
  | here t => exact hw
  | left _ ih => exact ih hw.node_inv.2.2.1
  | right _ ih => exact ih hw.node_inv.2.2.2.1

theorem pathTo_none {t : Tree} {e : Int} (h : e ∉ t.ids) : pathTo t e = none := by
  induction t with
  | leaf i =>
    simp [Tree.ids] at h
    simp [pathTo]; intro hh; exact h hh.symm
  | node i a b iha ihb =>
    simp [Tree.ids] at h
    obtain ⟨h1, h2, h3⟩ := h
    have h1' : ¬ i = e := fun hh => h1 hh.symm
    simp [pathTo, h1', iha h2, ihb h3]

/-- the path to the root edge of a subtree is the list of its ancestors followed by itself -/
theorem pathTo_at {t s : Tree} {anc : List Tree} (hw : WF t) (h : At t anc s) :
    pathTo t s.id = some (anc ++ [s]) := by
  induction h with
  | here t => cases t <;> simp [pathTo, Tree.id]
  | @left i a b anc s h ih =>
    obtain ⟨h1, _, hwa, _, _⟩ := hw.node_inv
    have hne : ¬ i = s.id := fun hh => h1 (hh ▸ h.id_mem)
    simp [pathTo, hne, ih hwa]
  | @right i a b anc s h ih =>
    obtain ⟨_, h2, _, hwb, hdis⟩ := hw.node_inv
    have hne : ¬ i = s.id := fun hh => h2 (hh ▸ h.id_mem)
    have hna : pathTo a s.id = none := pathTo_none (fun hh => hdis _ hh h.id_mem)
    simp [pathTo, hne, hna, ih hwb]

theorem find_at {t s : Tree} {anc : List Tree} (hw : WF t) (h : At t anc s) :
    find? t s.id = some s := by
  simp [find?, pathTo_at hw h]

theorem attachedE_at {t s : Tree} {anc : List Tree} (hw : WF t) (h : At t anc s) :
    attachedE t s.id = s.attached := by
  simp [attachedE, find_at hw h]

theorem determineAttached_at {t s : Tree} {anc : List Tree} (hw : WF t) (h : At t anc s) :
    determineAttached t s.id = .ok s.attached := by
  simp [determineAttached, find_at hw h]

theorem parentNode_at_snoc {t s p : Tree} {anc : List Tree} (hw : WF t) (h : At t (anc ++ [p]) s) :
    parentNode? t s.id = some p := by
  simp [parentNode?, pathTo_at hw h]

theorem ids_ne_of_wf {i : Int} {a b : Tree} (hw : WF (.node i a b)) : a.id ≠ b.id := by
  obtain ⟨_, _, _, _, hdis⟩ := hw.node_inv
  intro hh
  exact hdis _ (id_mem_ids a) (hh ▸ id_mem_ids b)

theorem sibling_at {t p c sib : Tree} {anc : List Tree} (hw : WF t) (h : At t anc p)
    (hk : Kids p c sib) : siblingE t c.id = sib.id := by
  have hp := pathTo_at hw (h.snoc hk)
  have hpar := parentNode_at_snoc hw (h.snoc hk)
  cases hk with
  | left => simp [siblingE, getSiblingId, hp, hpar]
  | right => simp [siblingE, getSiblingId, hp, hpar, ids_ne_of_wf (h.wf hw)]

theorem isOpposite_at {t p c sib : Tree} {anc : List Tree} (hw : WF t) (h : At t anc p)
    (hk : Kids p c sib) : isOppositeE t c.id = lexGt c.attached sib.attached := by
  simp [isOppositeE, sibling_at hw h hk, attachedE_at hw (h.snoc hk), attachedE_at hw (h.snoc hk.symm)]

theorem pathTo_some : ∀ {t : Tree} {e : Int} {p : List Tree}, pathTo t e = some p →
    ∃ anc s, p = anc ++ [s] ∧ At t anc s ∧ s.id = e := by
  intro t
  induction t with
  | leaf i =>
    intro e p h
    simp only [pathTo] at h
    split at h
    · cases h; exact ⟨[], _, rfl, .here _, ‹_›⟩
    · cases h
  | node i a b iha ihb =>
    intro e p h
    simp only [pathTo] at h
    split at h
    · cases h; exact ⟨[], _, rfl, .here _, ‹_›⟩
    · split at h
      · cases h
        obtain ⟨anc, s, rfl, hat, hid⟩ := iha ‹_›
        exact ⟨_ :: anc, s, rfl, .left hat, hid⟩
      · split at h
        · cases h
          obtain ⟨anc, s, rfl, hat, hid⟩ := ihb ‹_›
          exact ⟨_ :: anc, s, rfl, .right hat, hid⟩
        · cases h

theorem find_mem_subtrees {t s : Tree} {e : Int} (h : find? t e = some s) : s ∈ t.subtrees := by
  unfold find? at h
  split at h
  · obtain ⟨anc, s', rfl, hat, _⟩ := pathTo_some ‹_›
    rw [List.getLast?_concat] at h
    cases h
    exact hat.mem_subtrees
  · cases h

theorem leaves_ne_nil (t : Tree) : t.leaves ≠ [] := by
  induction t with
  | leaf i => simp [Tree.leaves]
  | node i a b iha _ => simp [Tree.leaves, iha]

theorem leaf_mem_ids {t : Tree} {x : Int} (h : x ∈ t.leaves) : x ∈ t.ids := by
  induction t with
  | leaf i => exact h
  | node i a b iha ihb =>
    rcases List.mem_append.1 h with h | h
    · exact List.mem_cons_of_mem _ (List.mem_append_left _ (iha h))
    · exact List.mem_cons_of_mem _ (List.mem_append_right _ (ihb h))

theorem attached_perm (t : Tree) : t.attached.Perm t.leaves := sortInts_perm _
theorem attached_sorted (t : Tree) : t.attached.Pairwise (· ≤ ·) := sortInts_sorted _

theorem sortInts_attached (s : Tree) : sortInts s.attached = s.attached :=
  sorted_perm_eq (sortInts_sorted _) (attached_sorted s) (sortInts_perm _)

theorem attached_leaf {t : Tree} (h : t.isLeaf = true) : t.attached = [t.id] := by
  cases t with
  | leaf i => rfl
  | node _ _ _ => cases h

/-- a final state is recognised by its set of final states -/
theorem isLeaf_iff_length (t : Tree) : t.isLeaf = true ↔ t.attached.length = 1 := by
  cases t with
  | leaf i => simp [Tree.isLeaf, Tree.attached, Tree.leaves, sortInts_single]
  | node i a b =>
    have ha := List.length_pos_iff.2 (leaves_ne_nil a)
    have hb := List.length_pos_iff.2 (leaves_ne_nil b)
    rw [(attached_perm _).length_eq]
    simp only [Tree.isLeaf, Tree.leaves, List.length_append, Bool.false_eq_true, false_iff]
    omega

/-- the two decay products of a node have different final states -/
theorem attached_ne_of_wf {i : Int} {a b : Tree} (hw : WF (.node i a b)) :
    a.attached ≠ b.attached := by
  obtain ⟨_, _, _, _, hdis⟩ := hw.node_inv
  intro e
  obtain ⟨x, hx⟩ := List.exists_mem_of_ne_nil _ (leaves_ne_nil a)
  have ha : x ∈ a.attached := mem_sortInts.2 hx
  rw [e] at ha
  exact hdis x (leaf_mem_ids hx) (leaf_mem_ids (mem_sortInts.1 ha))

end Ampverif.Lemmas.C07
