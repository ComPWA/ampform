/-
C07: when every final-state id is a single decimal digit, the ids can be read back from a name, so
the naming scheme is injective (the names concatenate the decimal digits of the ids; with ids ≥ 10
`m_112` is ambiguous).
-/
import Ampverif.Lemmas.C07Spec

namespace Ampverif.Lemmas.C07
open Ampverif.Model.Topology

/-- all ids are single decimal digits -/
def DigitIds (l : List Int) : Prop := ∀ i ∈ l, 0 ≤ i ∧ i < 10

instance (l : List Int) : Decidable (DigitIds l) :=
  inferInstanceAs (Decidable (∀ i ∈ l, 0 ≤ i ∧ i < 10))

def charVal (c : Char) : Int := (c.toNat : Int) - 48

def digitChar (n : Nat) : Char := Char.ofNat (48 + n)

theorem digitsOf_fin : ∀ d : Fin 10, digitsOf (d.val : Int) = [digitChar d.val] ∧
    charVal (digitChar d.val) = d.val ∧ digitChar d.val ≠ ',' ∧ digitChar d.val ≠ '^' := by decide +kernel

theorem concatDigits_cons {i : Int} (h : 0 ≤ i ∧ i < 10) (l : List Int) :
    ∃ c : Char, concatDigits (i :: l) = c :: concatDigits l ∧ charVal c = i ∧ c ≠ ',' ∧ c ≠ '^' := by
  have hi : i = ((⟨i.toNat, by omega⟩ : Fin 10).val : Int) := by simp; omega
  obtain ⟨hd, hc⟩ := digitsOf_fin ⟨i.toNat, by omega⟩
  rw [← hi] at hd hc
  exact ⟨_, by simp [concatDigits, hd], hc⟩

/-- the ids of a group of digits can be read back -/
theorem map_charVal_concatDigits {l : List Int} (h : DigitIds l) : (concatDigits l).map charVal = l := by
  induction l with
  | nil => rfl
  | cons i l ih =>
    obtain ⟨c, e, hv, _⟩ := concatDigits_cons (h i List.mem_cons_self) l
    rw [e, List.map_cons, hv, ih fun j hj => h j (List.mem_cons_of_mem _ hj)]

theorem concatDigits_inj {l l' : List Int} (h : DigitIds l) (h' : DigitIds l')
    (e : concatDigits l = concatDigits l') : l = l' := by
  rw [← map_charVal_concatDigits h, ← map_charVal_concatDigits h', e]

/-- reading the index groups back from a name without its leading `_`: the group that is still open
and the groups closed by a separator behind it -/
def parseGroups : List Char → List Int × List (List Int)
  | [] => ([], [])
  | c :: cs =>
    if c = ',' ∨ c = '^' then ([], (parseGroups cs).1 :: (parseGroups cs).2)
    else (charVal c :: (parseGroups cs).1, (parseGroups cs).2)

theorem parseGroups_concatDigits {l : List Int} (h : DigitIds l) (rest : List Char) :
    parseGroups (concatDigits l ++ rest) = (l ++ (parseGroups rest).1, (parseGroups rest).2) := by
  induction l with
  | nil => rfl
  | cons i l ih =>
    obtain ⟨c, e, hv, h1, h2⟩ := concatDigits_cons (h i List.mem_cons_self) l
    rw [e, List.cons_append, parseGroups, if_neg (by simp [h1, h2]),
      ih fun j hj => h j (List.mem_cons_of_mem _ hj), hv]
    rfl

theorem parseGroups_intercalate : ∀ (g : List Int) (t : List (List Int)), (∀ s ∈ g :: t, DigitIds s) →
    parseGroups (intercalateChars [','] ((g :: t).map concatDigits)) = (g, t)
  | g, [], h => by simpa [intercalateChars, parseGroups] using parseGroups_concatDigits (h g List.mem_cons_self) []
  | g, s :: t, h => by
    have ih := parseGroups_intercalate s t fun x hx => h x (List.mem_cons_of_mem _ hx)
    simp only [List.map_cons, intercalateChars, List.append_assoc, List.singleton_append] at ih ⊢
    rw [parseGroups_concatDigits (h g List.mem_cons_self), parseGroups, if_pos (.inl rfl), ih, List.append_nil]

/-- The name of an angle pair can be read back: the state it is named after and the chain of frames. -/
theorem parse_renderName {t : List Int} {c : List (List Int)} (ht : DigitIds t) (hc : ∀ s ∈ c, DigitIds s) :
    parseGroups (renderName t c).tail = (t, c.reverse) := by
  unfold renderName
  cases hr : c.reverse with
  | nil => simpa [renderGroups, parseGroups] using parseGroups_concatDigits ht []
  | cons s u =>
    have hd : ∀ x ∈ s :: u, DigitIds x := fun x hx => hc x (List.mem_reverse.1 (hr ▸ hx))
    simp only [List.map_cons, renderGroups, List.cons_append, List.tail_cons]
    rw [parseGroups_concatDigits ht, parseGroups, if_pos (.inr rfl), ← List.map_cons,
      parseGroups_intercalate s u hd, List.append_nil]

theorem renderName_inj {t t' : List Int} {c c' : List (List Int)}
    (ht : DigitIds t) (ht' : DigitIds t') (hc : ∀ s ∈ c, DigitIds s) (hc' : ∀ s ∈ c', DigitIds s)
    (e : renderName t c = renderName t' c') : t = t' ∧ c = c' := by
  have h := congrArg (fun n => parseGroups n.tail) e
  simpa only [parse_renderName ht hc, parse_renderName ht' hc', Prod.mk.injEq, List.reverse_inj] using h

/-- mass names: `m_` followed by the digits of the sorted ids -/
def massNameOf (ids : List Int) : List Char := ['m', '_'] ++ concatDigits (sortInts ids)

/-- reading the ids back from a mass name -/
def parseMassName (nm : List Char) : List Int := (nm.drop 2).map charVal

theorem parse_massName {ids : List Int} (h : DigitIds (sortInts ids)) :
    parseMassName (massNameOf ids) = sortInts ids := by
  simp [parseMassName, massNameOf, map_charVal_concatDigits h]

end Ampverif.Lemmas.C07
