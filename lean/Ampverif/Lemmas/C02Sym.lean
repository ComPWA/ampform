/-
C02 — the symmetrisation: every relabeling of identical final-state particles is represented,
each attachment (which id hangs on which node) exactly once.
-/
import Ampverif.Lemmas.C02Lists

namespace Ampverif.Lemmas.C02Sym
open Ampverif.Model.C02 Ampverif.Lemmas.C02Lists

theorem symmetrise_attachments (t : Transition) :
    t.symmetrise.map Transition.attachment
      = dedupFirst ((t.relabelings.map t.relabel).map Transition.attachment) :=
  map_filterMap_find? Transition.attachment _ _ fun _ hs => (mem_dedupFirst _ _).mp hs

theorem symmetrise_nodup (t : Transition) : (t.symmetrise.map Transition.attachment).Nodup := by
  rw [symmetrise_attachments]
  exact nodup_dedupFirst _

/-- every graph is a relabeling of the transition by a permutation of identical particles. -/
theorem symmetrise_sound (t : Transition) (g : Transition) (hg : g ∈ t.symmetrise) :
    ∃ σ ∈ t.relabelings, g = t.relabel σ := by
  unfold Transition.symmetrise at hg
  simp only [List.mem_filterMap] at hg
  obtain ⟨s, _, hf⟩ := hg
  have := List.mem_of_find?_eq_some hf
  obtain ⟨σ, hσ, rfl⟩ := List.mem_map.mp this
  exact ⟨σ, hσ, rfl⟩

/-- every relabeling is represented by a graph with the same attachment. -/
theorem symmetrise_complete (t : Transition) (σ : List (Int × Int)) (hσ : σ ∈ t.relabelings) :
    ∃ g ∈ t.symmetrise, g.attachment = (t.relabel σ).attachment :=
  List.mem_map.mp <| by
    rw [symmetrise_attachments, mem_dedupFirst]
    exact List.mem_map_of_mem (List.mem_map_of_mem hσ)

end Ampverif.Lemmas.C02Sym
