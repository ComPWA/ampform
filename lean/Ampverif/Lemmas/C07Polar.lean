/-
C07: a vector of length `n` is recovered from its polar angle `arccos (z / n)` and from the
argument of `x + i·y`.
-/
import Mathlib.Analysis.Real.Sqrt
import Mathlib.Analysis.SpecialFunctions.Complex.Arg
import Mathlib.Analysis.SpecialFunctions.Trigonometric.Inverse

namespace Ampverif.Lemmas.C07

/-- the sign test of `ComplexSqrt` on `E² − |p⃗|²`, in the form the generated code has it -/
theorem spacelike_iff {T S : ℝ} : (-1 : ℝ) * T + S > 0 ↔ T < S := by
  rw [neg_one_mul, neg_add_eq_sub, gt_iff_lt, sub_pos]

theorem polar_of_norm {X Y Z n : ℝ} (n0 : 0 < n) (nsq : n ^ 2 = X ^ 2 + Y ^ 2 + Z ^ 2) :
    n * Real.cos (Real.arccos (n⁻¹ * Z)) = Z ∧
    n * Real.sin (Real.arccos (n⁻¹ * Z)) = Real.sqrt (X ^ 2 + Y ^ 2) := by
  have hZ : |Z| ≤ n := by
    rw [← Real.sqrt_sq n0.le, nsq]
    exact Real.abs_le_sqrt (le_add_of_nonneg_left (add_nonneg (sq_nonneg X) (sq_nonneg Y)))
  obtain ⟨hlo, hhi⟩ := abs_le.1 hZ
  rw [inv_mul_eq_div]
  constructor
  · rw [Real.cos_arccos ((le_div_iff₀ n0).2 (by rwa [neg_one_mul]))
      ((div_le_iff₀ n0).2 (by rwa [one_mul])), mul_div_cancel₀ _ n0.ne']
  · -- `n·√(1 − (Z/n)²) = √(n² − Z²)`
    rw [Real.sin_arccos, ← Real.sqrt_sq n0.le, ← Real.sqrt_mul (sq_nonneg n), Real.sqrt_sq n0.le,
      div_pow, mul_sub, mul_one, mul_div_cancel₀ _ (pow_ne_zero 2 n0.ne'), nsq, add_sub_cancel_right]

theorem azimuth (X Y : ℝ) :
    Real.sqrt (X ^ 2 + Y ^ 2) * Real.cos (Complex.arg ⟨X, Y⟩) = X ∧
    Real.sqrt (X ^ 2 + Y ^ 2) * Real.sin (Complex.arg ⟨X, Y⟩) = Y := by
  have hnorm : ‖(⟨X, Y⟩ : ℂ)‖ = Real.sqrt (X ^ 2 + Y ^ 2) := Complex.norm_eq_sqrt_sq_add_sq _
  rw [← hnorm]
  exact ⟨Complex.norm_mul_cos_arg _, Complex.norm_mul_sin_arg _⟩

end Ampverif.Lemmas.C07
