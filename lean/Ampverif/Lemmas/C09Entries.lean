/-
The explicit 1×1 and 2×2 cases: determinants of `1 − iK` and `1 − iρK̂` in
coordinates, Hermitian matrices from real entries. Nothing here refers to generated definitions.
-/
import Ampverif.Lemmas.C09Cayley
import Mathlib.LinearAlgebra.Matrix.Notation
import Mathlib.LinearAlgebra.Matrix.Determinant.Basic
import Mathlib.Tactic.FieldSimp
import Mathlib.Tactic.LinearCombination
import Mathlib.Tactic.FinCases

namespace Ampverif.Lemmas.C09
open Matrix

theorem I_pow8 : Complex.I ^ 8 = 1 := by
  rw [show (8 : ℕ) = 4 * 2 from rfl, pow_mul, Complex.I_pow_four, one_pow]

/-- `i + x = i (1 − i x)`: the 1×1 denominator `i + x` vanishes only where `1 − i x` does. -/
theorem I_add_ne_zero {x : ℂ} (h : 1 - Complex.I * x ≠ 0) : Complex.I + x ≠ 0 := by
  have e : Complex.I + x = Complex.I * (1 - Complex.I * x) := by
    linear_combination x * Complex.I_sq
  rw [e]
  exact mul_ne_zero Complex.I_ne_zero h

theorem det_D1 (K : Matrix (Fin 1) (Fin 1) ℂ) : (D K).det = 1 - Complex.I * K 0 0 := by
  unfold D
  rw [Matrix.det_fin_one]
  simp [Matrix.sub_apply, Matrix.smul_apply]

theorem det_D2 (K : Matrix (Fin 2) (Fin 2) ℂ) :
    (D K).det
      = 1 - Complex.I * K 0 0 - Complex.I * K 1 1 - K 0 0 * K 1 1 + K 0 1 * K 1 0 := by
  unfold D
  rw [Matrix.det_fin_two]
  simp [Matrix.sub_apply, Matrix.smul_apply]
  grind only [Complex.I_sq]

theorem det_rel1 (ρ : Fin 1 → ℂ) (K : Matrix (Fin 1) (Fin 1) ℂ) :
    (1 - Complex.I • (Matrix.diagonal ρ * K)).det = 1 - Complex.I * ρ 0 * K 0 0 := by
  rw [Matrix.det_fin_one]
  simp [Matrix.sub_apply, Matrix.smul_apply, Matrix.diagonal_mul]
  ring

theorem det_rel2 (ρ : Fin 2 → ℂ) (K : Matrix (Fin 2) (Fin 2) ℂ) :
    (1 - Complex.I • (Matrix.diagonal ρ * K)).det
      = 1 - Complex.I * ρ 0 * K 0 0 - Complex.I * ρ 1 * K 1 1 - ρ 0 * ρ 1 * K 0 0 * K 1 1
        + ρ 0 * ρ 1 * K 0 1 * K 1 0 := by
  rw [Matrix.det_fin_two]
  simp [Matrix.sub_apply, Matrix.smul_apply, Matrix.diagonal_mul]
  grind only [Complex.I_sq]

/-- A 1×1 matrix with a real entry is Hermitian (and trivially symmetric). -/
theorem herm1 {a : ℂ} (ha : IsRe a) :
    (!![a] : Matrix (Fin 1) (Fin 1) ℂ).IsHermitian
      ∧ (!![a] : Matrix (Fin 1) (Fin 1) ℂ)ᵀ = !![a] := by
  constructor
  · ext i j
    fin_cases i; fin_cases j
    simp [Matrix.conjTranspose_apply, ha.conj_eq]
  · ext i j
    fin_cases i; fin_cases j
    simp [Matrix.transpose_apply]

/-- A 2×2 matrix with real entries and equal off-diagonal entries is Hermitian and symmetric. -/
theorem herm2 {a b c d : ℂ} (ha : IsRe a) (hb : IsRe b) (hd : IsRe d) (hbc : b = c) :
    (!![a, b; c, d] : Matrix (Fin 2) (Fin 2) ℂ).IsHermitian
      ∧ (!![a, b; c, d] : Matrix (Fin 2) (Fin 2) ℂ)ᵀ = !![a, b; c, d] := by
  subst hbc
  constructor
  · ext i j
    fin_cases i <;> fin_cases j <;>
      simp [Matrix.conjTranspose_apply, ha.conj_eq, hb.conj_eq, hd.conj_eq]
  · ext i j
    fin_cases i <;> fin_cases j <;> simp [Matrix.transpose_apply]

/-- The last step of every two-channel `formulate` theorem. The entries `f` of `formulate` are the
entries `t` of the symbolic matrix expression at a K-matrix with real entries and `b = c`; that
K-matrix is Hermitian and symmetric, which is all `H` (the theorem about the symbolic expression)
asks for. -/
theorem unitary_symmetric_of_entries {a b c d f00 f01 f10 f11 t00 t01 t10 t11 : ℂ}
    (hr : IsRe a ∧ IsRe b ∧ IsRe c ∧ IsRe d) (hbc : b = c)
    (hf : f00 = t00 ∧ f01 = t01 ∧ f10 = t10 ∧ f11 = t11)
    (H : (!![a, b; c, d] : Matrix (Fin 2) (Fin 2) ℂ).IsHermitian →
      (!![a, b; c, d] : Matrix (Fin 2) (Fin 2) ℂ)ᵀ = !![a, b; c, d] →
      (1 + (2 * Complex.I) • (!![t00, t01; t10, t11] : Matrix (Fin 2) (Fin 2) ℂ))ᴴ
          * (1 + (2 * Complex.I) • (!![t00, t01; t10, t11] : Matrix (Fin 2) (Fin 2) ℂ)) = 1
        ∧ (!![t00, t01; t10, t11] : Matrix (Fin 2) (Fin 2) ℂ)ᵀ = !![t00, t01; t10, t11]) :
    (1 + (2 * Complex.I) • (!![f00, f01; f10, f11] : Matrix (Fin 2) (Fin 2) ℂ))ᴴ
        * (1 + (2 * Complex.I) • (!![f00, f01; f10, f11] : Matrix (Fin 2) (Fin 2) ℂ)) = 1
      ∧ (!![f00, f01; f10, f11] : Matrix (Fin 2) (Fin 2) ℂ)ᵀ = !![f00, f01; f10, f11] := by
  obtain ⟨e00, e01, e10, e11⟩ := hf
  obtain ⟨hH, hT⟩ := herm2 hr.1 hr.2.1 hr.2.2.2 hbc
  rw [e00, e01, e10, e11]
  exact H hH hT

end Ampverif.Lemmas.C09
