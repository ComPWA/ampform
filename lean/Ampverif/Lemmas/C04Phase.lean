/-
The complex arithmetic under layer (A) of C04. `e^{ix}` for real `x` is a unit phase: the phases
`WignerRep.ph`, `eI` and `ce` all unfold to `Complex.exp (x * I)`, so their laws are the four lemmas
`expI_*`. A unitary change of a finitely supported vector, times a unit phase, keeps `Σ |a_m|²`.
-/
import Ampverif.Lemmas.Isometry
import Mathlib.Analysis.SpecialFunctions.Trigonometric.Basic

namespace Ampverif.Lemmas.C04
open scoped ComplexConjugate

theorem expI_add (x y : ℝ) :
    Complex.exp (x * Complex.I) * Complex.exp (y * Complex.I) = Complex.exp ((x + y : ℝ) * Complex.I) := by
  rw [← Complex.exp_add, Complex.ofReal_add, add_mul]

theorem expI_zero : Complex.exp ((0 : ℝ) * Complex.I) = 1 := by
  rw [Complex.ofReal_zero, zero_mul, Complex.exp_zero]

theorem expI_conj (x : ℝ) :
    (starRingEnd ℂ) (Complex.exp (x * Complex.I)) = Complex.exp ((-x : ℝ) * Complex.I) := by
  rw [← Complex.exp_conj, map_mul, Complex.conj_ofReal, Complex.conj_I, Complex.ofReal_neg, neg_mul,
    mul_neg]

theorem expI_normSq (x : ℝ) : Complex.normSq (Complex.exp (x * Complex.I)) = 1 := by
  rw [Complex.normSq_eq_norm_sq, Complex.norm_exp_ofReal_mul_I, one_pow]

/-- If `a'_m = c · Σ_{m'} conj(U_{m m'}) a_{m'}` on a finite index set `S`, with `U` unitary on `S`
and `|c| = 1`, then `Σ_{m ∈ S} |a'_m|² = Σ_{m ∈ S} |a_m|²`. -/
theorem normSq_sum_unitary {ι : Type*} [DecidableEq ι] (S : Finset ι) (U : ι → ι → ℂ)
    (hU : ∀ m ∈ S, ∀ m' ∈ S, ∑ k ∈ S, star (U k m) * U k m' = if m = m' then 1 else 0)
    (c : ℂ) (hc : Complex.normSq c = 1) (a a' : ι → ℂ)
    (h : ∀ m ∈ S, a' m = c * ∑ m' ∈ S, star (U m m') * a m') :
    ∑ m ∈ S, Complex.normSq (a' m) = ∑ m ∈ S, Complex.normSq (a m) := by
  -- the columns of `conj U` are orthonormal as well
  have hV : ∀ m ∈ S, ∀ m' ∈ S,
      ∑ k ∈ S, conj (star (U k m)) * star (U k m') = if m = m' then 1 else 0 := by
    intro m hm m' hm'
    have := congrArg star (hU m hm m' hm')
    simpa only [star_sum, star_mul', apply_ite star, star_one, star_zero, starRingEnd_apply] using this
  rw [← norm_preserved S (fun m m' => star (U m m')) hV a]
  refine Finset.sum_congr rfl fun m hm => ?_
  rw [h m hm, Complex.normSq_mul, hc, one_mul]

end Ampverif.Lemmas.C04
