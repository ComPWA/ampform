/-
Helper lemmas for C11, equal masses `m1 = m2 = m`. With `ρ = PhaseSpaceFactorComplex s m m` the
Chew–Mandelstam function is `ρ·log((ρ-1)/(ρ+1))/π` for every real `s ≠ 0` (`cm_equal`); the three
regions of the `s` axis differ only in what `ρ` is in terms of `ρ̂ = PhaseSpaceFactorAbs s m m`
(`ρ̂ < 1`, `ρ̂ > 1`, `i·ρ̂`) and hence in the branch of the logarithm.
-/
import Ampverif.Lemmas.C11CM
import Mathlib.Tactic.LinearCombination
import Mathlib.Analysis.SpecialFunctions.Trigonometric.Arctan

namespace Ampverif.Lemmas.C11
open Ampverif.Gen.C11

theorem q2_equal {s : ℝ} (hs : s ≠ 0) (m : ℝ) :
    BreakupMomentumSquared s m m = (s - 4 * m ^ 2) / 4 := by
  rw [q2_eq]; field_simp; ring

theorem add_self_sq (m : ℝ) : (m + m) ^ 2 = 4 * m ^ 2 := by ring

theorem q2_equal_neg {s m : ℝ} (hs : s ≠ 0) (h : s < 4 * m ^ 2) :
    BreakupMomentumSquared s m m < 0 := by
  rw [q2_equal hs]; linarith

theorem rhoAbs_sq_equal {s : ℝ} (hs : s ≠ 0) (m : ℝ) :
    PhaseSpaceFactorAbs s m m ^ 2 = |1 - 4 * m ^ 2 / s| := by
  have h : 1 - 4 * m ^ 2 / s = 4 * s⁻¹ * ((s - 4 * m ^ 2) / 4) := by field_simp
  unfold PhaseSpaceFactorAbs
  rw [mul_pow, mul_pow, inv_pow, Real.sq_sqrt (abs_nonneg _), Real.sq_sqrt (abs_nonneg _),
    q2_equal hs, h, abs_mul, abs_mul, abs_inv]
  norm_num

theorem rhoAbs_lt_one {s m : ℝ} (hm : 0 < m) (h : 4 * m ^ 2 < s) :
    PhaseSpaceFactorAbs s m m < 1 := by
  have hs : 0 < s := lt_trans (by positivity) h
  have hx0 : 0 < 4 * m ^ 2 / s := by positivity
  have hx1 : 4 * m ^ 2 / s < 1 := (div_lt_one hs).mpr h
  rw [← sq_lt_one_iff₀ (rhoAbs_nonneg s m m), rhoAbs_sq_equal hs.ne', abs_lt]
  constructor <;> linarith

theorem one_lt_rhoAbs {s m : ℝ} (hm : 0 < m) (hs : s < 0) :
    1 < PhaseSpaceFactorAbs s m m := by
  have hx : 4 * m ^ 2 / s < 0 := div_neg_of_pos_of_neg (by positivity) hs
  rw [← one_lt_sq_iff₀ (rhoAbs_nonneg s m m), rhoAbs_sq_equal hs.ne]
  exact lt_of_lt_of_le (by linarith) (le_abs_self _)

theorem abs_ratio_of_lt_one {ρ : ℝ} (h0 : 0 ≤ ρ) (h1 : ρ < 1) :
    |(-1 + ρ)⁻¹ * (1 + ρ)| = (1 + ρ) / (1 - ρ) := by
  rw [show -1 + ρ = -(1 - ρ) by ring, inv_neg, neg_mul, abs_neg, ← div_eq_inv_mul]
  exact abs_of_pos (div_pos (by linarith) (by linarith))

theorem abs_ratio_of_one_lt {ρ : ℝ} (h : 1 < ρ) :
    |(-1 + ρ)⁻¹ * (1 + ρ)| = (ρ + 1) / (ρ - 1) := by
  rw [abs_of_pos (mul_pos (inv_pos.mpr (by linarith)) (by linarith))]
  ring

theorem log_ratio (ρ : ℝ) :
    Real.log ((ρ - 1) / (ρ + 1)) = -Real.log |(-1 + ρ)⁻¹ * (1 + ρ)| := by
  rw [Real.log_abs, ← Real.log_inv, mul_inv, inv_inv, div_eq_mul_inv]
  ring_nf

theorem ofReal_ratio (ρ : ℝ) :
    ((ρ : ℂ) - 1) / ((ρ : ℂ) + 1) = (((ρ - 1) / (ρ + 1) : ℝ) : ℂ) := by
  push_cast; rfl

/-- for `ρ < 1` the ratio is a negative real: `log w = log|w| + iπ` -/
theorem clog_ratio_of_lt_one {ρ : ℝ} (h0 : 0 ≤ ρ) (h1 : ρ < 1) :
    Complex.log (((ρ : ℂ) - 1) / ((ρ : ℂ) + 1))
      = -((Real.log |(-1 + ρ)⁻¹ * (1 + ρ)| : ℝ) : ℂ) + (Real.pi : ℂ) * Complex.I := by
  have hneg : (ρ - 1) / (ρ + 1) < 0 := div_neg_of_neg_of_pos (by linarith) (by linarith)
  rw [ofReal_ratio, clog_ofReal_of_neg hneg, Real.log_neg_eq_log, log_ratio, Complex.ofReal_neg]

theorem clog_ratio_of_one_lt {ρ : ℝ} (h : 1 < ρ) :
    Complex.log (((ρ : ℂ) - 1) / ((ρ : ℂ) + 1))
      = -((Real.log |(-1 + ρ)⁻¹ * (1 + ρ)| : ℝ) : ℂ) := by
  have hpos : 0 < (ρ - 1) / (ρ + 1) := div_pos (by linarith) (by linarith)
  rw [ofReal_ratio, clog_ofReal_of_pos hpos, log_ratio, Complex.ofReal_neg]

/-- Equal masses: with `r = √s`, `c = √q²` (any branches, only `4c² = r² - 4m²` matters) and
`ρ = 2c/r`, the argument of the Chew–Mandelstam logarithm is `(ρ-1)/(ρ+1)`. -/
theorem cm_arg_equal {r c m : ℂ} (hr : r ≠ 0) (hm : m ≠ 0)
    (hrel : 4 * c ^ 2 = r ^ 2 - 4 * m ^ 2) :
    1 / 2 * m⁻¹ * m⁻¹ * (m ^ 2 + m ^ 2 + -1 * r ^ 2 + 2 * r * c)
      = (2 * r⁻¹ * c - 1) / (2 * r⁻¹ * c + 1) := by
  have hne : 2 * r⁻¹ * c + 1 ≠ 0 := by
    intro h
    have h2 : 2 * c + r = 0 := by
      calc 2 * c + r = r * (2 * r⁻¹ * c + 1) := by field_simp
        _ = 0 := by rw [h, mul_zero]
    have : m ^ 2 = 0 := by linear_combination (1 / 4 : ℂ) * hrel + (1 / 4) * (r - 2 * c) * h2
    exact hm (pow_eq_zero_iff two_ne_zero |>.mp this)
  rw [eq_div_iff hne]
  field_simp
  linear_combination r * hrel

theorem cm_equal {s m : ℝ} (hm : 0 < m) (hs : s ≠ 0) :
    chewMandelstamSWave s m m
      = ((Real.pi⁻¹ : ℝ) : ℂ) * (PhaseSpaceFactorComplex s m m
          * Complex.log ((PhaseSpaceFactorComplex s m m - 1)
              / (PhaseSpaceFactorComplex s m m + 1))) := by
  have hr : ((s : ℝ) : ℂ) ^ ((1 : ℂ) / 2) ≠ 0 := csqrt_ne_zero (Complex.ofReal_ne_zero.mpr hs)
  have hm' : (m : ℂ) ≠ 0 := by exact_mod_cast hm.ne'
  have hrel : 4 * ComplexSqrt (BreakupMomentumSquared s m m) ^ 2
      = (((s : ℝ) : ℂ) ^ ((1 : ℂ) / 2)) ^ 2 - 4 * (m : ℂ) ^ 2 := by
    rw [csqrt_sq, ComplexSqrt_sq, q2_equal hs]; push_cast; ring
  have harg := cm_arg_equal hr hm' hrel
  rw [csqrt_sq] at harg
  unfold chewMandelstamSWave PhaseSpaceFactorComplex
  push_cast
  rw [← harg]
  ring

/-- `sin(2·arctan t) = 2t/(1+t²)`, `cos(2·arctan t) = 2/(1+t²) - 1` -/
theorem sin_two_arctan (t : ℝ) : Real.sin (2 * Real.arctan t) = 2 * t / (1 + t ^ 2) := by
  have hpos : 0 < 1 + t ^ 2 := by positivity
  rw [Real.sin_two_mul, Real.sin_arctan, Real.cos_arctan]
  have h : Real.sqrt (1 + t ^ 2) * Real.sqrt (1 + t ^ 2) = 1 + t ^ 2 := Real.mul_self_sqrt hpos.le
  have hne : Real.sqrt (1 + t ^ 2) ≠ 0 := (Real.sqrt_pos.mpr hpos).ne'
  field_simp
  rw [Real.sq_sqrt hpos.le]

theorem cos_two_arctan (t : ℝ) : Real.cos (2 * Real.arctan t) = 2 / (1 + t ^ 2) - 1 := by
  rw [Real.cos_two_mul, Real.cos_sq_arctan]; ring

/-- for `ρ > 0` the ratio is the unit complex number `exp(2i·arctan(1/ρ))`, and
`2·arctan(1/ρ) ∈ (0, π)` is its principal argument -/
theorem clog_ratio_I {ρ : ℝ} (h : 0 < ρ) :
    Complex.log ((Complex.I * (ρ : ℂ) - 1) / (Complex.I * (ρ : ℂ) + 1))
      = ((2 * Real.arctan ρ⁻¹ : ℝ) : ℂ) * Complex.I := by
  have hα0 : 0 < Real.arctan ρ⁻¹ := Real.arctan_pos.mpr (inv_pos.mpr h)
  have hα1 := Real.arctan_lt_pi_div_two ρ⁻¹
  have hne : Complex.I * (ρ : ℂ) + 1 ≠ 0 := fun h0 => by simpa using congrArg Complex.re h0
  have hc : Real.cos (2 * Real.arctan ρ⁻¹) - Real.sin (2 * Real.arctan ρ⁻¹) * ρ = -1 := by
    rw [cos_two_arctan, sin_two_arctan]; field_simp; ring
  have hs : Real.cos (2 * Real.arctan ρ⁻¹) * ρ + Real.sin (2 * Real.arctan ρ⁻¹) = ρ := by
    rw [cos_two_arctan, sin_two_arctan]; field_simp; ring
  have hc' : ((Real.cos (2 * Real.arctan ρ⁻¹) : ℝ) : ℂ)
      - ((Real.sin (2 * Real.arctan ρ⁻¹) : ℝ) : ℂ) * (ρ : ℂ) = -1 := by exact_mod_cast hc
  have hs' : ((Real.cos (2 * Real.arctan ρ⁻¹) : ℝ) : ℂ) * (ρ : ℂ)
      + ((Real.sin (2 * Real.arctan ρ⁻¹) : ℝ) : ℂ) = (ρ : ℂ) := by exact_mod_cast hs
  have hexp : Complex.exp (((2 * Real.arctan ρ⁻¹ : ℝ) : ℂ) * Complex.I)
      = (Complex.I * (ρ : ℂ) - 1) / (Complex.I * (ρ : ℂ) + 1) := by
    rw [eq_div_iff hne, Complex.exp_mul_I, ← Complex.ofReal_cos, ← Complex.ofReal_sin]
    linear_combination hc' + Complex.I * hs'
      + ((Real.sin (2 * Real.arctan ρ⁻¹) : ℝ) : ℂ) * (ρ : ℂ) * Complex.I_sq
  rw [← hexp]
  apply Complex.log_exp <;> rw [Complex.im_ofReal_mul, Complex.I_im] <;> linarith [Real.pi_pos]

/-- `ρ̂ > 0` and the Chew–Mandelstam function for `0 < s < 4m²`, equal masses. -/
theorem cm_equal_sub {s m : ℝ} (hm : 0 < m) (hs : 0 < s) (h : s < 4 * m ^ 2) :
    0 < PhaseSpaceFactorAbs s m m ∧
    chewMandelstamSWave s m m
      = ((Real.pi⁻¹ : ℝ) : ℂ) * ((Complex.I * ((PhaseSpaceFactorAbs s m m : ℝ) : ℂ))
          * (((2 * Real.arctan (PhaseSpaceFactorAbs s m m)⁻¹ : ℝ) : ℂ) * Complex.I)) := by
  have hq := q2_equal_neg hs.ne' h
  have hρ := rhoAbs_pos hs.ne' hq.ne
  exact ⟨hρ, by rw [cm_equal hm hs.ne', rhoComplex_of_pos_neg hs.le hq, clog_ratio_I hρ]⟩

end Ampverif.Lemmas.C11
