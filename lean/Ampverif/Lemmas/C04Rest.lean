/-
C04, layer (K) — the helicity-frame transformation takes the subsystem to rest:
`helframe P · P = (m, 0, 0, 0)` with `m = √(E² − |p|²)`, and a momentum along `p` stays on the z axis.
-/
import Ampverif.Lemmas.C04Covariance

namespace Ampverif.Lemmas.C04
open Matrix Ampverif.Gen.C04

/-- after the two rotations the subsystem momentum is `(E, 0, 0, |p|)` -/
theorem rotated_subsystem (P : Fin 4 → ℝ) (hP : 0 < nrm (sp P)) :
    emb ((hframe (phiOf (sp P)) (thetaOf (sp P)))ᵀ) *ᵥ P = ![P 0, 0, 0, nrm (sp P)] := by
  rw [emb_mulVec, hframe_transpose_apply (sp P) hP]
  ext i
  fin_cases i <;> simp [ez]

theorem helframe_self (P : Fin 4 → ℝ) (hP : 0 < nrm (sp P)) (hE : P 0 ≠ 0) :
    helframe P *ᵥ P
      = ![gam (nrm (sp P) / P 0) * (P 0 - nrm (sp P) / P 0 * nrm (sp P)), 0, 0, 0] := by
  rw [helframe_eq, ← Matrix.mulVec_mulVec, rotated_subsystem P hP, BoostZ_eq]
  ext i
  fin_cases i <;> simp [Matrix.mulVec, dotProduct, Fin.sum_univ_four]
  · ring
  · field_simp
    ring

end Ampverif.Lemmas.C04
