/-
Lemmas for the C13 selector model: one assignment step, the fold over a history, the default of a
parameter as a function of its name.
-/
import Ampverif.Model.C13Selector
import Ampverif.Lemmas.C01Lists

namespace Ampverif.Model.C13
open Ampverif.Model.C01

theorem choice_init (ds : List Decay) (d : Decay) :
    choice (init ds) d = if d ∈ ds then some nonDynamic else none := by
  unfold init choice
  rw [dictGet?_foldl_dictSet (fun d => d) (fun _ => nonDynamic)]
  cases h : ds.reverse.find? (fun x => x = d) with
  | some x =>
    have hx : x = d := by simpa using List.find?_some h
    have hm : d ∈ ds := hx ▸ List.mem_reverse.1 (List.mem_of_find?_eq_some h)
    rw [if_pos hm]
  | none =>
    have hm : d ∉ ds := fun hm => by simpa using List.find?_eq_none.1 h d (List.mem_reverse.2 hm)
    rw [if_neg hm]
    rfl

theorem dictGet?_setByName (ctx : Ctx) (s : Name) (b : BuilderId) (m : Choices) (d : Decay) :
    dictGet? d (setByName ctx s b m)
      = (dictGet? d m).map (fun cur => if ctx.pname d.1.pidx = s then b else cur) := by
  induction m with
  | nil => simp [setByName, dictGet?]
  | cons kv rest ih =>
    obtain ⟨k0, v0⟩ := kv
    simp only [setByName, List.map_cons] at ih ⊢
    by_cases hk : k0 = d
    · subst hk
      by_cases hn : ctx.pname k0.1.pidx = s <;> simp [dictGet?, hn]
    · by_cases hn : ctx.pname k0.1.pidx = s <;> simp [dictGet?, hn, hk, ih]

/-- the selections that can add a key -/
def directly (ctx : Ctx) (sel : Sel) (d : Decay) : Bool :=
  match sel with
  | .byDecay d' => decide (d' = d)
  | .byNode t n => decide (ctx.decayAt t n = some d)
  | _ => false

/-- one assignment: a key gets the builder if the selection denotes it, a decay that is not a key only
becomes one by a direct selection -/
theorem choice_assign (ctx : Ctx) (m : Choices) (op : Op) (d : Decay) :
    choice (assign ctx m op) d
      = match choice m d with
        | some cur => some (if denotes ctx op.sel d then op.b else cur)
        | none => if directly ctx op.sel d then some op.b else none := by
  obtain ⟨sel, b⟩ := op
  unfold choice assign denotes directly
  cases sel with
  | byName s => simp only [dictGet?_setByName]; cases dictGet? d m <;> simp
  | byParticle p => simp only [dictGet?_setByName]; cases dictGet? d m <;> simp
  | byDecay d' => simp only [dictGet?_dictSet]; cases dictGet? d m <;> simp [apply_ite some]
  | byNode t n =>
    cases hda : ctx.decayAt t n with
    | none => simp only [hda]; cases dictGet? d m <;> simp
    | some d' =>
      simp only [hda, dictGet?_dictSet, Option.some.injEq]
      cases dictGet? d m <;> simp [apply_ite some]
  | unsupported => cases dictGet? d m <;> simp

theorem directly_eq_false (ctx : Ctx) (sel : Sel) (d : Decay)
    (h : ∀ d', (sel = .byDecay d' ∨ ∃ t n, sel = .byNode t n ∧ ctx.decayAt t n = some d') → d' ≠ d) :
    directly ctx sel d = false := by
  cases sel with
  | byDecay d' => exact decide_eq_false (h d' (.inl rfl))
  | byNode t n => exact decide_eq_false fun hda => h d (.inr ⟨t, n, rfl, hda⟩) rfl
  | _ => rfl

theorem choice_fold_present (ctx : Ctx) (ops : List Op) (d : Decay) :
    ∀ (m : Choices) (cur : BuilderId), choice m d = some cur →
      choice (ops.foldl (assign ctx) m) d = some ((lastDenoting ctx ops d).getD cur) := by
  induction ops with
  | nil => intro m cur h; simpa [lastDenoting] using h
  | cons op rest ih =>
    intro m cur h
    simp only [List.foldl_cons]
    rw [ih _ _ (by rw [choice_assign, h])]
    simp only [lastDenoting]
    cases lastDenoting ctx rest d with
    | some b => simp
    | none => by_cases hden : denotes ctx op.sel d = true <;> simp [hden]

theorem choice_fold_absent (ctx : Ctx) (ops : List Op) (d : Decay)
    (hdirect : ∀ op ∈ ops, directly ctx op.sel d = false) :
    ∀ (m : Choices), choice m d = none → choice (ops.foldl (assign ctx) m) d = none := by
  induction ops with
  | nil => intro m h; exact h
  | cons op rest ih =>
    intro m h
    refine ih (fun op' hop' => hdirect op' (List.mem_cons_of_mem _ hop')) _ ?_
    rw [choice_assign, h, hdirect op List.mem_cons_self]
    rfl

theorem lastDenoting_eq_none (ctx : Ctx) (ops : List Op) (d : Decay)
    (h : ∀ op ∈ ops, denotes ctx op.sel d = false) : lastDenoting ctx ops d = none := by
  induction ops with
  | nil => rfl
  | cons op rest ih =>
    simp only [lastDenoting, ih (fun op' hop' => h op' (List.mem_cons_of_mem _ hop')),
      h op List.mem_cons_self]
    rfl

/-- if equal names always come with equal values, the collected default of a name is the value of ANY of its writers -/
theorem collect_consistent (ws : List (Name × Val))
    (hcons : ∀ a ∈ ws, ∀ b ∈ ws, a.1 = b.1 → a.2 = b.2) :
    ∀ kv ∈ ws, dictGet? kv.1 (collect ws) = some kv.2 := by
  intro kv hkv
  unfold collect
  rw [dictGet?_foldl_dictSet (fun kv : Name × Val => kv.1) (fun kv => kv.2)]
  cases h : ws.reverse.find? (fun x => x.1 = kv.1) with
  | some x =>
    have hx : x.1 = kv.1 := by simpa using List.find?_some h
    exact congrArg some (hcons x (List.mem_reverse.1 (List.mem_of_find?_eq_some h)) kv hkv hx)
  | none => simpa using List.find?_eq_none.1 h kv (List.mem_reverse.2 hkv)

theorem chain_decay_mem (r : Reaction) (t : Transition) (ht : t ∈ r.transitions) (ch : Chain) (hch : ch ∈ t.chains)
    (ni : NodeInfo) (hni : ni ∈ (r.tree ch.topo).infos) :
    dkey ch.states t.inters ni ∈ initialDecays true r := by
  simp only [initialDecays, if_true, chainDecays, List.mem_flatMap, List.mem_map]
  exact ⟨t, ht, ch, hch, ni, hni, rfl⟩

/-- what is between the first `{` (123) and the last character of a parameter name -/
def identOf (n : Name) : Name := ((n.dropWhile (· ≠ 123)).drop 1).dropLast

/-- the default of a parameter as a function of its name: `m_{…}` mass, `\Gamma_{…}` width, else `one`
(109 is `m`, 92 the backslash) -/
def defaultOf (one : Val) (pi : PInfo) (n : Name) : Val :=
  match n.head? with
  | some 109 => pi.mass
  | some 92 => pi.width
  | _ => one

/-- every write of a builder is determined by the parameter's name and the table values of the particle
whose identifier the name carries -/
theorem builderDefaults_spec (one : Val) (k : Kind) (p : Particle) (pi : PInfo) (a : Name × Val)
    (h : a ∈ builderDefaults one k p pi) : identOf a.1 = p.ident ∧ a.2 = defaultOf one pi a.1 := by
  have hm : identOf (resMass p) = p.ident := by simp [identOf, resMass, List.dropWhile]
  have hw : identOf (resWidth p) = p.ident := by simp [identOf, resWidth, List.dropWhile]
  have hr : identOf (resRadius p) = p.ident := by simp [identOf, resRadius, List.dropWhile]
  have hc : identOf (customPar p) = p.ident := by simp [identOf, customPar, List.dropWhile]
  cases k <;> simp only [builderDefaults, List.mem_cons, List.not_mem_nil, or_false] at h
  · rcases h with rfl | rfl
    · exact ⟨hm, rfl⟩
    · exact ⟨hw, rfl⟩
  · rcases h with rfl | rfl | rfl
    · exact ⟨hm, rfl⟩
    · exact ⟨hw, rfl⟩
    · exact ⟨hr, rfl⟩
  · subst h; exact ⟨hr, rfl⟩
  · subst h; exact ⟨hc, rfl⟩

end Ampverif.Model.C13
