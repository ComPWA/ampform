/-
Helper lemmas for C14: `subs`/`xreplace` keyed by an arbitrary sub-term (`substT`, `xreplaceT`).
* with symbol keys they are the symbol-keyed `subst1`/`xreplace` (so every theorem about those
  transfers), pool sums with term-valued pools included;
* a key whose head (array symbol, applied function, indexed symbol, folded instance) does not occur
  in a class template is replaced inside the arguments only: substitution lemma for templates.
-/
import Ampverif.Lemmas.C14Unfold

namespace Ampverif.Lemmas.C14
open Ampverif.Model

theorem eqv_sym_right (e : Expr) (x : Sym) :
    Expr.eqv e (.sym x) = (match e with | .sym s => decide (s = x) | _ => false) := by
  cases e <;> simp [Expr.eqv, Expr.eqvWith]

theorem substT_sym (v : Variant) (hv : v.sound) (x : Sym) (a : Expr) (e : Expr) :
    substT v (.sym x) a e = subst1 v x a e := by
  induction e using Expr.induct with
  | sym s => by_cases h : s = x <;> simp [substT, subst1, eqv_sym_right, h]
  | rat q => simp [substT, subst1, eqv_sym_right]
  | pow b n ih => simp [substT, subst1, eqv_sym_right, ih]
  | psum b ixs ihb ihx =>
    by_cases hx : x ∈ names ixs
    · simp [substT, subst1, eqv_sym_right, hv.2, symKeyIn, hx]
    · simp only [substT, subst1, eqv_sym_right, hv.2, symKeyIn, List.contains_eq_mem, hx, ihb,
        substTBinders_eq_map, subst1Binders_eq_map, decide_false, Bool.false_eq_true, if_false, if_true]
      rw [map_pools_congr ihx]
  | add es ih | mul es ih | app _ es ih | node _ es _ ih | idx _ es ih =>
    simp only [substT, subst1, sound_ite hv, eqv_sym_right, Bool.false_eq_true, if_false,
      substTList_eq_map, subst1List_eq_map, List.map_congr_left ih]

theorem substTList_sym (v : Variant) (hv : v.sound) (x : Sym) (a : Expr) :
    ∀ es : List Expr, substTList v (.sym x) a es = subst1List v x a es := by
  intro es
  rw [substTList_eq_map, subst1List_eq_map]
  exact List.map_congr_left fun e _ => substT_sym v hv x a e

theorem substTBinders_sym (v : Variant) (hv : v.sound) (x : Sym) (a : Expr) :
    ∀ ixs : List (Sym × List Expr), substTBinders v (.sym x) a ixs = subst1Binders v x a ixs := by
  intro ixs
  rw [substTBinders_eq_map, subst1Binders_eq_map]
  exact map_pools_congr fun _ _ e _ => substT_sym v hv x a e

/-- a replacement map with symbol keys, as a map with term keys. -/
def symKeys (σ : List (Sym × Expr)) : List (Expr × Expr) := σ.map (fun p => (Expr.sym p.1, p.2))

/-- only a symbol is found among symbol keys. -/
theorem lookupT_symKeys (σ : List (Sym × Expr)) (e : Expr) :
    lookupT (symKeys σ) e = (match e with | .sym s => lookup σ s | _ => none) := by
  induction σ with
  | nil => cases e <;> rfl
  | cons p σ ih =>
    have ih' : lookupT (σ.map (fun p => (Expr.sym p.1, p.2))) e = _ := ih
    cases e <;> simp [symKeys, lookupT, lookup, eqv_sym_right, ih']

theorem dropBoundKeys_symKeys (ns : List Sym) (σ : List (Sym × Expr)) :
    dropBoundKeys ns (symKeys σ) = symKeys (σ.filter (fun p => !ns.contains p.1)) := by
  unfold dropBoundKeys symKeys
  rw [List.filter_map]
  congr 1

theorem xreplaceT_symKeys (v : Variant) (hv : v.sound) (e : Expr) (σ : List (Sym × Expr)) :
    xreplaceT v e (symKeys σ) = xreplace v e σ := by
  induction e using Expr.induct generalizing σ with
  | sym | rat => simp [xreplaceT, xreplace, lookupT_symKeys]
  | pow b n ih => simp [xreplaceT, xreplace, lookupT_symKeys, ih]
  | psum b ixs ihb ihx =>
    simp only [xreplaceT, xreplace_psum hv, hv.2, if_true, dropBoundKeys_symKeys, lookupT_symKeys,
      Option.getD_none, ihb, xreplaceTBinders_eq_map, xreplaceBinders_eq_map]
    rw [map_pools_congr fun p hp e he => ihx p hp e he _]
  | add es ih | mul es ih | app _ es ih | node _ es _ ih | idx _ es ih =>
    simp only [xreplaceT, xreplace, sound_ite hv, lookupT_symKeys, Option.getD_none,
      xreplaceTList_eq_map, xreplaceList_eq_map, List.map_congr_left fun e he => ih e he σ]

theorem xreplaceTList_symKeys (v : Variant) (hv : v.sound) :
    ∀ (es : List Expr) (σ : List (Sym × Expr)), xreplaceTList v es (symKeys σ) = xreplaceList v es σ := by
  intro es σ
  rw [xreplaceTList_eq_map, xreplaceList_eq_map]
  exact List.map_congr_left fun e _ => xreplaceT_symKeys v hv e σ

theorem xreplaceTBinders_symKeys (v : Variant) (hv : v.sound) :
    ∀ (ixs : List (Sym × List Expr)) (σ : List (Sym × Expr)),
      xreplaceTBinders v ixs (symKeys σ) = xreplaceBinders v ixs σ := by
  intro ixs σ
  rw [xreplaceTBinders_eq_map, xreplaceBinders_eq_map]
  exact map_pools_congr fun _ _ e _ => xreplaceT_symKeys v hv e σ

theorem headOf_of_eqv (e old : Expr) (h : String) (ho : headOf old = some h)
    (he : Expr.eqv e old = true) : headOf e = some h := by
  cases old <;> simp only [headOf, reduceCtorEq] at ho <;> cases e <;>
    simp_all [Expr.eqv, Expr.eqvWith, headOf]

/-- a key with head `h` is `==` to no term with another head or none. -/
theorem eqv_false_of_headOf_ne (e old : Expr) (h : String) (ho : headOf old = some h)
    (hne : headOf e ≠ some h) : Expr.eqv e old = false :=
  Bool.eq_false_iff.mpr fun hq => hne (headOf_of_eqv e old h ho hq)

/-- substitution lemma for class templates and term keys: a key whose head does not occur in the
template is replaced in the inserted arguments only. -/
theorem substT_xreplace_template (v : Variant) (hv : v.sound) (old new : Expr) (h : String)
    (ho : headOf old = some h) (π : List (Sym × Expr)) (T : Expr) (hn : noPsum T = true)
    (hh : h ∉ heads T) :
    substT v old new (xreplace v T π) = xreplace v T (π.map (fun p => (p.1, substT v old new p.2))) := by
  have hne : ∀ e, headOf e ≠ some h → Expr.eqv e old = false := fun e => eqv_false_of_headOf_ne e old h ho
  have hhead : ∀ s : String, s ≠ h → some s ≠ some h := fun s hs he => hs (Option.some.inj he)
  exact map_xreplace_template v hv (substT v old new) (· ≠ h) π
    (fun q => by simp [substT, hne (.rat q) nofun])
    (fun es => by simp [substT, hne (.add es) nofun, substTList_eq_map])
    (fun es => by simp [substT, hne (.mul es) nofun, substTList_eq_map])
    (fun b n => by simp [substT, hne (.pow b n) nofun])
    (fun f es hf => by simp [substT, hne (.app f es) (hhead _ hf), substTList_eq_map])
    (fun c es t hc => by simp [substT, hne (.node c es t) (hhead _ hc), hv.1, substTList_eq_map])
    (fun f es hf => by simp [substT, hne (.idx f es) (hhead _ hf), substTList_eq_map])
    T hn (fun s _ _ => by simp [substT, hne (.sym s) nofun]) (fun h' hh' he => hh (he ▸ hh'))

theorem substTList_xreplace_template (v : Variant) (hv : v.sound) (old new : Expr) (h : String)
    (ho : headOf old = some h) (π : List (Sym × Expr)) :
    ∀ Ts : List Expr, noPsumList Ts = true → h ∉ headsList Ts →
      substTList v old new (xreplaceList v Ts π)
        = xreplaceList v Ts (π.map (fun p => (p.1, substT v old new p.2))) := by
  intro Ts hn hh
  have hf : ∀ es, Expr.eqv (.add es) old = false := fun es => eqv_false_of_headOf_ne _ old h ho nofun
  simpa [xreplace, substT, hf] using substT_xreplace_template v hv old new h ho π (.add Ts) hn hh

end Ampverif.Lemmas.C14
