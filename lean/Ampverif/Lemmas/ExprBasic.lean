/-
Structural facts about the term model `Expr` (core Lean only): structural induction with membership
hypotheses for argument lists and pools, the list and binder recursors of the model as maps, joins
and conjunctions, binder lists whose pools are mapped, and the equations of `subst1`/`xreplace` on
instances and pool sums under the sound variant.
-/
import Ampverif.Model.Expr

namespace Ampverif.Model

/-- Structural induction on terms: the hypothesis for an argument list is "for every member", for
the binders of a pool sum "for every value of every pool". -/
theorem Expr.induct {P : Expr → Prop}
    (sym : ∀ s, P (.sym s)) (rat : ∀ q, P (.rat q))
    (add : ∀ es, (∀ e ∈ es, P e) → P (.add es))
    (mul : ∀ es, (∀ e ∈ es, P e) → P (.mul es))
    (pow : ∀ b n, P b → P (.pow b n))
    (app : ∀ f es, (∀ e ∈ es, P e) → P (.app f es))
    (node : ∀ c es t, (∀ e ∈ es, P e) → P (.node c es t))
    (psum : ∀ b ixs, P b → (∀ p ∈ ixs, ∀ e ∈ p.2, P e) → P (.psum b ixs))
    (idx : ∀ f es, (∀ e ∈ es, P e) → P (.idx f es)) : ∀ e, P e :=
  Expr.rec (motive_1 := P) (motive_2 := fun es => ∀ e ∈ es, P e)
    (motive_3 := fun ixs => ∀ p ∈ ixs, ∀ e ∈ p.2, P e) (motive_4 := fun p => ∀ e ∈ p.2, P e)
    sym rat add mul pow app node psum idx
    (fun _ h => nomatch h)
    (fun _ _ h ih e he => (List.mem_cons.mp he).elim (fun h' => h' ▸ h) (ih e))
    (fun _ h => nomatch h)
    (fun _ _ h ih p hp => (List.mem_cons.mp hp).elim (fun h' => h' ▸ h) (ih p))
    (fun _ _ h => h)

theorem evalList_eq_map (I : Interp) (es : List Expr) (ρ : Env) :
    evalList I es ρ = es.map (fun e => eval I e ρ) := by
  induction es <;> simp_all [evalList]

theorem subst1List_eq_map (v : Variant) (x : Sym) (a : Expr) (es : List Expr) :
    subst1List v x a es = es.map (subst1 v x a) := by
  induction es <;> simp_all [subst1List]

theorem xreplaceList_eq_map (v : Variant) (es : List Expr) (σ : List (Sym × Expr)) :
    xreplaceList v es σ = es.map (fun e => xreplace v e σ) := by
  induction es <;> simp_all [xreplaceList]

theorem substTList_eq_map (v : Variant) (old new : Expr) (es : List Expr) :
    substTList v old new es = es.map (substT v old new) := by
  induction es <;> simp_all [substTList]

theorem xreplaceTList_eq_map (v : Variant) (es : List Expr) (σ : List (Expr × Expr)) :
    xreplaceTList v es σ = es.map (fun e => xreplaceT v e σ) := by
  induction es <;> simp_all [xreplaceTList]

theorem doitPassList_eq_map (v : Variant) (k : Expr → Expr) (es : List Expr) :
    doitPassList v k es = es.map (doitPass v k) := by
  induction es <;> simp_all [doitPassList]

theorem mapAttrsList_eq_map (f : Attr → Attr) (es : List Expr) :
    mapAttrsList f es = es.map (mapAttrs f) := by
  induction es <;> simp_all [mapAttrsList]

theorem serialiseList_eq_map (v : Variant) (tbl : ClassTable) (es : List Expr) :
    serialiseList v tbl es = es.map (serialise v tbl) := by
  induction es <;> simp_all [serialiseList]

theorem freeList_eq_flatMap (es : List Expr) : freeList es = es.flatMap free := by
  induction es <;> simp_all [freeList]

theorem symsList_eq_flatMap (es : List Expr) : symsList es = es.flatMap syms := by
  induction es <;> simp_all [symsList]

theorem boundList_eq_flatMap (es : List Expr) : boundList es = es.flatMap bound := by
  induction es <;> simp_all [boundList]

theorem attrsOfList_eq_flatMap (es : List Expr) : attrsOfList es = es.flatMap attrsOf := by
  induction es <;> simp_all [attrsOfList]

theorem headsList_eq_flatMap (es : List Expr) : headsList es = es.flatMap heads := by
  induction es <;> simp_all [headsList]

theorem noPsumList_eq_all (es : List Expr) : noPsumList es = es.all noPsum := by
  induction es <;> simp_all [noPsumList]

theorem wfSumsList_eq_all (es : List Expr) : wfSumsList es = es.all wfSums := by
  induction es <;> simp_all [wfSumsList]

theorem wfTermList_eq_all (tbl : ClassTable) (es : List Expr) : wfTermList tbl es = es.all (wfTerm tbl) := by
  induction es <;> simp_all [wfTermList]

theorem psumDepthList_le {es : List Expr} {m : Nat} :
    psumDepthList es ≤ m ↔ ∀ e ∈ es, psumDepth e ≤ m := by
  induction es <;> simp_all [psumDepthList, Nat.max_le]

theorem evalBinders_eq_map (I : Interp) (ixs : List Binder) (ρ : Env) :
    evalBinders I ixs ρ = ixs.map (fun p => (p.1, p.2.map (fun e => eval I e ρ))) := by
  induction ixs <;> simp_all [evalBinders, evalList_eq_map]

theorem subst1Binders_eq_map (v : Variant) (x : Sym) (a : Expr) (ixs : List Binder) :
    subst1Binders v x a ixs = ixs.map (fun p => (p.1, p.2.map (subst1 v x a))) := by
  induction ixs <;> simp_all [subst1Binders, subst1List_eq_map]

theorem xreplaceBinders_eq_map (v : Variant) (ixs : List Binder) (σ : List (Sym × Expr)) :
    xreplaceBinders v ixs σ = ixs.map (fun p => (p.1, p.2.map (fun e => xreplace v e σ))) := by
  induction ixs <;> simp_all [xreplaceBinders, xreplaceList_eq_map]

theorem substTBinders_eq_map (v : Variant) (old new : Expr) (ixs : List Binder) :
    substTBinders v old new ixs = ixs.map (fun p => (p.1, p.2.map (substT v old new))) := by
  induction ixs <;> simp_all [substTBinders, substTList_eq_map]

theorem xreplaceTBinders_eq_map (v : Variant) (ixs : List Binder) (σ : List (Expr × Expr)) :
    xreplaceTBinders v ixs σ = ixs.map (fun p => (p.1, p.2.map (fun e => xreplaceT v e σ))) := by
  induction ixs <;> simp_all [xreplaceTBinders, xreplaceTList_eq_map]

theorem mapAttrsBinders_eq_map (f : Attr → Attr) (ixs : List Binder) :
    mapAttrsBinders f ixs = ixs.map (fun p => (p.1, p.2.map (mapAttrs f))) := by
  induction ixs <;> simp_all [mapAttrsBinders, mapAttrsList_eq_map]

theorem freeBinders_eq_flatMap (ixs : List Binder) :
    freeBinders ixs = ixs.flatMap (fun p => p.2.flatMap free) := by
  induction ixs <;> simp_all [freeBinders, freeList_eq_flatMap]

theorem symsBinders_eq_flatMap (ixs : List Binder) :
    symsBinders ixs = ixs.flatMap (fun p => p.2.flatMap syms) := by
  induction ixs <;> simp_all [symsBinders, symsList_eq_flatMap]

theorem mem_symsBinders {ixs : List Binder} {s : Sym} :
    s ∈ symsBinders ixs ↔ ∃ p ∈ ixs, ∃ e ∈ p.2, s ∈ syms e := by
  simp only [symsBinders_eq_flatMap, List.mem_flatMap]

theorem boundBinders_eq_flatMap (ixs : List Binder) :
    boundBinders ixs = ixs.flatMap (fun p => p.2.flatMap bound) := by
  induction ixs <;> simp_all [boundBinders, boundList_eq_flatMap]

theorem mem_boundBinders {ixs : List Binder} {s : Sym} :
    s ∈ boundBinders ixs ↔ ∃ p ∈ ixs, ∃ e ∈ p.2, s ∈ bound e := by
  simp only [boundBinders_eq_flatMap, List.mem_flatMap]

theorem attrsOfBinders_eq_flatMap (ixs : List Binder) :
    attrsOfBinders ixs = ixs.flatMap (fun p => p.2.flatMap attrsOf) := by
  induction ixs <;> simp_all [attrsOfBinders, attrsOfList_eq_flatMap]

theorem noPsumBinders_eq_all (ixs : List Binder) :
    noPsumBinders ixs = ixs.all (fun p => p.2.all noPsum) := by
  induction ixs <;> simp_all [noPsumBinders, noPsumList_eq_all]

theorem psumDepthBinders_le {ixs : List Binder} {m : Nat} :
    psumDepthBinders ixs ≤ m ↔ ∀ p ∈ ixs, ∀ e ∈ p.2, psumDepth e ≤ m := by
  induction ixs with
  | nil => simp [psumDepthBinders]
  | cons p ixs ih => simp only [psumDepthBinders, Nat.max_le, psumDepthList_le, ih, List.forall_mem_cons]

theorem map_eq_self {α : Type} {f : α → α} {l : List α} (h : ∀ a ∈ l, f a = a) : l.map f = l := by
  simpa using List.map_congr_left (g := id) h

theorem map_pools_congr {α β : Type} {f g : α → β} {ixs : List (Sym × List α)}
    (h : ∀ p ∈ ixs, ∀ a ∈ p.2, f a = g a) :
    ixs.map (fun p => (p.1, p.2.map f)) = ixs.map (fun p => (p.1, p.2.map g)) :=
  List.map_congr_left fun p hp => congrArg (Prod.mk p.1) (List.map_congr_left (h p hp))

theorem map_pools_eq_self {α : Type} {f : α → α} {ixs : List (Sym × List α)}
    (h : ∀ p ∈ ixs, ∀ a ∈ p.2, f a = a) : ixs.map (fun p => (p.1, p.2.map f)) = ixs :=
  map_eq_self (fun p hp => by rw [map_eq_self (h p hp)])

theorem names_cons {α : Type} (p : Sym × α) (rest : List (Sym × α)) :
    names (p :: rest) = p.1 :: names rest := rfl

theorem names_append {α : Type} (a b : List (Sym × α)) : names (a ++ b) = names a ++ names b := by
  simp [names]

theorem names_map_snd {α β : Type} (f : Sym × α → β) (ixs : List (Sym × α)) :
    names (ixs.map (fun p => (p.1, f p))) = names ixs := by
  simp [names, List.map_map, Function.comp_def]

theorem sizes_map_pools {α β : Type} (g : α → β) (ixs : List (Sym × List α)) :
    (ixs.map (fun p => (p.1, p.2.map g))).map (fun p => p.2.length) = ixs.map (fun p => p.2.length) := by
  simp [List.map_map, Function.comp_def]

theorem nonempty_map_pools {α β : Type} (g : α → β) {ixs : List (Sym × List α)}
    (h : ∀ p ∈ ixs, p.2 ≠ []) : ∀ p ∈ ixs.map (fun p => (p.1, p.2.map g)), p.2 ≠ [] := by
  intro p hp
  obtain ⟨q, hq, rfl⟩ := List.mem_map.mp hp
  simpa using h q hq

/-- `itertools.product` over mapped pools = the mapped combinations. -/
theorem assignments_map_pools {α β : Type} (g : α → β) (ixs : List (Sym × List α)) :
    assignments (ixs.map (fun p => (p.1, p.2.map g)))
      = (assignments ixs).map (List.map (fun p => (p.1, g p.2))) := by
  induction ixs with
  | nil => rfl
  | cons p rest ih =>
    simp only [List.map_cons, assignments, ih, List.flatMap_map, List.map_flatMap, List.map_map]
    rfl

/-- every value in a combination of `itertools.product` is a value of the pool of its index. -/
theorem assignments_mem {α : Type} {ixs : List (Sym × List α)} {c : List (Sym × α)} {p : Sym × α}
    (hc : c ∈ assignments ixs) (hp : p ∈ c) : ∃ q ∈ ixs, q.1 = p.1 ∧ p.2 ∈ q.2 := by
  induction ixs generalizing c with
  | nil => simp [assignments] at hc; simp [hc] at hp
  | cons b rest ih =>
    simp only [assignments, List.mem_flatMap, List.mem_map] at hc
    obtain ⟨a, ha, c', hc', rfl⟩ := hc
    rcases List.mem_cons.mp hp with rfl | h
    · exact ⟨b, List.mem_cons_self, rfl, ha⟩
    · obtain ⟨q, hq, h'⟩ := ih hc' h
      exact ⟨q, List.mem_cons_of_mem _ hq, h'⟩

theorem noPsumList_mem {es : List Expr} {a : Expr} (h : noPsumList es = true) (ha : a ∈ es) :
    noPsum a = true := by
  rw [noPsumList_eq_all, List.all_eq_true] at h
  exact h a ha

theorem noPsum_induct {P : Expr → Prop}
    (sym : ∀ s, P (.sym s)) (rat : ∀ q, P (.rat q))
    (add : ∀ es, (∀ e ∈ es, P e) → P (.add es))
    (mul : ∀ es, (∀ e ∈ es, P e) → P (.mul es))
    (pow : ∀ b n, P b → P (.pow b n))
    (app : ∀ f es, (∀ e ∈ es, P e) → P (.app f es))
    (node : ∀ c es t, (∀ e ∈ es, P e) → P (.node c es t))
    (idx : ∀ f es, (∀ e ∈ es, P e) → P (.idx f es)) : ∀ e, noPsum e = true → P e :=
  Expr.induct (P := fun e => noPsum e = true → P e) (fun s _ => sym s) (fun q _ => rat q)
    (fun es ih h => add es fun e he => ih e he (noPsumList_mem h he))
    (fun es ih h => mul es fun e he => ih e he (noPsumList_mem h he))
    (fun b n ih h => pow b n (ih h))
    (fun f es ih h => app f es fun e he => ih e he (noPsumList_mem h he))
    (fun c es t ih h => node c es t fun e he => ih e he (noPsumList_mem h he))
    (fun _ _ _ _ h => nomatch h)
    (fun f es ih h => idx f es fun e he => ih e he (noPsumList_mem h he))

/-- the branch for the recursive `_get_arguments` is never taken under the sound variant: with this
lemma beside `subst1`, `xreplace`, `substT` or `xreplaceT` in a simp set, instances rewrite like
function applications. -/
theorem sound_ite {v : Variant} (hv : v.sound) (t : List Attr) {α : Type} (x y : α) :
    (if (v.getArgsRecursive && !t.isEmpty) = true then x else y) = y := by
  simp [hv.1]

theorem subst1_node {v : Variant} (hv : v.sound) (x : Sym) (a : Expr) (c : String) (es : List Expr)
    (t : List Attr) : subst1 v x a (.node c es t) = .node c (subst1List v x a es) t := by
  simp [subst1, hv.1]

theorem xreplace_node {v : Variant} (hv : v.sound) (c : String) (es : List Expr) (t : List Attr)
    (σ : List (Sym × Expr)) : xreplace v (.node c es t) σ = .node c (xreplaceList v es σ) t := by
  simp [xreplace, hv.1]

theorem subst1_psum_mem {v : Variant} (hv : v.sound) {x : Sym} {a b : Expr} {ixs : List Binder}
    (h : x ∈ names ixs) : subst1 v x a (.psum b ixs) = .psum b ixs := by
  simp [subst1, hv.2, h]

theorem subst1_psum_not_mem {v : Variant} (hv : v.sound) {x : Sym} {a b : Expr} {ixs : List Binder}
    (h : x ∉ names ixs) :
    subst1 v x a (.psum b ixs) = .psum (subst1 v x a b) (subst1Binders v x a ixs) := by
  simp [subst1, hv.2, h]

theorem xreplace_psum {v : Variant} (hv : v.sound) (b : Expr) (ixs : List Binder) (σ : List (Sym × Expr)) :
    xreplace v (.psum b ixs) σ
      = .psum (xreplace v b (σ.filter (fun p => !(names ixs).contains p.1)))
          (xreplaceBinders v ixs (σ.filter (fun p => !(names ixs).contains p.1))) := by
  simp [xreplace, hv.2]

theorem xreplace_nil (v : Variant) (hv : v.sound) (e : Expr) : xreplace v e [] = e := by
  induction e using Expr.induct with
  | sym | rat => simp [xreplace, lookup]
  | pow b n ih => simp [xreplace, ih]
  | psum b ixs ihb ihx =>
    rw [xreplace_psum hv, List.filter_nil, ihb, xreplaceBinders_eq_map, map_pools_eq_self ihx]
  | node c es t ih => rw [xreplace_node hv, xreplaceList_eq_map, map_eq_self ih]
  | add es ih | mul es ih | app _ es ih | idx _ es ih =>
    simp only [xreplace, xreplaceList_eq_map, map_eq_self ih]

/-- `subs(x, a)` is `xreplace({x: a})` on this term language. -/
theorem subst1_eq_xreplace (v : Variant) (hv : v.sound) (x : Sym) (a : Expr) (e : Expr) :
    subst1 v x a e = xreplace v e [(x, a)] := by
  induction e using Expr.induct with
  | sym s => by_cases h : s = x <;> simp [subst1, xreplace, lookup, h]
  | rat => rfl
  | pow b n ih => simp [subst1, xreplace, ih]
  | psum b ixs ihb ihx =>
    by_cases hx : x ∈ names ixs
    · rw [subst1_psum_mem hv hx, xreplace_psum hv]
      simp [hx, xreplace_nil v hv, xreplaceBinders_eq_map]
    · rw [subst1_psum_not_mem hv hx, xreplace_psum hv, ihb, subst1Binders_eq_map,
        xreplaceBinders_eq_map]
      simp only [List.filter_cons, hx, List.contains_eq_mem, decide_false, Bool.not_false, if_true,
        List.filter_nil]
      rw [map_pools_congr ihx]
  | node c es t ih =>
    rw [subst1_node hv, xreplace_node hv, subst1List_eq_map, xreplaceList_eq_map, List.map_congr_left ih]
  | add es ih | mul es ih | app _ es ih | idx _ es ih =>
    simp only [subst1, xreplace, subst1List_eq_map, xreplaceList_eq_map, List.map_congr_left ih]

end Ampverif.Model

/- The list and binder forms of the last two facts are in the namespaces `Lemmas.C14` and `Lemmas.C18` and
stand in this file: `C18Subst` uses the `C14` pair without importing a C14 module, and `Props/C14` opens
`Lemmas.C18` without importing a C18 module. -/
namespace Ampverif.Lemmas.C14
open Ampverif.Model

theorem subst1List_eq_xreplace (v : Variant) (hv : v.sound) (x : Sym) (a : Expr) :
    ∀ es : List Expr, subst1List v x a es = xreplaceList v es [(x, a)] :=
  fun es => Expr.add.inj (subst1_eq_xreplace v hv x a (.add es))

theorem subst1Binders_eq_xreplace (v : Variant) (hv : v.sound) (x : Sym) (a : Expr) :
    ∀ ixs : List (Sym × List Expr), subst1Binders v x a ixs = xreplaceBinders v ixs [(x, a)] := by
  intro ixs
  rw [subst1Binders_eq_map, xreplaceBinders_eq_map]
  exact map_pools_congr fun _ _ e _ => subst1_eq_xreplace v hv x a e

end Ampverif.Lemmas.C14

namespace Ampverif.Lemmas.C18
open Ampverif.Model

theorem xreplaceList_nil (v : Variant) (hv : v.sound) : ∀ es : List Expr, xreplaceList v es [] = es :=
  fun es => Expr.add.inj (xreplace_nil v hv (.add es))

end Ampverif.Lemmas.C18
