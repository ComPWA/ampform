/-
Helper lemmas for C14: correctness of the executable equality tests.
`eqvWith f` (equality after mapping `f` over the non-SymPy attributes) holds exactly when `mapAttrs f`
gives the same term, and `mapAttrs f` is injective on terms whenever `f` is injective on the
attributes that occur; so `beq` decides equality, and `eqvWith f` is `beq` of the `mapAttrs f` images.
-/
import Ampverif.Lemmas.ExprBasic

namespace Ampverif.Lemmas.C14
open Ampverif.Model

theorem eqvWithList_iff_of {f : Attr → Attr} {as : List Expr}
    (h : ∀ a ∈ as, ∀ b, Expr.eqvWith f a b = true ↔ mapAttrs f a = mapAttrs f b) (bs : List Expr) :
    Expr.eqvWithList f as bs = true ↔ mapAttrsList f as = mapAttrsList f bs := by
  induction as generalizing bs with
  | nil => cases bs <;> simp [Expr.eqvWithList, mapAttrsList]
  | cons a as ih =>
    rw [List.forall_mem_cons] at h
    cases bs with
    | nil => simp [Expr.eqvWithList, mapAttrsList]
    | cons b bs => simp [Expr.eqvWithList, mapAttrsList, h.1 b, ih h.2 bs]

theorem eqvWithBinders_iff_of {f : Attr → Attr} {ixs : List Binder}
    (h : ∀ p ∈ ixs, ∀ a ∈ p.2, ∀ b, Expr.eqvWith f a b = true ↔ mapAttrs f a = mapAttrs f b)
    (jxs : List Binder) :
    Expr.eqvWithBinders f ixs jxs = true ↔ mapAttrsBinders f ixs = mapAttrsBinders f jxs := by
  induction ixs generalizing jxs with
  | nil => cases jxs <;> simp [Expr.eqvWithBinders, mapAttrsBinders]
  | cons p ixs ih =>
    rw [List.forall_mem_cons] at h
    cases jxs with
    | nil => simp [Expr.eqvWithBinders, mapAttrsBinders]
    | cons q jxs =>
      simp [Expr.eqvWithBinders, mapAttrsBinders, eqvWithList_iff_of h.1 q.2, ih h.2 jxs, and_assoc]

theorem eqvWith_iff (f : Attr → Attr) (a b : Expr) :
    Expr.eqvWith f a b = true ↔ mapAttrs f a = mapAttrs f b := by
  induction a using Expr.induct generalizing b with
  | sym | rat => cases b <;> simp [Expr.eqvWith, mapAttrs]
  | pow x n ih => cases b <;> simp [Expr.eqvWith, mapAttrs, ih]
  | psum x ixs ihx ihp =>
    cases b <;> simp [Expr.eqvWith, mapAttrs, ihx, eqvWithBinders_iff_of ihp]
  | add es ih | mul es ih | app _ es ih | node _ es _ ih | idx _ es ih =>
    cases b <;> simp [Expr.eqvWith, mapAttrs, eqvWithList_iff_of ih, and_assoc]

theorem eqvWithList_iff (f : Attr → Attr) (as bs : List Expr) :
    Expr.eqvWithList f as bs = true ↔ mapAttrsList f as = mapAttrsList f bs :=
  eqvWithList_iff_of (fun a _ => eqvWith_iff f a) bs

theorem eqvWithBinders_iff (f : Attr → Attr) (ixs jxs : List Binder) :
    Expr.eqvWithBinders f ixs jxs = true ↔ mapAttrsBinders f ixs = mapAttrsBinders f jxs :=
  eqvWithBinders_iff_of (fun _ _ a _ => eqvWith_iff f a) jxs

theorem eqvWith_refl (f : Attr → Attr) (a : Expr) : Expr.eqvWith f a a = true :=
  (eqvWith_iff f a a).mpr rfl

theorem eqvWithList_refl (f : Attr → Attr) : ∀ as : List Expr, Expr.eqvWithList f as as = true :=
  fun as => (eqvWithList_iff f as as).mpr rfl

theorem eqvWithBinders_refl (f : Attr → Attr) :
    ∀ bs : List (Sym × List Expr), Expr.eqvWithBinders f bs bs = true :=
  fun bs => (eqvWithBinders_iff f bs bs).mpr rfl

theorem mapAttrs_leftInv {f g : Attr → Attr} (e : Expr) (h : ∀ x ∈ attrsOf e, g (f x) = x) :
    mapAttrs g (mapAttrs f e) = e := by
  induction e using Expr.induct with
  | sym | rat => rfl
  | pow b n ih => simp only [mapAttrs, ih h]
  | psum b ixs ihb ihx =>
    simp only [attrsOf, attrsOfBinders_eq_flatMap, List.mem_append, List.mem_flatMap] at h
    simp only [mapAttrs, mapAttrsBinders_eq_map, List.map_map, Function.comp_def,
      ihb fun x hx => h x (Or.inl hx)]
    rw [map_pools_eq_self fun p hp e he => ihx p hp e he fun x hx => h x (Or.inr ⟨p, hp, e, he, hx⟩)]
  | node c es t ih =>
    simp only [attrsOf, attrsOfList_eq_flatMap, List.mem_append, List.mem_flatMap] at h
    simp only [mapAttrs, mapAttrsList_eq_map, List.map_map, Function.comp_def]
    rw [map_eq_self fun x hx => h x (Or.inl hx),
      map_eq_self fun e he => ih e he fun x hx => h x (Or.inr ⟨e, he, hx⟩)]
  | add es ih | mul es ih | app _ es ih | idx _ es ih =>
    simp only [attrsOf, attrsOfList_eq_flatMap, List.mem_flatMap] at h
    simp only [mapAttrs, mapAttrsList_eq_map, List.map_map, Function.comp_def]
    rw [map_eq_self fun e he => ih e he fun x hx => h x ⟨e, he, hx⟩]

/-- an `f` that is injective on the attributes with `P` has a left inverse on the finitely many
attributes of `a` and `b` (search them for a preimage), and so has `mapAttrs f`. -/
theorem mapAttrs_injOn {P : Attr → Prop} (f : Attr → Attr)
    (hinj : ∀ x y, P x → P y → f x = f y → x = y) (a b : Expr)
    (ha : ∀ x ∈ attrsOf a, P x) (hb : ∀ y ∈ attrsOf b, P y) (h : mapAttrs f a = mapAttrs f b) : a = b := by
  let g : Attr → Attr := fun y => ((attrsOf a ++ attrsOf b).find? (fun x => decide (f x = y))).getD y
  have hg : ∀ x ∈ attrsOf a ++ attrsOf b, g (f x) = x := by
    intro x hx
    have hP : ∀ z ∈ attrsOf a ++ attrsOf b, P z := fun z hz => (List.mem_append.mp hz).elim (ha z) (hb z)
    cases hfind : (attrsOf a ++ attrsOf b).find? (fun x' => decide (f x' = f x)) with
    | none => exact absurd (decide_eq_true rfl) (List.find?_eq_none.mp hfind x hx)
    | some x' =>
      simp only [g, hfind, Option.getD_some]
      exact hinj x' x (hP x' (List.mem_of_find?_eq_some hfind)) (hP x hx)
        (of_decide_eq_true (List.find?_some (p := fun x' => decide (f x' = f x)) hfind))
  rw [← mapAttrs_leftInv (f := f) (g := g) a fun x hx => hg x (List.mem_append_left _ hx), h,
    mapAttrs_leftInv b fun x hx => hg x (List.mem_append_right _ hx)]

theorem eqvWith_eq {P : Attr → Prop} (f : Attr → Attr)
    (hinj : ∀ x y, P x → P y → f x = f y → x = y) (a b : Expr) (ha : ∀ x ∈ attrsOf a, P x)
    (hb : ∀ y ∈ attrsOf b, P y) (h : Expr.eqvWith f a b = true) : a = b :=
  mapAttrs_injOn f hinj a b ha hb ((eqvWith_iff f a b).mp h)

theorem eqvWithList_eq {P : Attr → Prop} (f : Attr → Attr)
    (hinj : ∀ x y, P x → P y → f x = f y → x = y) :
    ∀ (as bs : List Expr), (∀ x ∈ attrsOfList as, P x) → (∀ y ∈ attrsOfList bs, P y) →
      Expr.eqvWithList f as bs = true → as = bs :=
  fun as bs ha hb h => Expr.add.inj (eqvWith_eq f hinj (.add as) (.add bs) ha hb h)

theorem eqvWithBinders_eq {P : Attr → Prop} (f : Attr → Attr)
    (hinj : ∀ x y, P x → P y → f x = f y → x = y) :
    ∀ (as bs : List (Sym × List Expr)), (∀ x ∈ attrsOfBinders as, P x) → (∀ y ∈ attrsOfBinders bs, P y) →
      Expr.eqvWithBinders f as bs = true → as = bs := by
  intro as bs ha hb h
  have := eqvWith_eq f hinj (.psum (.rat 0) as) (.psum (.rat 0) bs) (by simpa [attrsOf] using ha)
    (by simpa [attrsOf] using hb) (by simpa [Expr.eqvWith] using h)
  exact (Expr.psum.inj this).2

/-- the executable structural equality decides equality. -/
theorem beq_iff (a b : Expr) : Expr.beq a b = true ↔ a = b :=
  ⟨eqvWith_eq (P := fun _ => True) id (fun _ _ _ _ h => h) a b (fun _ _ => trivial) (fun _ _ => trivial),
    fun h => h ▸ eqvWith_refl id a⟩

theorem eqvWith_mapAttrs (f : Attr → Attr) (a b : Expr) :
    Expr.eqvWith f a b = Expr.eqvWith id (mapAttrs f a) (mapAttrs f b) :=
  Bool.eq_iff_iff.mpr ((eqvWith_iff f a b).trans (beq_iff _ _).symm)

theorem eqvWithList_mapAttrs (f : Attr → Attr) :
    ∀ as bs : List Expr, Expr.eqvWithList f as bs = Expr.eqvWithList id (mapAttrsList f as) (mapAttrsList f bs) :=
  fun as bs => eqvWith_mapAttrs f (.add as) (.add bs)

theorem eqvWithBinders_mapAttrs (f : Attr → Attr) :
    ∀ as bs : List (Sym × List Expr),
      Expr.eqvWithBinders f as bs = Expr.eqvWithBinders id (mapAttrsBinders f as) (mapAttrsBinders f bs) := by
  intro as bs
  simpa [Expr.eqvWith, mapAttrs] using eqvWith_mapAttrs f (.psum (.rat 0) as) (.psum (.rat 0) bs)

instance : DecidableEq Expr := fun a b =>
  if h : Expr.beq a b = true then isTrue ((beq_iff a b).mp h)
  else isFalse (fun e => h ((beq_iff a b).mpr e))

end Ampverif.Lemmas.C14
