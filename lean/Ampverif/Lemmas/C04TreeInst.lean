/-
C04, layer (I) for trees — the `RepFamily` that provides the spins 0 and 1: J = 0 trivial, J = 1 the
matrix `U R U†` of `C04Inst.lean` (which IS SymPy's D¹, `sympy_D1_eq`) with integer-indexed entries.
It makes `intensity_rotated` unconditional for every tree whose spins are 0 or 1.
-/
import Ampverif.Lemmas.C04Tree
import Ampverif.Lemmas.C04Inst
namespace Ampverif.Lemmas.C04
open Matrix

theorem projs_two : projs 2 = {-2, 0, 2} := by decide

/-- doubled projection ↦ row/column of the J = 1 matrix (order m = +1, 0, −1) -/
def toIdx (m : ℤ) : Option (Fin 3) :=
  if m = 2 then some 0 else if m = 0 then some 1 else if m = -2 then some 2 else none

theorem toIdx_none {m : ℤ} (h : m ∉ projs 2) : toIdx m = none := by
  rw [projs_two] at h
  simp only [Finset.mem_insert, Finset.mem_singleton, not_or] at h
  simp [toIdx, h.1, h.2.1, h.2.2]

/-- integer-indexed entries of a 3×3 matrix -/
def ent (M : Matrix (Fin 3) (Fin 3) ℂ) (m m' : ℤ) : ℂ :=
  match toIdx m, toIdx m' with
  | some a, some b => M a b
  | _, _ => 0

theorem sum_projs_two (f : ℤ → ℂ) : ∑ k ∈ projs 2, f k = f (-2) + f 0 + f 2 := by
  rw [projs_two, Finset.sum_insert (by decide), Finset.sum_insert (by decide), Finset.sum_singleton]
  ring

theorem ent_mul (A B : Matrix (Fin 3) (Fin 3) ℂ) (m m' : ℤ) :
    ent (A * B) m m' = ∑ k ∈ projs 2, ent A m k * ent B k m' := by
  rw [sum_projs_two]
  unfold ent
  rcases hm : toIdx m with _ | a <;> rcases hm' : toIdx m' with _ | b <;>
    simp [toIdx, Matrix.mul_apply, Fin.sum_univ_three]
  ring


theorem ent_conjTranspose (M : Matrix (Fin 3) (Fin 3) ℂ) (m m' : ℤ) :
    ent Mᴴ m m' = star (ent M m' m) := by
  unfold ent
  rcases toIdx m with _ | a <;> rcases toIdx m' with _ | b <;> simp [Matrix.conjTranspose_apply]

theorem ent_one (m m' : ℤ) (hm : m ∈ projs 2) (hm' : m' ∈ projs 2) :
    ent (1 : Matrix (Fin 3) (Fin 3) ℂ) m m' = if m = m' then 1 else 0 := by
  rw [projs_two] at hm hm'
  simp only [Finset.mem_insert, Finset.mem_singleton] at hm hm'
  rcases hm with rfl | rfl | rfl <;> rcases hm' with rfl | rfl | rfl <;> simp [ent, toIdx]

theorem ent_none (M : Matrix (Fin 3) (Fin 3) ℂ) {m m' : ℤ} (h : m ∉ projs 2 ∨ m' ∉ projs 2) :
    ent M m m' = 0 := by
  unfold ent
  rcases h with h | h
  · rw [toIdx_none h]
  · rw [toIdx_none h]; rcases toIdx m <;> rfl

theorem ent_diag (δ : ℝ) (m m' : ℤ) (hm : m ∈ projs 2) (hm' : m' ∈ projs 2) :
    ent (W1.D (Rz3 δ)) m m' = if m = m' then eI (-((m : ℝ) / 2 * δ)) else 0 := by
  rw [W1.diag]
  rw [projs_two] at hm hm'
  simp only [Finset.mem_insert, Finset.mem_singleton] at hm hm'
  rcases hm with rfl | rfl | rfl <;> rcases hm' with rfl | rfl | rfl <;>
    simp [ent, toIdx, eI, W1, wt1]

/-- entries of the family with spins 0 and 1 -/
noncomputable def D01 (j : ℕ) (R : Matrix (Fin 3) (Fin 3) ℝ) (m m' : ℤ) : ℂ :=
  if j = 0 then (if m = 0 ∧ m' = 0 then 1 else 0) else if j = 2 then ent (W1.D R) m m' else 0

theorem D01_two (R : Matrix (Fin 3) (Fin 3) ℝ) (m m' : ℤ) : D01 2 R m m' = ent (W1.D R) m m' := by
  simp [D01]

/-- the family providing J = 0 and J = 1 (J = 1 is `U R U†`, which IS SymPy's D¹) -/
noncomputable def F01 : RepFamily where
  ok j := j = 0 ∨ j = 2
  D := D01
  support := by
    intro j R m m' h
    unfold D01
    by_cases h0 : j = 0
    · subst h0
      rw [projs_zero] at h
      simp only [Finset.mem_singleton] at h
      simp only [if_true]
      rcases h with h | h <;> simp [h]
    · by_cases h2 : j = 2
      · subst h2
        simp only [h0, if_false, if_true]
        exact ent_none _ h
      · simp [h0, h2]
  mul := by
    rintro j (rfl | rfl) R S hR hS m m'
    · simp only [D01, if_true, projs_zero, Finset.sum_singleton]
      by_cases hm : m = 0 <;> by_cases hm' : m' = 0 <;> simp [hm, hm']
    · simp only [D01_two]
      rw [W1.mul R S hR hS, ent_mul]
  unitary := by
    rintro j (rfl | rfl) R hR m hm m' hm'
    · rw [projs_zero] at hm hm' ⊢
      simp only [Finset.mem_singleton] at hm hm'
      subst hm hm'
      simp [D01]
    · simp only [D01_two]
      have : ∀ k, star (ent (W1.D R) k m) * ent (W1.D R) k m' = ent (W1.D R)ᴴ m k * ent (W1.D R) k m' := by
        intro k; rw [ent_conjTranspose]
      rw [Finset.sum_congr rfl fun k _ => this k, ← ent_mul, W1.unitary R hR, ent_one m m' hm hm']
  diag := by
    rintro j (rfl | rfl) δ m hm m' hm'
    · rw [projs_zero] at hm hm'
      simp only [Finset.mem_singleton] at hm hm'
      subst hm hm'
      simp [D01, eI]
    · simp only [D01_two]
      exact ent_diag δ m m' hm hm'
  scalar := by intro R _; simp [D01]

end Ampverif.Lemmas.C04
