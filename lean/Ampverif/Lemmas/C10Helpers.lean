/-
C10 helper lemmas: non-vanishing of `1 − ia` for real `a`, the 2×2 determinant of `1 − iK` for real
symmetric `K`, and the one-pole one-channel identity `i (i + k/x)⁻¹ / x = 1/(x − ik)` behind the
Breit–Wigner reductions. No generated definitions are used here.
-/
import Ampverif.Lemmas.C09Entries

namespace Ampverif.Lemmas.C10
open Ampverif.Lemmas.C09 Matrix

theorem one_sub_I_mul_isRe_ne {a : ℂ} (ha : IsRe a) : 1 - Complex.I * a ≠ 0 := by
  obtain ⟨r, rfl⟩ := ha
  intro e
  have := congrArg Complex.re e
  simp at this

theorem sq_add_neg_ne {m s : ℝ} (h : m ^ 2 ≠ s) : (m : ℂ) ^ 2 + (-1 : ℂ) * (s : ℂ) ≠ 0 := by
  rw [show (m : ℂ) ^ 2 + (-1 : ℂ) * (s : ℂ) = ((m ^ 2 - s : ℝ) : ℂ) by push_cast; ring]
  exact_mod_cast sub_ne_zero.2 h

theorem inv_one_sub_I_mul {x : ℂ} (hx : x ≠ 0) (k : ℂ) :
    (1 - Complex.I * (x⁻¹ * k))⁻¹ * x⁻¹ = (x - Complex.I * k)⁻¹ := by
  rw [← mul_inv]
  congr 1
  field_simp

/-- One pole `k/x`, `x = m² − s`, in one channel: `i (i + k/x)⁻¹ / x = 1/(x − ik)`. -/
theorem one_pole {x : ℂ} (hx : x ≠ 0) (k : ℂ) :
    Complex.I * (Complex.I + x⁻¹ * k)⁻¹ * x⁻¹ = (x - Complex.I * k)⁻¹ := by
  have h : Complex.I + x⁻¹ * k = Complex.I * (1 - Complex.I * (x⁻¹ * k)) := by
    linear_combination (x⁻¹ * k) * Complex.I_sq
  rw [← inv_one_sub_I_mul hx, h, mul_inv, mul_inv_cancel_left₀ Complex.I_ne_zero]

/-- …and multiplied out, where the denominator `i + k/x` does not vanish. -/
theorem one_pole_mul {x k : ℂ} (hx : x ≠ 0) (hd : Complex.I + x⁻¹ * k ≠ 0) :
    Complex.I * (Complex.I + x⁻¹ * k)⁻¹ * x⁻¹ * (x - Complex.I * k) = 1 := by
  have h : x - Complex.I * k = -Complex.I * x * (Complex.I + x⁻¹ * k) := by
    field_simp
    linear_combination x * Complex.I_sq
  rw [one_pole hx]
  exact inv_mul_cancel₀ (h ▸ mul_ne_zero (mul_ne_zero (neg_ne_zero.2 Complex.I_ne_zero) hx) hd)

/-- `det(1 − iK) ≠ 0` for a real symmetric 2×2 matrix, in coordinates. -/
theorem det2_ne_of_real {a b c d : ℂ} (ha : IsRe a) (hb : IsRe b) (hd : IsRe d) (hbc : b = c) :
    1 - Complex.I * a - Complex.I * d - a * d + b * c ≠ 0 := by
  obtain ⟨hH, _⟩ := herm2 ha hb hd hbc
  have h := isUnit_iff_ne_zero.1 (isUnit_det_D hH)
  rw [det_D2] at h
  simpa using h

variable {n : Type*} [Fintype n] [DecidableEq n]

/-- `1 − iK̂ρ` is invertible for positive diagonal `ρ` and Hermitian `K̂`: its transpose is
`1 − iρK̂ᵀ`, and `K̂ᵀ` is Hermitian too. -/
theorem isUnit_det_rel_right (r : n → ℝ) (hr : ∀ i, 0 < r i) {Kh : Matrix n n ℂ} (hK : Kh.IsHermitian) :
    IsUnit (1 - Complex.I • (Kh * Matrix.diagonal fun i => ((r i : ℝ) : ℂ))).det := by
  rw [← Matrix.det_transpose, Matrix.transpose_sub, Matrix.transpose_one, Matrix.transpose_smul,
    Matrix.transpose_mul, Matrix.diagonal_transpose]
  exact isUnit_det_rel r hr hK.transpose

end Ampverif.Lemmas.C10
