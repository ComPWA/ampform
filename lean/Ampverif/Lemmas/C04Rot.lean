/-
C04, layer (K): rotation matrices.

`Rz3`, `Ry3` are the 3×3 rotations; `emb` embeds a 3×3 matrix into the 4×4 block form that acts
on four-momenta `(E, x, y, z)`. The REGENERATED matrices `Gen.C04.RotZ/RotY/BoostZ`
(from `RotationZMatrix/RotationYMatrix/BoostZMatrix.as_explicit()`) are identified with them.
-/
import Ampverif.Gen.C04
import Mathlib.LinearAlgebra.Matrix.Notation
import Mathlib.Data.Matrix.Mul
import Mathlib.Analysis.SpecialFunctions.Trigonometric.Basic
import Mathlib.Tactic.Ring
import Mathlib.Tactic.FinCases
import Mathlib.Tactic.Linarith

namespace Ampverif.Lemmas.C04
open Matrix Ampverif.Gen.C04

/-- rotation about z (active, counter-clockwise) -/
noncomputable def Rz3 (a : ℝ) : Matrix (Fin 3) (Fin 3) ℝ :=
  !![Real.cos a, -Real.sin a, 0; Real.sin a, Real.cos a, 0; 0, 0, 1]

noncomputable def Ry3 (a : ℝ) : Matrix (Fin 3) (Fin 3) ℝ :=
  !![Real.cos a, 0, Real.sin a; 0, 1, 0; -Real.sin a, 0, Real.cos a]

/-- block embedding `1 ⊕ R` acting on `(E, x, y, z)` -/
def emb (R : Matrix (Fin 3) (Fin 3) ℝ) : Matrix (Fin 4) (Fin 4) ℝ :=
  !![1, 0, 0, 0;
     0, R 0 0, R 0 1, R 0 2;
     0, R 1 0, R 1 1, R 1 2;
     0, R 2 0, R 2 1, R 2 2]

@[simp] theorem emb_zero_zero (R : Matrix (Fin 3) (Fin 3) ℝ) : emb R 0 0 = 1 := rfl

@[simp] theorem emb_zero_succ (R : Matrix (Fin 3) (Fin 3) ℝ) (j : Fin 3) : emb R 0 j.succ = 0 := by
  fin_cases j <;> rfl

@[simp] theorem emb_succ_zero (R : Matrix (Fin 3) (Fin 3) ℝ) (i : Fin 3) : emb R i.succ 0 = 0 := by
  fin_cases i <;> rfl

@[simp] theorem emb_succ_succ (R : Matrix (Fin 3) (Fin 3) ℝ) (i j : Fin 3) :
    emb R i.succ j.succ = R i j := by
  fin_cases i <;> fin_cases j <;> rfl

/-- two 4×4 matrices agree if they agree on the four blocks of the splitting `1 + 3` -/
theorem ext_blocks {A B : Matrix (Fin 4) (Fin 4) ℝ} (h00 : A 0 0 = B 0 0)
    (h0 : ∀ j : Fin 3, A 0 j.succ = B 0 j.succ) (h1 : ∀ i : Fin 3, A i.succ 0 = B i.succ 0)
    (h : ∀ i j : Fin 3, A i.succ j.succ = B i.succ j.succ) : A = B := by
  ext i j
  refine Fin.cases ?_ (fun i => ?_) i <;> refine Fin.cases ?_ (fun j => ?_) j
  exacts [h00, h0 j, h1 i, h i j]

theorem emb_mul (R S : Matrix (Fin 3) (Fin 3) ℝ) : emb (R * S) = emb R * emb S := by
  apply ext_blocks <;> intros <;> simp [Matrix.mul_apply, Fin.sum_univ_succ]

theorem emb_one : emb 1 = 1 := by
  apply ext_blocks <;> intros <;>
    simp [Matrix.one_apply, Fin.succ_ne_zero, (Fin.succ_ne_zero _).symm]

theorem emb_transpose (R : Matrix (Fin 3) (Fin 3) ℝ) : (emb R)ᵀ = emb Rᵀ := by
  apply ext_blocks <;> intros <;> simp

theorem Rz3_add (a b : ℝ) : Rz3 a * Rz3 b = Rz3 (a + b) := by
  rw [Rz3, Rz3, Rz3, Matrix.mul_fin_three, Real.cos_add, Real.sin_add]
  simp [sub_eq_add_neg, add_comm, mul_comm]

theorem Ry3_add (a b : ℝ) : Ry3 a * Ry3 b = Ry3 (a + b) := by
  rw [Ry3, Ry3, Ry3, Matrix.mul_fin_three, Real.cos_add, Real.sin_add]
  simp [sub_eq_add_neg, add_comm, mul_comm]

theorem Rz3_zero : Rz3 0 = 1 := by
  rw [Rz3, Real.cos_zero, Real.sin_zero, neg_zero, ← Matrix.one_fin_three]

theorem Ry3_zero : Ry3 0 = 1 := by
  rw [Ry3, Real.cos_zero, Real.sin_zero, neg_zero, ← Matrix.one_fin_three]

theorem Rz3_transpose (a : ℝ) : (Rz3 a)ᵀ = Rz3 (-a) := by
  rw [Matrix.eta_fin_three (Rz3 a)ᵀ, Rz3, Rz3, Real.cos_neg, Real.sin_neg, neg_neg]
  rfl

theorem Ry3_transpose (a : ℝ) : (Ry3 a)ᵀ = Ry3 (-a) := by
  rw [Matrix.eta_fin_three (Ry3 a)ᵀ, Ry3, Ry3, Real.cos_neg, Real.sin_neg, neg_neg]
  rfl

theorem Rz3_mulVec (δ : ℝ) (v : Fin 3 → ℝ) :
    Rz3 δ *ᵥ v = ![Real.cos δ * v 0 - Real.sin δ * v 1, Real.sin δ * v 0 + Real.cos δ * v 1, v 2] := by
  ext i
  fin_cases i <;> simp [Rz3, Matrix.mulVec, dotProduct, Fin.sum_univ_three]
  ring

theorem Ry3_mulVec (δ : ℝ) (v : Fin 3 → ℝ) :
    Ry3 δ *ᵥ v = ![Real.cos δ * v 0 + Real.sin δ * v 2, v 1, -Real.sin δ * v 0 + Real.cos δ * v 2] := by
  ext i
  fin_cases i <;> simp [Ry3, Matrix.mulVec, dotProduct, Fin.sum_univ_three]

theorem Rz3_congr {a b : ℝ} (hc : Real.cos a = Real.cos b) (hs : Real.sin a = Real.sin b) :
    Rz3 a = Rz3 b := by
  unfold Rz3; rw [hc, hs]

/-- the regenerated `RotationZMatrix(a).as_explicit()` is `1 ⊕ Rz(a)` -/
theorem RotZ_eq (a : ℝ) : RotZ a = emb (Rz3 a) := by
  unfold RotZ RotZ_0_0 RotZ_0_1 RotZ_0_2 RotZ_0_3 RotZ_1_0 RotZ_1_1 RotZ_1_2 RotZ_1_3 RotZ_2_0
    RotZ_2_1 RotZ_2_2 RotZ_2_3 RotZ_3_0 RotZ_3_1 RotZ_3_2 RotZ_3_3
  rw [neg_one_mul]
  rfl

/-- the regenerated `RotationYMatrix(a).as_explicit()` is `1 ⊕ Ry(a)` -/
theorem RotY_eq (a : ℝ) : RotY a = emb (Ry3 a) := by
  unfold RotY RotY_0_0 RotY_0_1 RotY_0_2 RotY_0_3 RotY_1_0 RotY_1_1 RotY_1_2 RotY_1_3 RotY_2_0
    RotY_2_1 RotY_2_2 RotY_2_3 RotY_3_0 RotY_3_1 RotY_3_2 RotY_3_3
  rw [neg_one_mul]
  rfl

/-- `(√(1 - b²))⁻¹` in the spelling of the generated z-boost -/
noncomputable def gam (b : ℝ) : ℝ := (Real.sqrt ((1 : ℝ) + (-1 : ℝ) * b ^ 2))⁻¹

theorem gam_eq (b : ℝ) : gam b = (Real.sqrt (1 - b ^ 2))⁻¹ := by
  unfold gam
  congr 2
  ring

theorem BoostZ_eq (b : ℝ) :
    BoostZ b = !![gam b, 0, 0, -(b * gam b); 0, 1, 0, 0; 0, 0, 1, 0; -(b * gam b), 0, 0, gam b] := by
  unfold BoostZ BoostZ_0_0 BoostZ_0_1 BoostZ_0_2 BoostZ_0_3 BoostZ_1_0 BoostZ_1_1 BoostZ_1_2
    BoostZ_1_3 BoostZ_2_0 BoostZ_2_1 BoostZ_2_2 BoostZ_2_3 BoostZ_3_0 BoostZ_3_1 BoostZ_3_2
    BoostZ_3_3
  rw [neg_one_mul b, neg_mul b]
  rfl

/-- a z-boost commutes with every rotation about z -/
theorem BoostZ_comm_RotZ (b a : ℝ) : BoostZ b * RotZ a = RotZ a * BoostZ b := by
  rw [BoostZ_eq, RotZ_eq, emb, Rz3]
  simp [Matrix.vecHead, Matrix.vecTail]

end Ampverif.Lemmas.C04
