/-
Helper lemmas for C14: a map on terms that commutes with the constructors of a class template
commutes with instantiating the template (composition of simultaneous replacements is the instance
used here); class names as numerals (`strKey`), so that facts about the names of a generated table
are evaluated on numbers; what a well-formed table says about a class and its templates; one
unfolding step at an instance; the generated `__new__` on complete field values.
-/
import Ampverif.Lemmas.C14Eq

namespace Ampverif.Lemmas.C14
open Ampverif.Model

theorem lookup_map (π : List (Sym × Expr)) (g : Expr → Expr) (s : Sym) :
    lookup (π.map (fun p => (p.1, g p.2))) s = (lookup π s).map g := by
  induction π with
  | nil => rfl
  | cons p π ih => by_cases h : s = p.1 <;> simp [lookup, h, ih]

theorem lookup_zip_some (P : List Sym) :
    ∀ (es : List Expr) (s : Sym), s ∈ P → P.length ≤ es.length → ∃ a, lookup (P.zip es) s = some a := by
  induction P with
  | nil => intro es s h; simp at h
  | cons k P ih =>
    intro es s hs hl
    cases es with
    | nil => simp at hl
    | cons e es =>
      by_cases h : s = k
      · exact ⟨e, by simp [lookup, h]⟩
      · obtain ⟨a, ha⟩ := ih es s ((List.mem_cons.mp hs).resolve_left h) (by simpa using hl)
        exact ⟨a, by simp [lookup, h, ha]⟩

theorem zip_map_snd (P : List Sym) (g : Expr → Expr) (es : List Expr) :
    (P.zip es).map (fun p => (p.1, g p.2)) = P.zip (es.map g) := by
  rw [List.zip_map_right]
  rfl

/-- Let `g` commute with sums, products, powers, numbers and with every uninterpreted node whose head
satisfies `P`.  On a pool-sum-free template `T` whose heads satisfy `P` and whose symbols outside the
keys of `π` are fixed by `g`, applying `g` after inserting `π` is inserting the `g`-images. -/
theorem map_xreplace_template (v : Variant) (hv : v.sound) (g : Expr → Expr) (P : String → Prop)
    (π : List (Sym × Expr)) (hrat : ∀ q, g (.rat q) = .rat q)
    (hadd : ∀ es, g (.add es) = .add (es.map g)) (hmul : ∀ es, g (.mul es) = .mul (es.map g))
    (hpow : ∀ b n, g (.pow b n) = .pow (g b) n)
    (happ : ∀ f es, P ("app:" ++ f) → g (.app f es) = .app f (es.map g))
    (hnode : ∀ c es t, P ("node:" ++ c) → g (.node c es t) = .node c (es.map g) t)
    (hidx : ∀ f es, P ("idx:" ++ f) → g (.idx f es) = .idx f (es.map g))
    (T : Expr) (hn : noPsum T = true) (hsym : ∀ s ∈ syms T, lookup π s = none → g (.sym s) = .sym s)
    (hT : ∀ h ∈ heads T, P h) :
    g (xreplace v T π) = xreplace v T (π.map (fun p => (p.1, g p.2))) := by
  induction T using Expr.induct with
  | sym s =>
    simp only [xreplace, lookup_map]
    cases hl : lookup π s with
    | some a => rfl
    | none => exact hsym s (by simp [syms]) hl
  | rat q => exact hrat q
  | pow b n ih => simp only [xreplace, hpow, ih hn hsym hT]
  | psum => simp [noPsum] at hn
  | add es ih | mul es ih =>
    simp only [noPsum, noPsumList_eq_all, List.all_eq_true, syms, symsList_eq_flatMap, heads,
      headsList_eq_flatMap, List.mem_flatMap] at hn hsym hT
    simp only [xreplace, xreplaceList_eq_map, hadd, hmul, List.map_map, Function.comp_def]
    rw [List.map_congr_left fun e he => ih e he (hn e he) (fun s hs => hsym s ⟨e, he, hs⟩)
      (fun h hh => hT h ⟨e, he, hh⟩)]
  | app f es ih | idx f es ih | node f es _ ih =>
    simp only [noPsum, noPsumList_eq_all, List.all_eq_true, syms, symsList_eq_flatMap, heads,
      headsList_eq_flatMap, List.mem_flatMap, List.mem_cons] at hn hsym hT
    have hh := hT _ (Or.inl rfl)
    simp only [xreplace, sound_ite hv, xreplaceList_eq_map, happ, hidx, hnode, hh, List.map_map,
      Function.comp_def]
    rw [List.map_congr_left fun e he => ih e he (hn e he) (fun s hs => hsym s ⟨e, he, hs⟩)
      (fun h hh => hT h (Or.inr ⟨e, he, hh⟩))]

/-- composition of replacements on a pool-sum-free term. -/
theorem xreplace_comp (v : Variant) (hv : v.sound) (π σ : List (Sym × Expr)) (T : Expr)
    (hn : noPsum T = true) (h : ∀ s ∈ syms T, lookup π s = none → lookup σ s = none) :
    xreplace v (xreplace v T π) σ = xreplace v T (π.map (fun p => (p.1, xreplace v p.2 σ))) :=
  map_xreplace_template v hv (fun e => xreplace v e σ) (fun _ => True) π (fun _ => rfl)
    (fun es => by rw [xreplace, xreplaceList_eq_map]) (fun es => by rw [xreplace, xreplaceList_eq_map])
    (fun _ _ => rfl) (fun f es _ => by rw [xreplace, xreplaceList_eq_map])
    (fun c es t _ => by rw [xreplace_node hv, xreplaceList_eq_map])
    (fun f es _ => by rw [xreplace, xreplaceList_eq_map]) T hn
    (fun s hs hl => by simp [xreplace, h s hs hl]) (fun _ _ => trivial)

theorem xreplaceList_comp (v : Variant) (hv : v.sound) (π σ : List (Sym × Expr)) :
    ∀ Ts : List Expr, noPsumList Ts = true → (∀ s ∈ symsList Ts, lookup π s = none → lookup σ s = none) →
      xreplaceList v (xreplaceList v Ts π) σ = xreplaceList v Ts (π.map (fun p => (p.1, xreplace v p.2 σ))) :=
  fun Ts hn h => Expr.add.inj (xreplace_comp v hv π σ (.add Ts) hn h)

/-- The bytes of a string as base-256 digits under a leading 1. -/
def bytesKey : List UInt8 → Nat
  | [] => 1
  | b :: bs => b.toNat + 256 * bytesKey bs

theorem bytesKey_pos : ∀ l, 0 < bytesKey l
  | [] => Nat.one_pos
  | _ :: l => by
    have := bytesKey_pos l
    simp only [bytesKey]
    omega

theorem bytesKey_inj : ∀ {l m : List UInt8}, bytesKey l = bytesKey m → l = m
  | [], [], _ => rfl
  | [], _ :: m, h | _ :: m, [], h => by
    have := bytesKey_pos m
    simp only [bytesKey] at h
    omega
  | a :: l, b :: m, h => by
    have ha := a.toNat_lt
    have hb := b.toNat_lt
    simp only [bytesKey] at h
    rw [UInt8.toNat_inj.mp (by omega : a.toNat = b.toNat), bytesKey_inj (by omega : bytesKey l = bytesKey m)]

/-- A class name as a number. The kernel compares two numerals in one step, but two strings only
after encoding both, byte by byte; facts about the names of a generated table are therefore
evaluated on their keys, each name being encoded once. -/
def strKey (s : String) : Nat := bytesKey s.toByteArray.data.toList

theorem strKey_inj {s t : String} (h : strKey s = strKey t) : s = t :=
  String.toByteArray_inj.mp (ByteArray.ext (Array.ext' (bytesKey_inj h)))

theorem contains_strKey (l : List String) (s : String) :
    (l.map strKey).contains (strKey s) = l.contains s := by
  rw [Bool.eq_iff_iff]
  simp only [List.contains_iff_mem, List.mem_map]
  exact ⟨fun ⟨t, ht, h⟩ => strKey_inj h ▸ ht, fun h => ⟨s, h, rfl⟩⟩

theorem find_isSome (tbl : ClassTable) (c : String) :
    (tbl.find c).isSome = (tbl.map fun ci => ci.name).contains c := by
  rw [Bool.eq_iff_iff]
  simp [ClassTable.find]

theorem wfTable_of_keys {tbl : ClassTable}
    (h : (tbl.all wfClass && decide ((tbl.map fun ci => ci.name).map strKey).Nodup) = true) :
    wfTable tbl = true := by
  simp only [wfTable, Bool.and_eq_true, decide_eq_true_eq] at h ⊢
  exact ⟨h.1, h.2.of_map strKey fun _ _ => mt (congrArg strKey)⟩

theorem find_mem (tbl : ClassTable) (c : String) (ci : ClassInfo) (h : tbl.find c = some ci) :
    ci ∈ tbl ∧ ci.name = c :=
  ⟨List.mem_of_find?_eq_some h, by simpa using List.find?_some h⟩

theorem templateFor_mem (ci : ClassInfo) (t : List Attr) (T : Expr) (h : templateFor ci t = some T) :
    (t, T) ∈ ci.templates := by
  unfold templateFor at h
  split at h <;> cases h
  rename_i p hf
  have h2 : p.1 = t := by simpa using List.find?_some hf
  exact h2 ▸ List.mem_of_find?_eq_some hf

/-- what a well-formed table says about the class of a name and its template for `t`. -/
theorem wfTable_template (tbl : ClassTable) (hw : wfTable tbl = true) (c : String) (ci : ClassInfo)
    (hf : tbl.find c = some ci) (t : List Attr) (T : Expr) (hT : templateFor ci t = some T) :
    ci.placeholders.length = ci.nSympy ∧ noPsum T = true ∧
      ∀ s ∈ syms T, s ∈ ci.placeholders ∨ s ∈ ci.locals := by
  simp only [wfTable, Bool.and_eq_true, List.all_eq_true] at hw
  have hwc := hw.1 ci (find_mem tbl c ci hf).1
  simp only [wfClass, Bool.and_eq_true, List.all_eq_true, beq_iff_eq] at hwc
  have := hwc.2 (t, T) (templateFor_mem ci t T hT)
  simp only [Bool.or_eq_true, List.contains_eq_mem, decide_eq_true_eq] at this
  exact ⟨hwc.1.1.1.1, this.1.2, this.2⟩

/-- one unfolding step at an instance whose class has a template for its attributes … -/
theorem unfold_node_of_template {tbl : ClassTable} {c : String} {ci : ClassInfo} {t : List Attr} {T : Expr}
    (hf : tbl.find c = some ci) (hd : ci.implementDoit = true) (hT : templateFor ci t = some T)
    (v : Variant) (es : List Expr) :
    unfold v tbl (.node c es t) = xreplace v T (ci.placeholders.zip es) := by
  simp [unfold, hf, hd, hT, instTemplate]

/-- … and at any other instance. -/
theorem unfold_node_of_no_template {tbl : ClassTable} {c : String} {t : List Attr}
    (h : ¬ ∃ ci T, tbl.find c = some ci ∧ ci.implementDoit = true ∧ templateFor ci t = some T)
    (v : Variant) (es : List Expr) : unfold v tbl (.node c es t) = .node c es t := by
  simp only [unfold]
  split
  · rename_i ci hf
    split
    · rename_i hd
      split
      · rename_i T hT; exact absurd ⟨ci, T, hf, hd, hT⟩ h
      · rfl
    · rfl
  · rfl

theorem fillDefaults_full (fs : List Field) (xs : List Arg) (h : xs.length = fs.length) :
    fillDefaults fs xs = some xs := by
  fun_induction fillDefaults fs xs <;> simp_all

/-- the field values in field order are as many as the fields and split back into the SymPy
arguments and the attributes. -/
theorem interleave_spec (fs : List Field) (es : List Expr) (t : List Attr)
    (he : es.length = (fs.filter (fun f => f.sympify)).length)
    (ht : t.length = (fs.filter (fun f => !f.sympify)).length) :
    (interleave fs es t).length = fs.length ∧ splitArgs fs (interleave fs es t) = some (es, t) := by
  fun_induction interleave fs es t <;> simp_all [splitArgs]

/-- `cls(*_get_arguments(instance))` rebuilds the instance. -/
theorem new_interleave (tbl : ClassTable) (c : String) (ci : ClassInfo) (hf : tbl.find c = some ci)
    (es : List Expr) (t : List Attr) (he : es.length = ci.nSympy) (ht : t.length = ci.nAttr) :
    new tbl c (interleave ci.fields es t) = some (.node c es t) := by
  have := interleave_spec ci.fields es t he ht
  simp [new, hf, fillDefaults_full ci.fields _ this.1, this.2]

theorem interleave_all_sympy (fs : List Field) (es : List Expr) (hall : ∀ f ∈ fs, f.sympify = true)
    (h : es.length = fs.length) : interleave fs es [] = es.map Arg.e := by
  fun_induction interleave fs es [] <;> simp_all

theorem counts_all_sympy (ci : ClassInfo) (h : ∀ f ∈ ci.fields, f.sympify = true) :
    ci.nSympy = ci.fields.length ∧ ci.nAttr = 0 := by
  have h1 : ci.fields.filter (fun f => f.sympify) = ci.fields := List.filter_eq_self.mpr h
  have h2 : ci.fields.filter (fun f => !f.sympify) = [] :=
    List.filter_eq_nil_iff.mpr fun f hf => by simp [h f hf]
  simp [ClassInfo.nSympy, ClassInfo.nAttr, h1, h2]

end Ampverif.Lemmas.C14
