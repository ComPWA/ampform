/-
Helper lemmas for C18: `doit` with enough fuel leaves no pool sum (nesting depth 0).
-/
import Ampverif.Lemmas.C18Sum

namespace Ampverif.Lemmas.C18
open Ampverif.Model

/-- the nesting depth (pool values included) is 0 exactly for pool-sum-free terms. -/
theorem noPsum_iff_psumDepth_zero (e : Expr) : noPsum e = true ↔ psumDepth e = 0 := by
  induction e using Expr.induct with
  | sym | rat | psum => simp [noPsum, psumDepth]
  | pow b n ih => exact ih
  | add es ih | mul es ih | app _ es ih | node _ es _ ih | idx _ es ih =>
    simp only [noPsum, psumDepth, noPsumList_eq_all, List.all_eq_true, ← Nat.le_zero, psumDepthList_le]
    exact forall₂_congr fun e he => (ih e he).trans Nat.le_zero.symm

theorem psumDepthBinders_of_noPsum : ∀ ixs : List Binder, noPsumBinders ixs = true → psumDepthBinders ixs = 0 := by
  intro ixs h
  simp only [noPsumBinders_eq_all, List.all_eq_true] at h
  exact Nat.le_zero.mp (psumDepthBinders_le.mpr fun p hp e he =>
    Nat.le_zero.mpr ((noPsum_iff_psumDepth_zero e).mp (h p hp e he)))

theorem psumDepthList_map_congr {f : Expr → Expr} {es : List Expr}
    (h : ∀ e ∈ es, psumDepth (f e) = psumDepth e) : psumDepthList (es.map f) = psumDepthList es := by
  induction es with
  | nil => rfl
  | cons e es ih =>
    rw [List.forall_mem_cons] at h
    simp only [List.map_cons, psumDepthList, h.1, ih h.2]

theorem psumDepthBinders_map_congr {f : Expr → Expr} {ixs : List Binder}
    (h : ∀ p ∈ ixs, ∀ e ∈ p.2, psumDepth (f e) = psumDepth e) :
    psumDepthBinders (ixs.map (fun p => (p.1, p.2.map f))) = psumDepthBinders ixs := by
  induction ixs with
  | nil => rfl
  | cons p ixs ih =>
    rw [List.forall_mem_cons] at h
    simp only [List.map_cons, psumDepthBinders, psumDepthList_map_congr h.1, ih h.2]

theorem psumDepth_subst1 (v : Variant) (hv : v.sound) (x : Sym) (a : Expr) (ha : psumDepth a = 0) (e : Expr) :
    psumDepth (subst1 v x a e) = psumDepth e := by
  induction e using Expr.induct with
  | sym s => by_cases h : s = x <;> simp [subst1, psumDepth, h, ha]
  | rat => rfl
  | pow b n ih => exact ih
  | psum b ixs ihb ihx =>
    by_cases hx : x ∈ names ixs
    · rw [subst1_psum_mem hv hx]
    · rw [subst1_psum_not_mem hv hx, subst1Binders_eq_map]
      simp only [psumDepth, ihb, psumDepthBinders_map_congr ihx]
  | add es ih | mul es ih | app _ es ih | node _ es _ ih | idx _ es ih =>
    simp only [sound_ite hv, subst1, psumDepth, subst1List_eq_map, psumDepthList_map_congr ih]

theorem psumDepthList_subst1 (v : Variant) (hv : v.sound) (x : Sym) (a : Expr) (ha : psumDepth a = 0) :
    ∀ es : List Expr, psumDepthList (subst1List v x a es) = psumDepthList es :=
  fun es => psumDepth_subst1 v hv x a ha (.add es)

theorem psumDepthBinders_subst1 (v : Variant) (hv : v.sound) (x : Sym) (a : Expr) (ha : psumDepth a = 0) :
    ∀ ixs : List (Sym × List Expr), psumDepthBinders (subst1Binders v x a ixs) = psumDepthBinders ixs := by
  intro ixs
  rw [subst1Binders_eq_map]
  exact psumDepthBinders_map_congr fun _ _ e _ => psumDepth_subst1 v hv x a ha e

theorem psumDepth_evaluate_le (v : Variant) (hv : v.sound) (b : Expr) (ixs : List Binder)
    (hw : wfSums (.psum b ixs) = true) :
    psumDepth (evaluate v (.psum b ixs)) ≤ psumDepth b := by
  obtain ⟨hnd, _, hnp, _, _⟩ := wfSums_psum.mp hw
  simp only [evaluate, psumDepth, dictOf_nodup ixs hnd, psumDepthList_le, List.forall_mem_map]
  intro c hc
  rw [substSeq_preserves psumDepth v (noPsum · = true)
    (fun x a e ha => psumDepth_subst1 v hv x a ((noPsum_iff_psumDepth_zero a).mp ha) e) c
    (fun p hp => (assignments_vals ixs hnp c hc p hp).1)]

theorem psumDepth_doitPass (v : Variant) (hv : v.sound) (k : Expr → Expr) (m : Nat)
    (hk : ∀ e : Expr, wfSums e = true → psumDepth e ≤ m → psumDepth (k e) = 0)
    (e : Expr) (hw : wfSums e = true) (h : psumDepth e ≤ m + 1) : psumDepth (doitPass v k e) = 0 := by
  induction e using Expr.induct with
  | sym | rat => rfl
  | pow b n ih => exact ih hw h
  | psum b ixs =>
    apply hk _ (wfSums_evaluate v hv b ixs hw)
    have hb : psumDepth b ≤ m := by
      have : psumDepth b ≤ Nat.max (psumDepth b) (psumDepthBinders ixs) := Nat.le_max_left _ _
      simp only [psumDepth] at h
      omega
    exact Nat.le_trans (psumDepth_evaluate_le v hv b ixs hw) hb
  | add es ih | mul es ih | app _ es ih | node _ es _ ih | idx _ es ih =>
    simp only [wfSums, wfSumsList_eq_all, List.all_eq_true, psumDepth, psumDepthList_le] at hw h
    simp only [doitPass, psumDepth, doitPassList_eq_map, ← Nat.le_zero, psumDepthList_le,
      List.forall_mem_map]
    exact fun e he => Nat.le_zero.mpr (ih e he (hw e he) (h e he))

theorem psumDepthList_doitPass (v : Variant) (hv : v.sound) (k : Expr → Expr) (m : Nat)
    (hk : ∀ e : Expr, wfSums e = true → psumDepth e ≤ m → psumDepth (k e) = 0) :
    ∀ es : List Expr, wfSumsList es = true → psumDepthList es ≤ m + 1 →
      psumDepthList (doitPassList v k es) = 0 :=
  fun es => psumDepth_doitPass v hv k m hk (.add es)

end Ampverif.Lemmas.C18
