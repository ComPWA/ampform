/-
C03 — lemmas about the parity-partner registration loop and the prefactor rule of
`Model/C03Parity.lean`.
-/
import Ampverif.Model.C03Parity
import Mathlib.Tactic.Ring
import Mathlib.Algebra.BigOperators.Group.List.Basic

namespace Ampverif.Lemmas.C03Parity
open Ampverif.Model.C03

theorem get?_set (m : Mapping) (k v q : String) :
    (m.set k v).get? q = if k = q then some v else m.get? q := by
  induction m with
  | nil => simp [Mapping.set, Mapping.get?]
  | cons ab rest ih =>
    rw [Mapping.set]
    by_cases hak : ab.1 = k
    · subst hak; by_cases haq : ab.1 = q <;> simp [Mapping.get?, haq]
    · by_cases haq : ab.1 = q
      · subst haq; simp [Mapping.get?, hak, Ne.symm hak]
      · simp [Mapping.get?, hak, haq, ih]

theorem has_iff (m : Mapping) (k : String) : m.has k = true ↔ ∃ v, m.get? k = some v := by
  unfold Mapping.has
  cases m.get? k <;> simp

theorem mapped_ne (m : Mapping) (k : String) (h : m.mapped k ≠ k) :
    m.get? k = some (m.mapped k) := by
  unfold Mapping.mapped at *
  cases hg : m.get? k with
  | none => simp [hg] at h
  | some v => simp

/-- Well-formedness of the names of a reaction (decidable: `partnerInjective`). -/
def WF (f : Flags) (nodes : List Node) : Prop :=
  (∀ a ∈ nodes, ∀ b ∈ nodes, ppSuffix a = ppSuffix b →
      (∃ c ∈ nodes, rawSuffix f c = ppSuffix a) → rawSuffix f a = rawSuffix f b)
  ∧ (∀ a ∈ nodes, ∀ b ∈ nodes, rawSuffix f a = ppSuffix b → ppSuffix a = rawSuffix f b)

theorem wf_of_check (f : Flags) (nodes : List Node) (h : partnerInjective f nodes = true) :
    WF f nodes := by
  unfold partnerInjective at h
  rw [List.all_eq_true] at h
  constructor
  · intro a ha b hb hpp hc
    have := (List.all_eq_true.mp (h a ha)) b hb
    simp only [Bool.and_eq_true, Bool.or_eq_true, Bool.not_eq_true', beq_iff_eq] at this
    rcases this.1 with (h1 | h1) | h1
    · simp [hpp] at h1
    · obtain ⟨c, hcm, hcr⟩ := hc
      have : (nodes.any fun c => rawSuffix f c == ppSuffix a) = true :=
        List.any_eq_true.mpr ⟨c, hcm, by simp [hcr]⟩
      rw [this] at h1; cases h1
    · exact h1
  · intro a ha b hb hr
    have := (List.all_eq_true.mp (h a ha)) b hb
    simp only [Bool.and_eq_true, Bool.or_eq_true, Bool.not_eq_true', beq_iff_eq] at this
    rcases this.2 with h1 | h1
    · simp [hr] at h1
    · exact h1

/-- every key is the own suffix of a node; every non-trivial entry maps a node's own suffix to that
node's partner suffix, which is again the own suffix of a node. -/
def Inv (f : Flags) (nodes : List Node) (m : Mapping) : Prop :=
  ∀ k v, m.get? k = some v → (∃ n ∈ nodes, rawSuffix f n = k)
    ∧ (k ≠ v → ∃ n ∈ nodes, rawSuffix f n = k ∧ ppSuffix n = v ∧ ∃ n' ∈ nodes, rawSuffix f n' = v)

theorem Inv_set {f : Flags} {nodes : List Node} {m : Mapping} (hm : Inv f nodes m) {k v : String}
    (hk : ∃ n ∈ nodes, rawSuffix f n = k)
    (hkv : k ≠ v → ∃ n ∈ nodes, rawSuffix f n = k ∧ ppSuffix n = v ∧ ∃ n' ∈ nodes, rawSuffix f n' = v) :
    Inv f nodes (m.set k v) := by
  intro q w hq
  rw [get?_set] at hq
  split_ifs at hq with e
  · cases hq; subst e; exact ⟨hk, hkv⟩
  · exact hm q w hq

theorem inv_registerNode (f : Flags) (nodes : List Node) (hwf : WF f nodes) (m : Mapping)
    (hm : Inv f nodes m) (n : Node) (hn : n ∈ nodes) : Inv f nodes (registerNode f m n) := by
  have hself : ∀ m', Inv f nodes m' → Inv f nodes (m'.set (rawSuffix f n) (rawSuffix f n)) :=
    fun m' hm' => Inv_set hm' ⟨n, hn, rfl⟩ fun h => absurd rfl h
  simp only [registerNode]
  split_ifs with h0 h1 h2 h3
  · exact hm
  · exact hm
  · obtain ⟨w, hw⟩ := (has_iff m (ppSuffix n)).mp h2
    obtain ⟨n', hn', hraw'⟩ := (hm _ _ hw).1
    exact Inv_set hm ⟨n, hn, rfl⟩ fun _ => ⟨n, hn, rfl, rfl, n', hn', hraw'⟩
  · obtain ⟨w, hw⟩ := (has_iff m (ppSuffix n)).mp h2
    obtain ⟨n', hn', hraw'⟩ := (hm _ _ hw).1
    exact hself _ (Inv_set hm ⟨n', hn', hraw'⟩ fun _ => ⟨n', hn', hraw', hwf.2 n' hn' n hn hraw', n, hn, rfl⟩)
  · exact hself m hm

theorem inv_foldl (f : Flags) (nodes : List Node) (hwf : WF f nodes) (c : Chain) (hc : ∀ n ∈ c, n ∈ nodes) :
    ∀ m : Mapping, Inv f nodes m → Inv f nodes (c.foldl (registerNode f) m) := by
  induction c with
  | nil => exact fun m hm => hm
  | cons n rest ih =>
    exact fun m hm => ih (fun x hx => hc x (List.mem_cons_of_mem _ hx)) _
      (inv_registerNode f nodes hwf m hm n (hc n List.mem_cons_self))

theorem inv_registerAll (f : Flags) (ts : List Chain) (hwf : WF f ts.flatten) :
    Inv f ts.flatten (registerAll f ts) := by
  rw [registerAll, show registerChain f = fun m c => c.foldl (registerNode f) m from rfl, ← List.foldl_flatten]
  exact inv_foldl f _ hwf _ (fun _ h => h) [] fun k v h => by simp [Mapping.get?] at h

/-- a suffix has at most one non-trivially mapped partner. -/
def UniquePartner (m : Mapping) : Prop :=
  ∀ k₁ k₂, m.mapped k₁ = m.mapped k₂ → m.mapped k₁ ≠ k₁ → m.mapped k₂ ≠ k₂ → k₁ = k₂

theorem unique_of_inv (f : Flags) (nodes : List Node) (hwf : WF f nodes) (m : Mapping)
    (hm : Inv f nodes m) : UniquePartner m := by
  intro k₁ k₂ he h1 h2
  have g1 := mapped_ne m k₁ h1
  have g2 := mapped_ne m k₂ h2
  obtain ⟨n₁, hn₁, r1, p1, n', hn', r'⟩ := (hm k₁ _ g1).2 (fun h => h1 h.symm)
  obtain ⟨n₂, hn₂, r2, p2, _⟩ := (hm k₂ _ g2).2 (fun h => h2 h.symm)
  have : rawSuffix f n₁ = rawSuffix f n₂ :=
    hwf.1 n₁ hn₁ n₂ hn₂ (by rw [p1, p2, he]) ⟨n', hn', by rw [r', p1]⟩
  rw [← r1, ← r2, this]

/-- the factor one node contributes. -/
def nodeFactor (f : Flags) (m : Mapping) (n : Node) : Int := if isFlipped f m n then etaVal n else 1

theorem flippedProduct_eq_prod (f : Flags) (m : Mapping) (c : Chain) :
    flippedProduct f m c = (c.map (nodeFactor f m)).prod := by
  induction c with
  | nil => rfl
  | cons n rest ih => rw [flippedProduct, ih, List.map_cons, List.prod_cons]; rfl

theorem flippedProduct_none (f : Flags) (m : Mapping) (c : Chain) (h : anyFlipped f m c = false) :
    flippedProduct f m c = 1 := by
  rw [anyFlipped, List.any_eq_false] at h
  rw [flippedProduct_eq_prod]
  apply List.prod_eq_one
  intro x hx
  obtain ⟨n, hn, rfl⟩ := List.mem_map.mp hx
  exact if_neg (h n hn)

/-- under the sound rule the factor of a chain is the product of `η` over its mapped nodes. -/
theorem prefactorVal_sound (v : Variant) (hs : v.sound) (f : Flags) (m : Mapping) (c : Chain) :
    prefactorVal v f m c = flippedProduct f m c := by
  obtain ⟨h1, h2⟩ := hs
  unfold prefactorVal prefactor
  simp only [h1, h2, if_true]
  by_cases ha : anyFlipped f m c = true
  · by_cases hp : flippedProduct f m c = 1 <;> simp [ha, hp]
  · have ha' : anyFlipped f m c = false := by simpa using ha
    simp [ha', flippedProduct_none f m c ha']

/-- induction over two chains that are `compatible`: same length, and node by node the same `η = ±1` -/
theorem compatible_induction {P : Chain → Chain → Prop} (nil : P [] [])
    (cons : ∀ n₁ n₂ r₁ r₂, etaVal n₁ = etaVal n₂ → (etaVal n₁ = 1 ∨ etaVal n₁ = -1) → P r₁ r₂ →
      P (n₁ :: r₁) (n₂ :: r₂)) :
    ∀ c₁ c₂, compatible c₁ c₂ = true → P c₁ c₂
  | [], [], _ => nil
  | [], _ :: _, hc => by simp [compatible] at hc
  | _ :: _, [], hc => by simp [compatible] at hc
  | n₁ :: r₁, n₂ :: r₂, hc => by
    simp only [compatible, Bool.and_eq_true, Bool.or_eq_true, beq_iff_eq] at hc
    exact cons n₁ n₂ r₁ r₂ hc.1.1 hc.1.2 (compatible_induction nil cons r₁ r₂ hc.2)

/-- two nodes with the same `η = ±1` and the same mapped suffix: if their own suffixes differ, exactly
one of them is a mapped partner (unique partners), so their factors differ by `η`. -/
theorem nodeFactor_ratio {f : Flags} {m : Mapping} (hu : UniquePartner m) {n₁ n₂ : Node}
    (he : etaVal n₁ = etaVal n₂) (hpm : etaVal n₁ = 1 ∨ etaVal n₁ = -1)
    (hs : m.mapped (rawSuffix f n₁) = m.mapped (rawSuffix f n₂)) :
    nodeFactor f m n₁
      = nodeFactor f m n₂ * (if rawSuffix f n₁ != rawSuffix f n₂ then etaVal n₁ else 1) := by
  unfold nodeFactor isFlipped
  by_cases hr : rawSuffix f n₁ = rawSuffix f n₂
  · simp [hr, he]
  · by_cases f1 : m.mapped (rawSuffix f n₁) = rawSuffix f n₁
    · by_cases f2 : m.mapped (rawSuffix f n₂) = rawSuffix f n₂
      · exact absurd (f1.symm.trans (hs.trans f2)) hr
      · rcases hpm with h | h <;> simp [hr, f1, f2, ← he, h]
    · by_cases f2 : m.mapped (rawSuffix f n₂) = rawSuffix f n₂
      · simp [hr, f1, f2]
      · exact absurd (hu _ _ hs f1 f2) hr

/-- the ratio statement for an arbitrary mapping with unique partners. -/
theorem ratio_of_unique (v : Variant) (hs : v.sound) (f : Flags) (m : Mapping)
    (hu : UniquePartner m) (c₁ c₂ : Chain) (hc : compatible c₁ c₂ = true)
    (hsame : sameCoefficient f m c₁ c₂ = true) :
    prefactorVal v f m c₁ = prefactorVal v f m c₂ * differingProduct f c₁ c₂ := by
  rw [prefactorVal_sound v hs, prefactorVal_sound v hs]
  refine compatible_induction (P := fun c₁ c₂ => mappedSuffixes f m c₁ = mappedSuffixes f m c₂ →
    flippedProduct f m c₁ = flippedProduct f m c₂ * differingProduct f c₁ c₂) (fun _ => rfl) ?_ c₁ c₂ hc
    (eq_of_beq hsame)
  intro n₁ n₂ r₁ r₂ he hpm ih hs
  rw [mappedSuffixes, mappedSuffixes, List.map_cons, List.map_cons, List.cons.injEq] at hs
  change nodeFactor f m n₁ * _ = nodeFactor f m n₂ * _ * (_ * _)
  rw [ih hs.2, nodeFactor_ratio hu he hpm hs.1]
  ring

/-- a product of a factor `1` or `η = ±1` with a sign is a sign -/
theorem ite_mul_sq (c : Prop) [Decidable c] {e a : Int} (he : e = 1 ∨ e = -1) (ha : a * a = 1) :
    ((if c then e else 1) * a) * ((if c then e else 1) * a) = 1 := by
  rw [mul_mul_mul_comm, ha, mul_one]
  split
  · rcases he with h | h <;> rw [h] <;> rfl
  · rfl

/-- `differingProduct` is `±1` for compatible chains. -/
theorem differingProduct_sq (f : Flags) :
    ∀ c₁ c₂ : Chain, compatible c₁ c₂ = true →
      differingProduct f c₁ c₂ * differingProduct f c₁ c₂ = 1 :=
  compatible_induction rfl fun _ _ _ _ _ hpm ih => ite_mul_sq _ hpm ih

/-- the flipped product of the second of two compatible chains is `±1`. -/
theorem flippedProduct_sq_right (f : Flags) (m : Mapping) :
    ∀ c₁ c₂ : Chain, compatible c₁ c₂ = true →
      flippedProduct f m c₂ * flippedProduct f m c₂ = 1 :=
  compatible_induction rfl fun _ _ _ _ he hpm ih => ite_mul_sq _ (he ▸ hpm) ih

end Ampverif.Lemmas.C03Parity
