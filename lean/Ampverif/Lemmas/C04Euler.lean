/-
C04/C05, layer (R): the ZYZ Euler angles of a rotation, as `compute_wigner_angles` extracts them.

`kinematics/angles.py: compute_wigner_angles` reads three angles off a rotation matrix:
`alpha = atan2(z_y, z_x)`, `beta = acos(z_z)`, `gamma = atan2(y_z, -x_z)`, where `a_b` is the
entry (a, b) of the (spatial part of the) Wigner rotation matrix `W`. With `R := Wᵀ` these are
`alpha = atan2(R₁₂, R₀₂)`, `beta = acos(R₂₂)`, `gamma = atan2(R₂₁, −R₂₀)` (0-based).
`euler_decomposition`: for every proper rotation `R` whose z axis is not mapped to ±ẑ (`R₂₂² < 1`),
`R = Rz(alpha) · Ry(beta) · Rz(gamma)` with exactly these three expressions (`PhiOf`/`Real.arccos`
are the REGENERATED `atan2`/`acos` translations). For `R₂₂ = ±1` the formulas give `atan2(0,0) = 0`
and the decomposition fails in general: the excluded set is exactly the gimbal-lock set, stated as
a hypothesis and probed on the real code by the harness.
-/
import Ampverif.Lemmas.C04Angles

namespace Ampverif.Lemmas.C04
open Matrix Ampverif.Gen.C04

/-- **ZYZ Euler decomposition with the angle formulas of `compute_wigner_angles`.**
For every proper rotation `R` with `R₂₂² < 1`:
`R = Rz(atan2(R₁₂, R₀₂)) · Ry(acos R₂₂) · Rz(atan2(R₂₁, −R₂₀))`. -/
theorem euler_decomposition (R : Matrix (Fin 3) (Fin 3) ℝ) (hR : IsRot R) (hpole : R 2 2 ^ 2 < 1) :
    R = euler (PhiOf (R 0 2) (R 1 2)) (Real.arccos (R 2 2)) (PhiOf (-(R 2 0)) (R 2 1)) := by
  -- `v`, the image of ẑ, is a unit vector; its helicity frame `h(v)` has the same z axis as `R`
  have hv : R *ᵥ ez = ![R 0 2, R 1 2, R 2 2] := by
    ext i; rw [mulVec_ez]; fin_cases i <;> rfl
  generalize hvdef : (![R 0 2, R 1 2, R 2 2] : Fin 3 → ℝ) = v at hv
  have v0 : v 0 = R 0 2 := by rw [← hvdef]; rfl
  have v1 : v 1 = R 1 2 := by rw [← hvdef]; rfl
  have v2 : v 2 = R 2 2 := by rw [← hvdef]; rfl
  have hn : nrm v = 1 := by
    have := hR.col_dot 2 2
    rw [Matrix.one_apply_eq] at this
    rw [nrm, v0, v1, v2, show R 0 2 ^ 2 + R 1 2 ^ 2 + R 2 2 ^ 2 = 1 by linear_combination this,
      Real.sqrt_one]
  have hθ : thetaOf v = Real.arccos (R 2 2) := by rw [thetaOf_eq, hn, inv_one, one_mul, v2]
  obtain ⟨δ, hδ⟩ := (hframe_isRot (phiOf v) (thetaOf v)).eq_mul_Rz3 hR
    (by rw [hframe_angles v (by rw [hn]; exact one_pos), hn, inv_one, one_smul, hv])
  -- the third row of `R = Rz φ · Ry θ · Rz δ` gives `Rz γ = Rz δ`
  have hsinpos : 0 < Real.sin (thetaOf v) := by
    rw [hθ, Real.sin_arccos]
    exact Real.sqrt_pos.mpr (by linarith)
  have r20 : R 2 0 = -(Real.sin (thetaOf v) * Real.cos δ) := by
    rw [congrFun (congrFun hδ 2) 0]
    simp [hframe, Rz3, Ry3, Matrix.mul_apply, Fin.sum_univ_three]
  have r21 : R 2 1 = Real.sin (thetaOf v) * Real.sin δ := by
    rw [congrFun (congrFun hδ 2) 1]
    simp [hframe, Rz3, Ry3, Matrix.mul_apply, Fin.sum_univ_three]
  rw [r20, r21, neg_neg, euler, Rz3_PhiOf_polar _ δ hsinpos, ← v0, ← v1, ← hθ]
  exact hδ

end Ampverif.Lemmas.C04
