/-
A small concrete world for the C06 witness theorems and non-vacuity examples, shaped after
J/psi → K0 Σ+ p~ (reaction 0: relabelled ids 0;1,2,3 → model ids 1;2,3,4, DPD usable) and its
un-relabelled twin (reaction 1: ids -1;0,1,2 → model ids 0;1,2,3, axis-angle usable).
-/
import Ampverif.Lemmas.C06Heap

namespace Ampverif.C06.Witness
open Ampverif.C06

def m (ids : List Nat) : Sym := massSym ids
def ang (n : Nat) : Sym := ⟨2, [n]⟩
def o (n : Nat) : Expr := [.other [n]]

/-- topology maps (helicity angles + invariant masses), two topologies per reaction -/
def topoMap0 : Nat → Nat → SymDict
  | 0, 1 => [(m [2, 3], o 3), (m [2], o 0), (m [3], o 1), (m [4], o 2), (m [2, 3, 4], o 4), (ang 0, o 5), (ang 1, o 6)]
  | 0, 2 => [(m [2, 4], o 7), (m [2], o 0), (m [3], o 1), (m [4], o 2), (m [2, 3, 4], o 4), (ang 2, o 8), (ang 3, o 9)]
  | 1, 1 => [(m [1, 2], o 3), (m [1], o 0), (m [2], o 1), (m [3], o 2), (m [1, 2, 3], o 4), (ang 0, o 5), (ang 1, o 6)]
  | 1, 2 => [(m [1, 3], o 7), (m [1], o 0), (m [2], o 1), (m [3], o 2), (m [1, 2, 3], o 4), (ang 2, o 8), (ang 3, o 9)]
  | _, _ => []

/-- ζ-angle definitions of DPD(1) for reaction 0: they mention m_0 (model id 1), final masses and
pair masses -/
def zeta0 : SymDict :=
  [ (⟨1, [0]⟩, [.sym (m [1]), .sym (m [2]), .sym (m [2, 3]), .other [10]]),
    (⟨1, [1]⟩, [.sym (m [1]), .sym (m [3]), .sym (m [4]), .sym (m [2, 4]), .other [11]]) ]

/-- real names: `m_<digits of the ampform ids>` for masses (so `m_1` and `m_01` tie under the
natural sort), anything else gets a name outside that shape.  109, 95 are `m`, `_`; model id `n`
stands for ampform id `n - 1`, printed as the digit with code point `n + 47`. -/
def symName0 (s : Sym) : List Nat :=
  if s.kind = 0 then 109 :: 95 :: s.ids.map (· + 47) else 0 :: s.kind :: s.ids

def w0 : World where
  pureVal cid key := match cid with
    | .dpdAligned => ⟨100 :: key, if key = [0, 1] then zeta0 else []⟩
    | _ => ⟨7 :: key, []⟩
  roCalls r _ := [(.boostChainSuffix, [r]), (.qrulesVersion, [])]
  topEntries r cfg obs :=
    [ .amp [r, 1] ([r, cfg.naming] ++ obs.flatten), .amp [r, 0] [r], .comp [r] [r, cfg.naming],
      (if cfg.helCouplings then .param ⟨3, [r]⟩ [1] else .param ⟨4, [r]⟩ [1]) ]
      ++ cfg.dynamics.map fun p => .param ⟨5, [p.1, p.2]⟩ [p.2]
  intensity r _ amp _ := r :: amp
  alignAmp r c := [200 + c, r]
  axisSyms _ := [(⟨1, [9]⟩, [.other [12]])]
  alignError r a := match a with
    | .none => none
    | .axisAngle => if r = 1 then none else some 1
    | .dpd _ => if r = 0 then none else some 1
  topoMap := topoMap0
  ownTopos _ := [1, 2]
  combTopos _ := [1, 2]
  initialIds r := if r = 0 then [1] else [0]
  finalIds r := if r = 0 then [2, 3, 4] else [1, 2, 3]
  finalMass r i := [300, r, i]
  initialMass r := [301, r]
  symName := symName0
  ampKey k := k.take 1
  compKey k := k
  -- two amplitudes with transitions ([r,1], [r,0]) and two without ([r,3], [r,2]); all four tie
  -- under `ampKey` (as `A[0,-1/2,+1/2]` / `A[0,+1/2,-1/2]` do under the natural sort)
  intensityAtoms r _ _ _ := [[r, 0], [r, 1], [r, 2], [r, 3]]
  ampStr k := k

def aliasedVariant : Variant := ⟨true, true, false, true, true⟩
def noResetVariant : Variant := ⟨false, false, false, true, true⟩
def sharedVariant : Variant := ⟨false, true, true, true, true⟩
def tiesVariant : Variant := ⟨false, true, false, false, true⟩
def missingUnsortedVariant : Variant := ⟨false, true, false, true, false⟩

/-- stable ids; default; stable ids again — one builder, DPD(1) -/
def aliasHistory : List Op :=
  [ .newBuilder 0 [], .configure 0 (.align (.dpd 1)), .configure 0 (.stable (some [2, 3, 4])),
    .formulate 0 [] [], .configure 0 (.stable none), .formulate 0 [] [],
    .configure 0 (.stable (some [4, 3, 2])), .formulate 0 [] [] ]

/-- couplings on, formulate, couplings off, formulate; a fresh builder formulates the default -/
def noResetHistory : List Op :=
  [ .newBuilder 0 [], .configure 0 (.helCouplings true), .formulate 0 [] [],
    .configure 0 (.helCouplings false), .formulate 0 [] [], .newBuilder 0 [], .formulate 1 [] [] ]

/-- configuring builder 0 between two formulate calls of builder 1 -/
def sharedHistory : List Op :=
  [ .newBuilder 0 [], .newBuilder 0 [], .formulate 1 [] [], .configure 0 (.helCouplings true),
    .configure 0 (.scalarInitial true), .formulate 1 [] [] ]

/-- two builders of the un-relabelled reaction whose topology sets iterate in opposite orders
(two hash seeds / two registration orders) -/
def tiesHistory : List Op :=
  [ .newBuilder 1 [1, 2], .newBuilder 1 [2, 1], .formulate 0 [1, 2] [], .formulate 1 [2, 1] [] ]

/-- two builders (two processes / hash seeds) whose `atoms(sp.Indexed)` sets iterate differently -/
def missingHistory : List Op :=
  [ .newBuilder 0 [], .newBuilder 0 [], .formulate 0 [] [[0, 0], [0, 1], [0, 2], [0, 3]],
    .formulate 1 [] [[0, 3], [0, 1], [0, 2], [0, 0]] ]

/-- two builders sharing reaction 0, operations interleaved, an eviction, a registration, an error -/
def interleavedHistory : List Op :=
  [ .newBuilder 0 [2, 1], .newBuilder 0 [], .configure 0 (.align (.dpd 1)), .configure 1 (.align (.dpd 1)),
    .configure 0 (.stable (some [2, 3, 4])), .formulate 0 [] [], .formulate 1 [2, 1] [],
    .configure 1 (.scalarInitial true), .formulate 1 [] [], .evict 0, .formulate 0 [] [],
    .register 1 1 [2, 1], .configure 0 (.align .axisAngle), .formulate 0 [] [], .configure 1 (.stable (some [3, 2, 4])),
    .configure 1 (.scalarInitial false), .formulate 1 [] [] ]

def outputsPureB (v : Variant) (w : World) : State → List Op → Bool
  | _, [] => true
  | s, op :: rest =>
    (match op with
      | .formulate i _ _ =>
        match s.builders[i]? with
        | some b => decide ((step v w s op).2 = some (F w b.reaction b.user))
        | none => true
      | _ => true) && outputsPureB v w (step v w s op).1 rest

theorem outputsPureB_iff (v : Variant) (w : World) :
    ∀ (ops : List Op) (s : State), outputsPureB v w s ops = true ↔ OutputsPure v w s ops := by
  intro ops
  induction ops with
  | nil => intro s; simp [outputsPureB, OutputsPure]
  | cons op rest ih =>
    intro s
    simp only [outputsPureB, OutputsPure, Bool.and_eq_true, ih]
    refine and_congr_left' ?_
    cases op with
    | formulate i order atoms =>
      simp only []
      cases hb : s.builders[i]? <;> simp
    | _ => simp

theorem agreeB_nil_right (m : SymDict) : agreeB m [] = true := by
  unfold agreeB
  induction m with
  | nil => rfl
  | cons p t ih => exact ih

/-- outside two reactions with two topologies each there is nothing to agree on -/
theorem topoMap0_nil {r t : Nat} (h : ¬ (r < 2 ∧ t < 3)) : topoMap0 r t = [] :=
  match r, t with
  | 0, 0 | 0, 1 | 0, 2 | 1, 0 | 1, 1 | 1, 2 => absurd ⟨by decide, by decide⟩ h
  | 0, _ + 3 | 1, _ + 3 | _ + 2, _ => rfl

theorem topoMap0_consistent (r t₁ t₂ : Nat) : agreeB (topoMap0 r t₁) (topoMap0 r t₂) = true := by
  have table : ∀ r < 2, ∀ t₁ < 3, ∀ t₂ < 3, agreeB (topoMap0 r t₁) (topoMap0 r t₂) = true := by
    decide
  by_cases h₁ : r < 2 ∧ t₁ < 3
  · by_cases h₂ : r < 2 ∧ t₂ < 3
    · exact table r h₁.1 t₁ h₁.2 t₂ h₂.2
    · rw [topoMap0_nil h₂]; exact agreeB_nil_right _
  · rw [topoMap0_nil h₁]; rfl

theorem symName0_injective : ∀ s t : Sym, symName0 s = symName0 t → s = t := by
  intro ⟨ks, is⟩ ⟨kt, it⟩ h
  unfold symName0 at h
  simp only at h
  by_cases hs : ks = 0 <;> by_cases ht : kt = 0
  · subst hs; subst ht
    simp only [if_true, List.cons.injEq, true_and] at h
    rw [(List.map_inj_right fun _ _ => Nat.add_right_cancel).mp h]
  · simp [hs, ht] at h
  · simp [hs, ht] at h
  · simp only [hs, ht, if_false, List.cons.injEq, true_and] at h
    obtain ⟨h1, h2⟩ := h
    rw [h1, h2]

theorem w0_ok : WorldOK w0 where
  consistent r t₁ t₂ := agree_of_agreeB (topoMap0_consistent r t₁ t₂)
  names := symName0_injective
  ampStrs _ _ h := h

end Ampverif.C06.Witness
