/-
Helper lemmas for C20: reversed Cauchy–Schwarz for a time-like vector, in components.
`H P u v := ⟨P,u⟩⟨P,v⟩ − ⟨P,P⟩⟨u,v⟩` is a positive semi-definite bilinear form when `P` is
time-like, hence satisfies the Cauchy–Schwarz inequality. Also the sign of a quadratic between its
roots, for the Dalitz-plot limits.
-/
import Mathlib.Data.Real.Basic
import Mathlib.Algebra.QuadraticDiscriminant
import Mathlib.Tactic.Ring
import Mathlib.Tactic.Linarith
import Mathlib.Tactic.Positivity

namespace Ampverif.Lemmas.C20Frame

structure V4 where
  t : ℝ
  x : ℝ
  y : ℝ
  z : ℝ

namespace V4
def add (a b : V4) : V4 := ⟨a.t + b.t, a.x + b.x, a.y + b.y, a.z + b.z⟩
def smul (c : ℝ) (a : V4) : V4 := ⟨c * a.t, c * a.x, c * a.y, c * a.z⟩
instance : Add V4 := ⟨add⟩
def dot (a b : V4) : ℝ := a.t * b.t - a.x * b.x - a.y * b.y - a.z * b.z
def sq (a : V4) : ℝ := dot a a
@[simp] theorem add_t (a b : V4) : (a + b).t = a.t + b.t := rfl
@[simp] theorem add_x (a b : V4) : (a + b).x = a.x + b.x := rfl
@[simp] theorem add_y (a b : V4) : (a + b).y = a.y + b.y := rfl
@[simp] theorem add_z (a b : V4) : (a + b).z = a.z + b.z := rfl

theorem dot_comm (a b : V4) : dot a b = dot b a := by unfold dot; ring

theorem dot_add_left (a b c : V4) : dot (a + b) c = dot a c + dot b c := by
  simp only [dot, add_t, add_x, add_y, add_z]; ring

theorem dot_add_right (a b c : V4) : dot a (b + c) = dot a b + dot a c := by
  simp only [dot, add_t, add_x, add_y, add_z]; ring

end V4

open V4

def H (P u v : V4) : ℝ := dot P u * dot P v - dot P P * dot u v

theorem H_symm (P u v : V4) : H P u v = H P v u := by
  unfold H dot; ring

/-- in the rest frame of `P` the form is `P₀²` times the Euclidean product of the three-momenta -/
theorem H_rest (P u v : V4) (hx : P.x = 0) (hy : P.y = 0) (hz : P.z = 0) :
    H P u v = P.t ^ 2 * (u.x * v.x + u.y * v.y + u.z * v.z) := by
  unfold H dot; rw [hx, hy, hz]; ring

/-- `P₀² · H(u,u) = ⟨P,P⟩ |w|² + (P⃗·w)²` with `w = P₀ u⃗ − u₀ P⃗`. -/
theorem H_self_identity (P u : V4) :
    P.t ^ 2 * H P u u
      = dot P P * ((P.t * u.x - u.t * P.x) ^ 2 + (P.t * u.y - u.t * P.y) ^ 2
          + (P.t * u.z - u.t * P.z) ^ 2)
        + (P.x * (P.t * u.x - u.t * P.x) + P.y * (P.t * u.y - u.t * P.y)
          + P.z * (P.t * u.z - u.t * P.z)) ^ 2 := by
  unfold H dot; ring

theorem time_sq_pos (P : V4) (hP : 0 < dot P P) : 0 < P.t ^ 2 := by
  unfold dot at hP
  nlinarith [sq_nonneg P.x, sq_nonneg P.y, sq_nonneg P.z, sq_nonneg P.t]

/-- Reversed Cauchy–Schwarz: `⟨P,u⟩² ≥ ⟨P,P⟩⟨u,u⟩` for time-like `P`. -/
theorem H_self_nonneg (P u : V4) (hP : 0 < dot P P) : 0 ≤ H P u u := by
  have h1 := H_self_identity P u
  have h2 := time_sq_pos P hP
  have h3 : 0 ≤ P.t ^ 2 * H P u u := by
    rw [h1]; positivity
  by_contra hneg
  push Not at hneg
  have := mul_neg_of_pos_of_neg h2 hneg
  linarith

theorem H_add_smul (P u v : V4) (c : ℝ) :
    H P (u + smul c v) (u + smul c v) = H P v v * c * c + 2 * H P u v * c + H P u u := by
  show H P (add u (smul c v)) (add u (smul c v)) = _
  unfold H dot add smul; ring

/-- Cauchy–Schwarz for the form `H P`. -/
theorem H_cauchy_schwarz (P u v : V4) (hP : 0 < dot P P) :
    H P u v ^ 2 ≤ H P u u * H P v v := by
  have h : ∀ c : ℝ, 0 ≤ H P v v * (c * c) + 2 * H P u v * c + H P u u := by
    intro c
    have := H_self_nonneg P (u + smul c v) hP
    rw [H_add_smul] at this
    linarith
  have := discrim_le_zero h
  unfold discrim at this
  nlinarith

/-- `(N/(2b))² − c² ≥ 0` as soon as `N ≥ 2bc ≥ 0`: the squared momentum of a daughter in the rest
frame of a pair of mass `b` -/
theorem sq_div_sub_sq_nonneg {N b c : ℝ} (hb : 0 < b) (hc : 0 ≤ c) (h : 2 * b * c ≤ N) :
    0 ≤ (N / (2 * b)) ^ 2 - c ^ 2 := by
  have hle : c ≤ N / (2 * b) := by rw [le_div_iff₀ (by positivity)]; linarith
  exact sub_nonneg.mpr (pow_le_pow_left₀ hc hle 2)

/-- a positive multiple of `(x − lo)(x − hi)` is `≤ 0` exactly between `lo ≤ hi` -/
theorem mul_sub_mul_sub_nonpos_iff {c lo hi x : ℝ} (hc : 0 < c) (h : lo ≤ hi) :
    c * ((x - lo) * (x - hi)) ≤ 0 ↔ lo ≤ x ∧ x ≤ hi := by
  constructor
  · intro hp
    have hp' : (x - lo) * (x - hi) ≤ 0 := nonpos_of_mul_nonpos_right hp hc
    constructor
    · by_contra hlt
      push Not at hlt
      linarith [mul_pos_of_neg_of_neg (sub_neg.mpr hlt) (sub_neg.mpr (hlt.trans_le h))]
    · by_contra hgt
      push Not at hgt
      linarith [mul_pos (sub_pos.mpr (h.trans_lt hgt)) (sub_pos.mpr hgt)]
  · rintro ⟨h1, h2⟩
    exact mul_nonpos_of_nonneg_of_nonpos hc.le
      (mul_nonpos_of_nonneg_of_nonpos (sub_nonneg.mpr h1) (sub_nonpos.mpr h2))

end Ampverif.Lemmas.C20Frame
