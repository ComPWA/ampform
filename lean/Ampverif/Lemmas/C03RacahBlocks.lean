/-
C03 — Racah's closed formula equals the REGENERATED SymPy Clebsch–Gordan table on every admissible
key with `2j₁, 2j₂ ≤ 6`: a check that walks each block once (`blockIsRacah`), its correctness for any
table (`racah_eq_cg`), and one kernel evaluation on the table. Keys that are absent from the table
read as 0 there, and Racah's formula gives 0 too. If SymPy's table or the formula changes, the
evaluation breaks.
-/
import Ampverif.Lemmas.C03Racah
import Ampverif.Gen.C03CG

namespace Ampverif.Lemmas.C03RacahBlocks
open Ampverif.Model.C03CG Ampverif.Lemmas.C03CG Ampverif.Gen.C03CG

/-- the key with admissible quantum numbers `m₁ = 2a − j₁`, `m₂ = 2b − j₂`, `J = |j₁−j₂| + 2c`,
`M = m₁ + m₂` (all doubled) -/
def keyOf (j1 j2 a b c : Nat) : Key :=
  ⟨j1, 2 * (a : Int) - j1, j2, 2 * (b : Int) - j2, (max j1 j2 - min j1 j2) + 2 * c,
    (2 * (a : Int) - j1) + (2 * (b : Int) - j2)⟩

/-- all admissible keys of a block, `a ≤ j₁`, `b ≤ j₂`, `c ≤ min j₁ j₂`, in the order in which the
generator writes them (`J`, then `m₁`, then `m₂`) -/
def validKeys (j1 j2 : Nat) : List Key :=
  (List.range (min j1 j2 + 1)).flatMap fun c =>
    (List.range (j1 + 1)).flatMap fun a => (List.range (j2 + 1)).map fun b => keyOf j1 j2 a b c

theorem keyOf_mem_validKeys (j1 j2 a b c : Nat) (ha : a ≤ j1) (hb : b ≤ j2) (hc : c ≤ min j1 j2) :
    keyOf j1 j2 a b c ∈ validKeys j1 j2 :=
  List.mem_flatMap.mpr ⟨c, List.mem_range.mpr (Nat.lt_succ_of_le hc),
    List.mem_flatMap.mpr ⟨a, List.mem_range.mpr (Nat.lt_succ_of_le ha),
      List.mem_map.mpr ⟨b, List.mem_range.mpr (Nat.lt_succ_of_le hb), rfl⟩⟩⟩

/-- The block stores exactly the admissible keys with `|M| ≤ J` (the others are zeros of Racah's
formula), and every stored value is Racah's. Comparing the key lists in order makes the check one
pass over the block; a generator that wrote another order would make it fail. -/
def blockIsRacah (j1 j2 : Nat) (blk : Block) : Bool :=
  decide (blk.map Prod.fst = (validKeys j1 j2).filter fun k => decide (-(k.J : Int) ≤ k.M ∧ k.M ≤ k.J))
    && blk.all fun (k, v) => racahCertifies k v

theorem racah_eq_get? (j1 j2 : Nat) (blk : Block) (h : blockIsRacah j1 j2 blk = true) (k : Key)
    (hk : k ∈ validKeys j1 j2) :
    racah k.j1 k.m1 k.j2 k.m2 k.J k.M = ((blk.get? k).getD zero).toReal := by
  simp only [blockIsRacah, Bool.and_eq_true, decide_eq_true_eq, List.all_eq_true] at h
  cases hget : blk.get? k with
  | some v => exact racah_eq_of_certifies k v (h.2 (k, v) (get?_mem blk k v hget))
  | none =>
    have hnot := (get?_eq_none_iff blk k).mp hget
    rw [h.1] at hnot
    rw [racah_eq_zero_of_not_range _ _ _ _ _ _ fun hr => hnot (List.mem_filter.mpr ⟨hk, decide_eq_true hr⟩)]
    simp [zero, Val.toReal]

/-- every block with `2j₁, 2j₂ ≤ n` is there and passes `blockIsRacah` -/
def tableIsRacah (t : Table) (n : Nat) : Bool :=
  (List.range (n + 1)).all fun j1 => (List.range (n + 1)).all fun j2 =>
    (t.block? (j1, j2)).any (blockIsRacah j1 j2)

/-- **Racah's formula = the table** on every admissible key with `2j₁, 2j₂ ≤ n`, for any table that
passes the check. -/
theorem racah_eq_cg (t : Table) (n : Nat) (h : tableIsRacah t n = true) (j1 j2 a b c : Nat)
    (h1 : j1 ≤ n) (h2 : j2 ≤ n) (ha : a ≤ j1) (hb : b ≤ j2) (hc : c ≤ min j1 j2) :
    racah j1 (2 * (a : Int) - j1) j2 (2 * (b : Int) - j2) ((max j1 j2 - min j1 j2) + 2 * c)
        ((2 * (a : Int) - j1) + (2 * (b : Int) - j2))
      = cg t j1 (2 * (a : Int) - j1) j2 (2 * (b : Int) - j2) ((max j1 j2 - min j1 j2) + 2 * c)
          ((2 * (a : Int) - j1) + (2 * (b : Int) - j2)) := by
  have hblk := List.all_eq_true.mp (List.all_eq_true.mp h j1 (List.mem_range.mpr (Nat.lt_succ_of_le h1)))
    j2 (List.mem_range.mpr (Nat.lt_succ_of_le h2))
  unfold cg Table.get
  cases hb? : t.block? (j1, j2) with
  | none => rw [hb?] at hblk; cases hblk
  | some blk =>
    rw [hb?, Option.any_some] at hblk
    exact racah_eq_get? j1 j2 blk hblk _ (keyOf_mem_validKeys j1 j2 a b c ha hb hc)

theorem table_isRacah : tableIsRacah table maxSpin2 = true := by decide +kernel

end Ampverif.Lemmas.C03RacahBlocks
