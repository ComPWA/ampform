/-
C04/C05, layer (R): the Wigner rotation of the axis-angle alignment.

`kinematics/angles.py: compute_wigner_rotation_matrix(topology, momenta, i)` returns
`MatrixMultiplication(BoostMatrix(NegativeMomentum(p_i)), *compute_boost_chain(topology, momenta, i))`
and `kinematics/lorentz.py: compute_boost_chain` builds the chain
`B₁ = B(q₁)`, `B₂ = B(B₁ q₂)`, `B₃ = B(B₂ B₁ q₃)`, … for the momenta `q₁, …, q_n = p_i` of the states
from the first resonance down to the final state `i` (every momentum of the pool is boosted after
each step).  Here the chain is modelled on the REGENERATED explicit boost matrices
(`Gen.C08.boostEx`, `Gen.C08.boostNegEx`) and it is proved, for every chain length:

* `lorentz_fix_e0`: a proper Lorentz matrix that fixes the time axis is `1 ⊕ R` with `R` a
  proper rotation;
* `wigner_is_rotation`: the Wigner matrix `W = B(−p) · B₁ ⋯ B_n` is `1 ⊕ R`, `R` a proper
  rotation, whenever every momentum met by the chain is time-like with non-zero three-momentum
  (the guards of the C08 boost theorems; `AdmissibleFrom`).
-/
import Ampverif.Props.C08
import Ampverif.Lemmas.C04Euler

namespace Ampverif.Lemmas.C04
open Matrix Ampverif.Gen.C08 Ampverif.Lemmas.C08 Ampverif.Props.C08

abbrev M4 := Matrix (Fin 4) (Fin 4) ℝ

def e0 : Fin 4 → ℝ := ![1, 0, 0, 0]

/-- spatial 3×3 block -/
def spat (L : M4) : Matrix (Fin 3) (Fin 3) ℝ :=
  !![L 1 1, L 1 2, L 1 3; L 2 1, L 2 2, L 2 3; L 3 1, L 3 2, L 3 3]

def IsLorentz (L : M4) : Prop := Lᵀ * eta * L = eta

theorem IsLorentz.mul {A B : M4} (hA : IsLorentz A) (hB : IsLorentz B) : IsLorentz (A * B) := by
  unfold IsLorentz at *
  rw [Matrix.transpose_mul]
  calc Bᵀ * Aᵀ * eta * (A * B) = Bᵀ * (Aᵀ * eta * A) * B := by simp only [Matrix.mul_assoc]
    _ = eta := by rw [hA, hB]

theorem eta_eq_emb : eta = emb (-1) := by
  simp [eta, emb]

theorem eta_mul_eta : eta * eta = (1 : M4) := by
  rw [eta_eq_emb, ← emb_mul, neg_mul_neg, one_mul, emb_one]

/-- the transpose of a Lorentz matrix is a Lorentz matrix -/
theorem IsLorentz.transpose {A : M4} (hA : IsLorentz A) : IsLorentz Aᵀ := by
  unfold IsLorentz at *
  rw [Matrix.transpose_transpose]
  -- (η Aᵀ η) A = 1  ⇒  A (η Aᵀ η) = 1  ⇒  A η Aᵀ = η
  have h1 : (eta * Aᵀ * eta) * A = 1 := by
    rw [Matrix.mul_assoc, Matrix.mul_assoc, ← Matrix.mul_assoc Aᵀ, hA, eta_mul_eta]
  have h2 : A * (eta * Aᵀ * eta) = 1 := mul_eq_one_comm.mp h1
  calc A * eta * Aᵀ = (A * (eta * Aᵀ * eta)) * eta := by
        simp only [Matrix.mul_assoc]; rw [eta_mul_eta, Matrix.mul_one]
    _ = eta := by rw [h2, Matrix.one_mul]

theorem det_emb (R : Matrix (Fin 3) (Fin 3) ℝ) : (emb R).det = R.det := by
  rw [det4, Matrix.det_fin_three]
  simp [emb]

theorem mulVec_e0 (L : M4) (i : Fin 4) : (L *ᵥ e0) i = L i 0 := by
  simp [e0, Matrix.mulVec, dotProduct, Fin.sum_univ_succ]

theorem e0_succ (i : Fin 3) : e0 i.succ = 0 := by fin_cases i <;> rfl

theorem spat_apply (L : M4) (i j : Fin 3) : spat L i j = L i.succ j.succ := by
  fin_cases i <;> fin_cases j <;> rfl

theorem mul_emb_zero (A : M4) (R : Matrix (Fin 3) (Fin 3) ℝ) (i : Fin 4) :
    (A * emb R) i 0 = A i 0 := by
  simp [Matrix.mul_apply, Fin.sum_univ_succ]

theorem mul_emb_succ (A : M4) (R : Matrix (Fin 3) (Fin 3) ℝ) (i : Fin 4) (j : Fin 3) :
    (A * emb R) i j.succ = ∑ k : Fin 3, A i k.succ * R k j := by
  simp [Matrix.mul_apply, Fin.sum_univ_succ]

/-- the entries of `Lᵀ η L = η`, split into time and space rows -/
theorem IsLorentz.apply {L : M4} (hL : IsLorentz L) (i j : Fin 4) :
    L 0 i * L 0 j - ∑ k : Fin 3, L k.succ i * L k.succ j = eta i j := by
  rw [← hL, eta_eq_emb, Matrix.mul_apply]
  conv_rhs => rw [Fin.sum_univ_succ, mul_emb_zero]
  simp only [mul_emb_succ, Matrix.neg_apply, Matrix.one_apply, mul_neg, mul_ite, mul_one, mul_zero,
    Finset.sum_neg_distrib, Finset.sum_ite_eq', Finset.mem_univ, if_true, Matrix.transpose_apply,
    neg_mul, sub_eq_add_neg]

/-- a Lorentz matrix that maps the time axis to a positive multiple of itself fixes it -/
theorem IsLorentz.fix_e0 {L : M4} (hL : IsLorentz L) {c : ℝ} (h : L *ᵥ e0 = c • e0) (hc : 0 < c) :
    c = 1 := by
  have col : ∀ i, L i 0 = c * e0 i := fun i => by rw [← mulVec_e0 L i, h]; rfl
  have h00 := hL.apply 0 0
  simp only [col, e0_succ, mul_zero, Finset.sum_const_zero, sub_zero, eta_eq_emb,
    emb_zero_zero] at h00
  have : c * c = 1 := by rw [← h00]; simp [e0]
  exact (mul_self_eq_one_iff.mp this).resolve_right (by linarith)

/-- **A proper Lorentz matrix fixing the time axis is a rotation** `1 ⊕ R`. -/
theorem lorentz_fix_e0 (L : M4) (hL : IsLorentz L) (hdet : L.det = 1) (h0 : L *ᵥ e0 = e0) :
    IsRot (spat L) ∧ L = emb (spat L) := by
  have col : ∀ i, L i 0 = e0 i := fun i => by rw [← mulVec_e0 L i, h0]
  -- the first row vanishes as well: entry `(0, j)` of `Lᵀ η L = η`
  have row : ∀ j : Fin 3, L 0 j.succ = 0 := fun j => by
    have := hL.apply 0 j.succ
    simp only [col, e0_succ, zero_mul, Finset.sum_const_zero, sub_zero, eta_eq_emb,
      emb_zero_succ] at this
    rw [← this]; simp [e0]
  have hemb : L = emb (spat L) :=
    ext_blocks (col 0) (fun j => by rw [row, emb_zero_succ])
      (fun i => by rw [col, e0_succ, emb_succ_zero]) (fun i j => by rw [emb_succ_succ, spat_apply])
  refine ⟨⟨?_, ?_⟩, hemb⟩
  · ext i j
    have := hL.apply i.succ j.succ
    rw [row, zero_mul, zero_sub, eta_eq_emb, emb_succ_succ, Matrix.neg_apply, neg_inj] at this
    rw [← this, Matrix.mul_apply]
    simp only [Matrix.transpose_apply, spat_apply]
  · rw [← det_emb, ← hemb]; exact hdet

/-- `BoostMatrix(p).as_explicit()` of a four-vector -/
noncomputable def boostOf (p : Fin 4 → ℝ) : M4 := boostEx (p 0) (p 1) (p 2) (p 3)

/-- `BoostMatrix(NegativeMomentum(p)).as_explicit()` of a four-vector -/
noncomputable def boostNegOf (p : Fin 4 → ℝ) : M4 := boostNegEx (p 0) (p 1) (p 2) (p 3)

/-- the guards of the C08 boost theorems: positive energy, non-zero three-momentum, time-like -/
def Timelike (p : Fin 4 → ℝ) : Prop :=
  0 < p 0 ∧ 0 < p 1 ^ 2 + p 2 ^ 2 + p 3 ^ 2 ∧ p 1 ^ 2 + p 2 ^ 2 + p 3 ^ 2 < p 0 ^ 2

/-- `compute_boost_chain`: `acc` is the product `B_k ⋯ B₁` applied so far to the whole pool;
returns the list of boosts in the order of the source (`[B_{k+1}, …, B_n]`). -/
noncomputable def boostChainFrom (acc : M4) : List (Fin 4 → ℝ) → List M4
  | [] => []
  | q :: rest =>
    let B := boostOf (acc *ᵥ q)
    B :: boostChainFrom (B * acc) rest

/-- every momentum the chain boosts with satisfies the guards -/
def AdmissibleFrom (acc : M4) : List (Fin 4 → ℝ) → Prop
  | [] => True
  | q :: rest => Timelike (acc *ᵥ q) ∧ AdmissibleFrom (boostOf (acc *ᵥ q) * acc) rest

/-- total transformation `B_n ⋯ B₁ · acc` after the chain -/
noncomputable def totalFrom (acc : M4) : List (Fin 4 → ℝ) → M4
  | [] => acc
  | q :: rest => totalFrom (boostOf (acc *ᵥ q) * acc) rest

/-- `compute_boost_chain(topology, momenta, i)` for the chain momenta `qs` (last one = `p_i`) -/
noncomputable def boostChain (qs : List (Fin 4 → ℝ)) : List M4 := boostChainFrom 1 qs

/-- `compute_wigner_rotation_matrix`: `MatrixMultiplication(B(−p), B₁, …, B_n)` -/
noncomputable def wignerMatrix (p : Fin 4 → ℝ) (qs : List (Fin 4 → ℝ)) : M4 :=
  (boostChain qs).foldl (· * ·) (boostNegOf p)

theorem boostOf_lorentz {p : Fin 4 → ℝ} (h : Timelike p) : IsLorentz (boostOf p) := by
  have := boost_lorentz (p 0) (p 1) (p 2) (p 3) h.1 h.2.1 h.2.2
  rwa [metric_eq] at this

theorem boostOf_det {p : Fin 4 → ℝ} (h : Timelike p) : (boostOf p).det = 1 :=
  boost_det (p 0) (p 1) (p 2) (p 3) h.1 h.2.1 h.2.2

theorem absBoost_symm (g bx by' bz u : ℝ) : (absBoost g bx by' bz u)ᵀ = absBoost g bx by' bz u := by
  rw [absBoost, ← Matrix.ext_iff]
  simp [Fin.forall_fin_succ, mul_right_comm]

/-- the explicit boost matrix is symmetric -/
theorem boostOf_symm {p : Fin 4 → ℝ} (h : Timelike p) : (boostOf p)ᵀ = boostOf p := by
  unfold boostOf
  rw [boostEx_abs (p 0) (p 1) (p 2) (p 3) h.1 h.2.1 h.2.2, absBoost_symm]

/-- boosting `p` with its own boost gives `m · e₀`, `m > 0` -/
theorem boostOf_self {p : Fin 4 → ℝ} (h : Timelike p) :
    ∃ m : ℝ, 0 < m ∧ boostOf p *ᵥ p = m • e0 := by
  refine ⟨mass (p 0) (p 1) (p 2) (p 3), Real.sqrt_pos.mpr (by linarith [h.2.2]), ?_⟩
  have := boost_self (p 0) (p 1) (p 2) (p 3) h.1 h.2.1 h.2.2
  have hp4 : p = ![p 0, p 1, p 2, p 3] := by ext i; fin_cases i <;> rfl
  calc boostOf p *ᵥ p = boostEx (p 0) (p 1) (p 2) (p 3) *ᵥ ![p 0, p 1, p 2, p 3] :=
        congrArg (fun v => boostEx (p 0) (p 1) (p 2) (p 3) *ᵥ v) hp4
    _ = ![mass (p 0) (p 1) (p 2) (p 3), 0, 0, 0] := this
    _ = mass (p 0) (p 1) (p 2) (p 3) • e0 := by
        ext i; fin_cases i <;> simp [e0]

theorem boostNegOf_inverse {p : Fin 4 → ℝ} (h : Timelike p) : boostNegOf p * boostOf p = 1 :=
  boost_neg_inverse (p 0) (p 1) (p 2) (p 3) h.1 h.2.1 h.2.2

theorem neg_timelike {p : Fin 4 → ℝ} (h : Timelike p) : Timelike ![p 0, -p 1, -p 2, -p 3] := by
  obtain ⟨h1, h2, h3⟩ := h
  refine ⟨by simpa using h1, by simpa using h2, by simpa using h3⟩

theorem boostNegOf_eq (p : Fin 4 → ℝ) : boostNegOf p = boostOf ![p 0, -p 1, -p 2, -p 3] := by
  unfold boostNegOf boostOf
  rw [boostNeg_eq]; rfl

theorem boostNegOf_lorentz {p : Fin 4 → ℝ} (h : Timelike p) : IsLorentz (boostNegOf p) := by
  rw [boostNegOf_eq]; exact boostOf_lorentz (neg_timelike h)

theorem boostNegOf_det {p : Fin 4 → ℝ} (h : Timelike p) : (boostNegOf p).det = 1 := by
  rw [boostNegOf_eq]; exact boostOf_det (neg_timelike h)

theorem boostNegOf_symm {p : Fin 4 → ℝ} (h : Timelike p) : (boostNegOf p)ᵀ = boostNegOf p := by
  rw [boostNegOf_eq]; exact boostOf_symm (neg_timelike h)

/-- the inverse boost takes `m·e₀` back to `p` -/
theorem boostNegOf_e0 {p : Fin 4 → ℝ} (h : Timelike p) :
    ∃ m : ℝ, 0 < m ∧ boostNegOf p *ᵥ e0 = m⁻¹ • p := by
  obtain ⟨m, hm, hs⟩ := boostOf_self h
  refine ⟨m, hm, ?_⟩
  have : boostNegOf p *ᵥ (boostOf p *ᵥ p) = p := by
    rw [Matrix.mulVec_mulVec, boostNegOf_inverse h, Matrix.one_mulVec]
  rw [hs, Matrix.mulVec_smul] at this
  have hp' : p = m • (boostNegOf p *ᵥ e0) := this.symm
  conv_rhs => rw [hp']
  rw [smul_smul, inv_mul_cancel₀ hm.ne', one_smul]

theorem IsLorentz.one : IsLorentz (1 : M4) := by
  rw [IsLorentz, Matrix.transpose_one, Matrix.one_mul, Matrix.mul_one]

/-- every boost of an admissible chain is a proper, symmetric Lorentz matrix -/
theorem boostChainFrom_mem (acc : M4) (qs : List (Fin 4 → ℝ)) (hadm : AdmissibleFrom acc qs) :
    ∀ B ∈ boostChainFrom acc qs, (IsLorentz B ∧ B.det = 1) ∧ Bᵀ = B := by
  induction qs generalizing acc with
  | nil => intro B hB; cases hB
  | cons q rest ih =>
    simp only [boostChainFrom, List.forall_mem_cons]
    exact ⟨⟨⟨boostOf_lorentz hadm.1, boostOf_det hadm.1⟩, boostOf_symm hadm.1⟩, ih _ hadm.2⟩

theorem wignerMatrix_eq (p : Fin 4 → ℝ) (qs : List (Fin 4 → ℝ)) :
    wignerMatrix p qs = (boostNegOf p :: boostChainFrom 1 qs).prod := by
  rw [List.prod_cons, List.prod_eq_foldl, ← List.foldl_assoc (op := fun A B : M4 => A * B), Matrix.mul_one]
  rfl

/-- the chain in REVERSED order, `B_n ⋯ B_{k+1}`, takes the LAST momentum of the chain to `m'·e₀` -/
theorem reverse_chain_last (acc : M4) (qs : List (Fin 4 → ℝ)) (p : Fin 4 → ℝ)
    (hadm : AdmissibleFrom acc qs) (hlast : qs.getLast? = some p) :
    ∃ m : ℝ, 0 < m ∧ ((boostChainFrom acc qs).reverse.prod * acc) *ᵥ p = m • e0 := by
  induction qs generalizing acc with
  | nil => simp at hlast
  | cons q rest ih =>
    obtain ⟨hq, hrest⟩ := hadm
    simp only [boostChainFrom, List.reverse_cons, List.prod_append, List.prod_singleton, Matrix.mul_assoc]
    cases rest with
    | nil =>
      have hqp : q = p := by simpa using hlast
      subst hqp
      obtain ⟨m, hm, hs⟩ := boostOf_self hq
      refine ⟨m, hm, ?_⟩
      rw [boostChainFrom, List.reverse_nil, List.prod_nil, Matrix.one_mul, ← Matrix.mulVec_mulVec, hs]
    | cons q2 rest2 =>
      exact ih (boostOf (acc *ᵥ q) * acc) hrest (by simpa [List.getLast?_cons_cons] using hlast)

/-- **The Wigner matrix of `compute_wigner_rotation_matrix` is a pure rotation.**
For every chain length: if `p` and every momentum met by the boost chain is time-like with
non-zero three-momentum and the chain ends at `p`, then `W = 1 ⊕ Rᵀ` for a proper rotation `R`
(namely `R = spat Wᵀ`). -/
theorem wigner_is_rotation (p : Fin 4 → ℝ) (qs : List (Fin 4 → ℝ)) (hp : Timelike p)
    (hadm : AdmissibleFrom 1 qs) (hlast : qs.getLast? = some p) :
    IsRot (spat (wignerMatrix p qs)ᵀ) ∧ wignerMatrix p qs = emb (spat (wignerMatrix p qs)ᵀ)ᵀ := by
  have hall : ∀ B ∈ boostNegOf p :: boostChainFrom 1 qs, (IsLorentz B ∧ B.det = 1) ∧ Bᵀ = B :=
    List.forall_mem_cons.mpr ⟨⟨⟨boostNegOf_lorentz hp, boostNegOf_det hp⟩, boostNegOf_symm hp⟩,
      boostChainFrom_mem 1 qs hadm⟩
  obtain ⟨hWL, hWd⟩ : IsLorentz (wignerMatrix p qs) ∧ (wignerMatrix p qs).det = 1 := by
    rw [wignerMatrix_eq]
    exact List.prod_induction (fun B => IsLorentz B ∧ B.det = 1)
      (fun A B hA hB => ⟨hA.1.mul hB.1, by rw [Matrix.det_mul, hA.2, hB.2, one_mul]⟩)
      ⟨IsLorentz.one, Matrix.det_one⟩ fun B hB => (hall B hB).1
  -- every factor is symmetric, so transposing reverses the product
  have hWT : (wignerMatrix p qs)ᵀ = (boostChainFrom 1 qs).reverse.prod * boostNegOf p := by
    rw [wignerMatrix_eq, Matrix.transpose_list_prod, List.map_congr_left (g := id) fun B hB => (hall B hB).2,
      List.map_id, List.reverse_cons, List.prod_append, List.prod_singleton]
  set W := wignerMatrix p qs
  -- Wᵀ e₀ = c e₀ with c > 0
  obtain ⟨m, hm, hneg⟩ := boostNegOf_e0 hp
  obtain ⟨m', hm', hlastv⟩ := reverse_chain_last 1 qs p hadm hlast
  have hcol : Wᵀ *ᵥ e0 = (m⁻¹ * m') • e0 := by
    rw [hWT, ← Matrix.mulVec_mulVec, hneg, Matrix.mulVec_smul]
    rw [Matrix.mul_one] at hlastv
    rw [hlastv, smul_smul]
  have hc : 0 < m⁻¹ * m' := mul_pos (inv_pos.mpr hm) hm'
  have hWTL : IsLorentz Wᵀ := hWL.transpose
  have hc1 : m⁻¹ * m' = 1 := hWTL.fix_e0 hcol hc
  have hfix : Wᵀ *ᵥ e0 = e0 := by rw [hcol, hc1, one_smul]
  have hdetT : Wᵀ.det = 1 := by rw [Matrix.det_transpose]; exact hWd
  obtain ⟨hrot, hemb⟩ := lorentz_fix_e0 Wᵀ hWTL hdetT hfix
  refine ⟨hrot, ?_⟩
  rw [← emb_transpose, ← hemb, Matrix.transpose_transpose]

end Ampverif.Lemmas.C04
