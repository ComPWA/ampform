/-
C05 — from the regenerated small-d tables (Gen/C05Wigner.lean, j ≤ 5/2) to Wigner-D matrices that
are unitary on the complete range of spin projections.

`Dmat j2 α β γ m m' = e^{-i(m/2)α} · d^{j}_{m m'}(β) · e^{-i(m'/2)γ}` (doubled `m`, `m'`), which is
how SymPy evaluates `Rotation.D(j, m, mp, α, β, γ)` (the check compares the two symbolically on
every run). `Dmat_iso`, `Dmat_iso_transpose`: its columns and its rows are orthonormal on
`fullRange j2` for every real α, β, γ and every j2 ≤ 5.
-/
import Ampverif.Gen.C05Wigner
import Ampverif.Lemmas.C05Unitary
import Ampverif.Lemmas.C05Range
import Mathlib.Analysis.SpecialFunctions.Trigonometric.Basic
import Mathlib.LinearAlgebra.Matrix.NonsingularInverse
import Mathlib.Analysis.Real.Sqrt

namespace Ampverif.Lemmas.C05Wigner
open Ampverif.Gen.C05Wigner Ampverif.Model.C05Spin Ampverif.Model.C05Align
open Ampverif.Lemmas.C05Unitary Ampverif.Lemmas.C05Range
open scoped ComplexConjugate

/-- the table of `d^{j2/2}(β)` at a real angle -/
noncomputable def dAt (j2 : ℕ) (β : ℝ) : ℕ → ℕ → ℝ :=
  dtab j2 (Real.cos (β / 2)) (Real.sin (β / 2)) (Real.sqrt 2) (Real.sqrt 3) (Real.sqrt 5)

theorem dAt_row (j2 : ℕ) (hj : j2 ≤ 5) (β : ℝ) (a b : ℕ) (ha : a < j2 + 1) (hb : b < j2 + 1) :
    ∑ k ∈ Finset.range (j2 + 1), dAt j2 β a k * dAt j2 β b k = if a = b then 1 else 0 :=
  dtab_row_orth (Real.cos_sq_add_sin_sq _)
    (Real.sq_sqrt (by norm_num)) (Real.sq_sqrt (by norm_num)) (Real.sq_sqrt (by norm_num)) j2 hj a b ha hb

/-- `d dᵀ = 1` gives `dᵀ d = 1` (finite square matrices) -/
theorem dAt_col (j2 : ℕ) (hj : j2 ≤ 5) (β : ℝ) (a b : ℕ) (ha : a < j2 + 1) (hb : b < j2 + 1) :
    ∑ k ∈ Finset.range (j2 + 1), dAt j2 β k a * dAt j2 β k b = if a = b then 1 else 0 := by
  let M : Matrix (Fin (j2 + 1)) (Fin (j2 + 1)) ℝ := Matrix.of fun x y => dAt j2 β x y
  have h1 : M * M.transpose = 1 := by
    ext x y
    simp only [Matrix.mul_apply, Matrix.transpose_apply, M, Matrix.of_apply, Matrix.one_apply]
    rw [← Finset.sum_range (fun k => dAt j2 β x k * dAt j2 β y k), dAt_row j2 hj β x y x.2 y.2]
    simp [Fin.ext_iff]
  have h2 : M.transpose * M = 1 := mul_eq_one_comm.mp h1
  have h3 := congrFun (congrFun h2 ⟨a, ha⟩) ⟨b, hb⟩
  simp only [Matrix.mul_apply, Matrix.transpose_apply, M, Matrix.of_apply, Matrix.one_apply] at h3
  rw [← Finset.sum_range (fun k => dAt j2 β k a * dAt j2 β k b)] at h3
  rw [h3]
  simp [Fin.ext_iff]

/-- `e^{-i r}` -/
noncomputable def phase (r : ℝ) : ℂ := Complex.exp (-(r : ℂ) * Complex.I)

theorem phase_conj_mul (r : ℝ) : conj (phase r) * phase r = 1 := by
  unfold phase
  rw [← Complex.exp_conj, ← Complex.exp_add]
  simp

theorem conj_mul_cancel_unit (P Q Q' : ℂ) (x y : ℝ) (hP : conj P * P = 1) :
    conj (P * (x : ℂ) * Q) * (P * (y : ℂ) * Q') = ((x * y : ℝ) : ℂ) * (conj Q * Q') := by
  simp only [map_mul, Complex.conj_ofReal]
  push_cast
  linear_combination ((x : ℂ) * (y : ℂ) * (conj Q * Q')) * hP

/-- position of the doubled projection `m` in `-j2, -j2+2, …, j2` -/
def idx (j2 : ℕ) (m : ℤ) : ℕ := ((m + j2) / 2).toNat

theorem idx_spec (j2 k : ℕ) : idx j2 (-(j2 : ℤ) + 2 * (k : ℤ)) = k := by
  unfold idx
  have : (-(j2 : ℤ) + 2 * (k : ℤ) + j2) / 2 = k := by omega
  rw [this]; simp

/-- Wigner `D^{j2/2}_{m/2, m'/2}(α, β, γ)` on doubled projections, from the regenerated d table -/
noncomputable def Dmat (j2 : ℕ) (α β γ : ℝ) (m m' : ℤ) : ℂ :=
  phase ((m : ℝ) / 2 * α) * ((dAt j2 β (idx j2 m) (idx j2 m') : ℝ) : ℂ) * phase ((m' : ℝ) / 2 * γ)

theorem sum_fullRange {M : Type*} [AddCommMonoid M] (j2 : ℕ) (f : ℤ → M) :
    ((fullRange j2).map f).sum = ∑ k ∈ Finset.range (j2 + 1), f (-(j2 : ℤ) + 2 * (k : ℤ)) := by
  unfold fullRange
  rw [List.map_map]
  rfl

/-- unit factors on both sides of a real table with orthonormal columns give orthonormal columns on
the complete range of projections -/
theorem phase_table_iso (j2 : ℕ) (f g : ℤ → ℂ) (hf : ∀ m, conj (f m) * f m = 1)
    (hg : ∀ m, conj (g m) * g m = 1) (d : ℕ → ℕ → ℝ)
    (hd : ∀ a b, a < j2 + 1 → b < j2 + 1 →
      ∑ k ∈ Finset.range (j2 + 1), d k a * d k b = if a = b then 1 else 0) :
    PoolIso (fullRange j2) fun m m' => f m * ((d (idx j2 m) (idx j2 m') : ℝ) : ℂ) * g m' := by
  intro l hl l' hl'
  obtain ⟨a, ha, rfl⟩ := (mem_fullRange j2 l).mp hl
  obtain ⟨b, hb, rfl⟩ := (mem_fullRange j2 l').mp hl'
  rw [sum_fullRange]
  simp only [idx_spec]
  rw [Finset.sum_congr rfl fun k _ => conj_mul_cancel_unit _ _ _ (d k a) (d k b) (hf _), ← Finset.sum_mul,
    ← Complex.ofReal_sum, hd a b (by omega) (by omega)]
  by_cases hab : a = b
  · subst hab
    simp [hg]
  · have : (-(j2 : ℤ) + 2 * (a : ℤ)) ≠ (-(j2 : ℤ) + 2 * (b : ℤ)) := by omega
    simp [hab, this]

theorem Dmat_iso (j2 : ℕ) (hj : j2 ≤ 5) (α β γ : ℝ) : PoolIso (fullRange j2) (Dmat j2 α β γ) :=
  phase_table_iso j2 _ _ (fun _ => phase_conj_mul _) (fun _ => phase_conj_mul _) _ (dAt_col j2 hj β)

theorem Dmat_iso_transpose (j2 : ℕ) (hj : j2 ≤ 5) (α β γ : ℝ) :
    PoolIso (fullRange j2) (fun m m' => Dmat j2 α β γ m' m) := by
  have h := phase_table_iso j2 (fun m : ℤ => phase ((m : ℝ) / 2 * γ)) (fun m : ℤ => phase ((m : ℝ) / 2 * α))
    (fun _ => phase_conj_mul _) (fun _ => phase_conj_mul _) (fun x y => dAt j2 β y x) (dAt_row j2 hj β)
  have e : (fun m m' => Dmat j2 α β γ m' m) = fun (m m' : ℤ) => phase ((m : ℝ) / 2 * γ)
      * ((dAt j2 β (idx j2 m') (idx j2 m) : ℝ) : ℂ) * phase ((m' : ℝ) / 2 * α) := by
    funext m m'
    unfold Dmat
    ring
  rw [e]
  exact h

end Ampverif.Lemmas.C05Wigner
