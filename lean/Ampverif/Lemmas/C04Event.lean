/-
C04 — the kinematic lemmas packaged over momentum trees.

`MTree` is an isobar tree whose leaves carry the final-state four-momenta of an event;
`framesOf L t` follows `compute_helicity_angles` (sound convention: the angles of a node are
those of its FIRST child, the helicity state): with all momenta of the subtree `t` read in the
frame `L`, the node's production frame is `h(L·P₁)`, and the children's subtrees are read in
`helframe(L·P₁)·L` resp. `helframe(L·P₂)·L` — exactly the `ArrayMultiplication(BoostZ, RotY, RotZ, ·)`
pools of the source (`Model/C04Frames.lean` descriptors `amul (Bz (beta S)) (Ry …) (Rz …)`).

`rotated_event_frames`: for EVERY tree and event, ALL helicity frames (hence all helicity angles)
of the globally rotated event are those of the original event, except
  * the root frame, `h ↦ R·h·Rz(−δ)`, and
  * the first frame below the root in each child subtree, `h₁ ↦ Rz(δ)·h₁` resp. `h₂ ↦ Rz(−δ)·h₂`
    (polar angle unchanged, azimuth shifted by ±δ);
every deeper frame is IDENTICAL (`Frames.shift` changes the top frame only).
`rotated_of_event`: this is the relation `Rotated R` of the algebraic layer.
-/
import Ampverif.Lemmas.C04Opposite
import Ampverif.Lemmas.C04Tree

namespace Ampverif.Lemmas.C04
open Matrix Ampverif.Gen.C04

/-- isobar tree with the final-state four-momenta at the leaves -/
inductive MTree where
  | leaf (p : Fin 4 → ℝ)
  | node (c₁ c₂ : MTree)

/-- total four-momentum of a subtree -/
def MTree.mom : MTree → Fin 4 → ℝ
  | .leaf p => p
  | .node c₁ c₂ => c₁.mom + c₂.mom

/-- a 3-vector is off the z axis -/
def offAxis (v : Fin 3 → ℝ) : Prop := 0 < v 0 ^ 2 + v 1 ^ 2

/-- the helicity frames of the event `t` whose momenta are read in the frame `L` -/
noncomputable def framesOf (L : Matrix (Fin 4) (Fin 4) ℝ) : MTree → Frames
  | .leaf _ => .leaf
  | .node c₁ c₂ =>
      .node (hframe (phiOf (sp (L *ᵥ c₁.mom))) (thetaOf (sp (L *ᵥ c₁.mom))))
        (framesOf (helframe (L *ᵥ c₁.mom) * L) c₁)
        (framesOf (helframe (L *ᵥ c₂.mom) * L) c₂)

/-- rotate the top frame of a subtree by `Rz δ`, leave everything below untouched -/
noncomputable def Frames.shift (δ : ℝ) : Frames → Frames
  | .leaf => .leaf
  | .node h f₁ f₂ => .node (Rz3 δ * h) f₁ f₂

/-- the subsystems of the two children of the top node of `c` (read in `L`) are off the z axis -/
def topOffAxis (L : Matrix (Fin 4) (Fin 4) ℝ) : MTree → Prop
  | .leaf _ => True
  | .node d₁ d₂ => offAxis (sp (L *ᵥ d₁.mom)) ∧ offAxis (sp (L *ᵥ d₂.mom))

/-- matrix form of `frames_covariance` -/
theorem frames_covariance_mat {R : Matrix (Fin 3) (Fin 3) ℝ} (hR : IsRot R) (P : Fin 4 → ℝ)
    (hP : 0 < nrm (sp P)) :
    ∃ δ : ℝ,
      hframe (phiOf (sp (emb R *ᵥ P))) (thetaOf (sp (emb R *ᵥ P)))
          = R * hframe (phiOf (sp P)) (thetaOf (sp P)) * Rz3 (-δ) ∧
      helframe (emb R *ᵥ P) * emb R = RotZ δ * helframe P := by
  obtain ⟨δ, h1, h2⟩ := frames_covariance hR P hP
  refine ⟨δ, h1, ?_⟩
  rw [Matrix.ext_iff_mulVec]
  intro q
  rw [← Matrix.mulVec_mulVec, ← Matrix.mulVec_mulVec]
  exact h2 q

/-- one level below a rotation about z: the top frame turns, everything deeper is identical -/
theorem framesOf_Rz (δ : ℝ) (L : Matrix (Fin 4) (Fin 4) ℝ) (c : MTree) (hc : topOffAxis L c) :
    framesOf (RotZ δ * L) c = (framesOf L c).shift δ := by
  cases c with
  | leaf p => rfl
  | node d₁ d₂ =>
    obtain ⟨h1, h2⟩ := hc
    simp only [framesOf, Frames.shift]
    have e1 : (RotZ δ * L) *ᵥ d₁.mom = RotZ δ *ᵥ (L *ᵥ d₁.mom) := (Matrix.mulVec_mulVec _ _ _).symm
    have e2 : (RotZ δ * L) *ᵥ d₂.mom = RotZ δ *ᵥ (L *ᵥ d₂.mom) := (Matrix.mulVec_mulVec _ _ _).symm
    rw [e1, e2, ← Matrix.mul_assoc, ← Matrix.mul_assoc, helframe_Rz δ _ h1, helframe_Rz δ _ h2]
    congr 1
    rw [RotZ_eq, sp_emb_mulVec]
    exact hframe_Rz3 δ _ h1

/-- ALL helicity frames of the rotated event in terms of those of the original event.
`L` is the frame in which the node is at rest (`hrest`: the children are back to back); for the
initial state `L = 1`. Guards: non-zero child momenta, the first child's direction off the z axis
before and after the rotation, the grandchildren's subsystems off the z axis of their frames. -/
theorem rotated_event_frames {R : Matrix (Fin 3) (Fin 3) ℝ} (hR : IsRot R)
    (L : Matrix (Fin 4) (Fin 4) ℝ) (c₁ c₂ : MTree)
    (hP : 0 < nrm (sp (L *ᵥ c₁.mom)))
    (hrest : sp (L *ᵥ c₂.mom) = -sp (L *ᵥ c₁.mom))
    (hoff : offAxis (sp (L *ᵥ c₁.mom))) (hoff' : offAxis (R *ᵥ sp (L *ᵥ c₁.mom)))
    (h1 : topOffAxis (helframe (L *ᵥ c₁.mom) * L) c₁)
    (h2 : topOffAxis (helframe (L *ᵥ c₂.mom) * L) c₂) :
    ∃ δ : ℝ, framesOf (emb R * L) (.node c₁ c₂)
      = .node (R * hframe (phiOf (sp (L *ᵥ c₁.mom))) (thetaOf (sp (L *ᵥ c₁.mom))) * Rz3 (-δ))
          ((framesOf (helframe (L *ᵥ c₁.mom) * L) c₁).shift δ)
          ((framesOf (helframe (L *ᵥ c₂.mom) * L) c₂).shift (-δ)) := by
  have hP2 : 0 < nrm (sp (L *ᵥ c₂.mom)) := by rw [hrest, nrm_neg]; exact hP
  obtain ⟨δ, hδ, hm⟩ := frames_covariance_mat hR (L *ᵥ c₁.mom) hP
  obtain ⟨δ₂, hδ₂, hm₂⟩ := frames_covariance_mat hR (L *ᵥ c₂.mom) hP2
  -- the second child's frame turns the other way
  have hsign : Rz3 δ₂ = Rz3 (-δ) := by
    have a1 := hδ
    have a2 := hδ₂
    rw [sp_emb_mulVec] at a1 a2
    rw [hrest] at a2
    exact second_child_angle hR _ hoff hoff' δ δ₂ a1 a2
  refine ⟨δ, ?_⟩
  have e1 : (emb R * L) *ᵥ c₁.mom = emb R *ᵥ (L *ᵥ c₁.mom) := (Matrix.mulVec_mulVec _ _ _).symm
  have e2 : (emb R * L) *ᵥ c₂.mom = emb R *ᵥ (L *ᵥ c₂.mom) := (Matrix.mulVec_mulVec _ _ _).symm
  have q1 : helframe (emb R *ᵥ (L *ᵥ c₁.mom)) * (emb R * L) = RotZ δ * (helframe (L *ᵥ c₁.mom) * L) := by
    rw [← Matrix.mul_assoc, hm, Matrix.mul_assoc]
  have q2 : helframe (emb R *ᵥ (L *ᵥ c₂.mom)) * (emb R * L) = RotZ (-δ) * (helframe (L *ᵥ c₂.mom) * L) := by
    rw [← Matrix.mul_assoc, hm₂, RotZ_eq δ₂, hsign, ← RotZ_eq, Matrix.mul_assoc]
  simp only [framesOf]
  rw [e1, e2, hδ, q1, q2, framesOf_Rz δ _ c₁ h1, framesOf_Rz (-δ) _ c₂ h2]

/-! ### this is the relation `Rotated` of the algebraic layer -/

/-- every frame of the collection is a proper rotation -/
def Frames.wf : Frames → Prop
  | .leaf => True
  | .node h f₁ f₂ => IsRot h ∧ f₁.wf ∧ f₂.wf

theorem framesOf_wf : ∀ (t : MTree) (L : Matrix (Fin 4) (Fin 4) ℝ), (framesOf L t).wf
  | .leaf _, _ => trivial
  | .node c₁ c₂, _ => ⟨hframe_isRot _ _, framesOf_wf c₁ _, framesOf_wf c₂ _⟩

/-- only the top frame turns (`δ = 0` below it) -/
theorem Rotated.node_top (R h : Matrix (Fin 3) (Fin 3) ℝ) (f₁ f₂ : Frames) (hh : IsRot h)
    (r1 : Rotated (Rz3 0) f₁ f₁) (r2 : Rotated (Rz3 0) f₂ f₂) :
    Rotated R (.node h f₁ f₂) (.node (R * h) f₁ f₂) := by
  have := Rotated.node R h f₁ f₂ f₁ f₂ 0 hh r1 (by rwa [neg_zero])
  rwa [neg_zero, Rz3_zero, Matrix.mul_one] at this

theorem Rotated.refl_zero : ∀ f : Frames, f.wf → Rotated (Rz3 0) f f
  | .leaf, _ => Rotated.leaf _
  | .node h f₁ f₂, ⟨hh, w1, w2⟩ => by
    have := Rotated.node_top 1 h f₁ f₂ hh (Rotated.refl_zero f₁ w1) (Rotated.refl_zero f₂ w2)
    rwa [Matrix.one_mul, ← Rz3_zero] at this

theorem rotated_shift (δ : ℝ) : ∀ f : Frames, f.wf → Rotated (Rz3 δ) f (f.shift δ)
  | .leaf, _ => Rotated.leaf _
  | .node h f₁ f₂, ⟨hh, w1, w2⟩ =>
    Rotated.node_top _ h f₁ f₂ hh (Rotated.refl_zero f₁ w1) (Rotated.refl_zero f₂ w2)

/-- the frames of the rotated event stand in the relation `Rotated R` to those of the event -/
theorem rotated_of_event {R : Matrix (Fin 3) (Fin 3) ℝ} (hR : IsRot R)
    (L : Matrix (Fin 4) (Fin 4) ℝ) (c₁ c₂ : MTree)
    (hP : 0 < nrm (sp (L *ᵥ c₁.mom)))
    (hrest : sp (L *ᵥ c₂.mom) = -sp (L *ᵥ c₁.mom))
    (hoff : offAxis (sp (L *ᵥ c₁.mom))) (hoff' : offAxis (R *ᵥ sp (L *ᵥ c₁.mom)))
    (h1 : topOffAxis (helframe (L *ᵥ c₁.mom) * L) c₁)
    (h2 : topOffAxis (helframe (L *ᵥ c₂.mom) * L) c₂) :
    Rotated R (framesOf L (.node c₁ c₂)) (framesOf (emb R * L) (.node c₁ c₂)) := by
  obtain ⟨δ, hδ⟩ := rotated_event_frames hR L c₁ c₂ hP hrest hoff hoff' h1 h2
  rw [hδ]
  exact Rotated.node R _ _ _ _ _ δ (hframe_isRot _ _) (rotated_shift δ _ (framesOf_wf _ _))
    (rotated_shift (-δ) _ (framesOf_wf _ _))

/-- guards of the event theorems for an event given in the rest frame of the decaying state:
children back to back with non-zero momentum, the first child's direction off the z axis before
and after the rotation, and in each child's helicity frame the grandchildren's subsystems off the
z axis (the sets where `Phi` is discontinuous). -/
def EventOK (R : Matrix (Fin 3) (Fin 3) ℝ) (c₁ c₂ : MTree) : Prop :=
  0 < nrm (sp c₁.mom) ∧ sp c₂.mom = -sp c₁.mom ∧ offAxis (sp c₁.mom) ∧ offAxis (R *ᵥ sp c₁.mom) ∧
    topOffAxis (helframe c₁.mom) c₁ ∧ topOffAxis (helframe c₂.mom) c₂

theorem rotated_of_event_at_rest {R : Matrix (Fin 3) (Fin 3) ℝ} (hR : IsRot R) (c₁ c₂ : MTree)
    (h : EventOK R c₁ c₂) :
    Rotated R (framesOf 1 (.node c₁ c₂)) (framesOf (emb R) (.node c₁ c₂)) := by
  obtain ⟨a, b, c, d, e, f⟩ := h
  have := rotated_of_event hR 1 c₁ c₂ (by simpa using a) (by simpa using b) (by simpa using c)
    (by simpa using d) (by simpa using e) (by simpa using f)
  simpa using this

end Ampverif.Lemmas.C04
