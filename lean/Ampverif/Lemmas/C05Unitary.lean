/-
C05 — contraction with matrices that are unitary on the pools preserves the incoherent sum.

`PoolIso p U` : the columns of `U` restricted to the pool `p` are orthonormal (`U†U = 1` on `p`).
`alignedS_norm` : for ANY number of outer states, if every state's chain matrix is `PoolIso` on
the state's pool, the pools have no duplicates, outer pool = inner pool, and pools of states whose
amplitude index is negated are closed under negation, then

    Σ_{m ∈ Π pools} |alignedS … A m|²  =  Σ_{λ ∈ Π pools} |A λ|² .
-/
import Ampverif.Lemmas.C05Wiring
import Ampverif.Lemmas.Isometry

namespace Ampverif.Lemmas.C05Unitary
open Ampverif.Model.C05Align Ampverif.Lemmas.C05Wiring Ampverif.Lemmas.C05Spec
open scoped ComplexConjugate

/-- the columns of `U` indexed by the pool are orthonormal w.r.t. the sum over the pool -/
def PoolIso (p : List ℤ) (U : ℤ → ℤ → ℂ) : Prop :=
  ∀ l ∈ p, ∀ l' ∈ p, (p.map fun m => conj (U m l) * U m l').sum = if l = l' then 1 else 0

theorem sum_map_eq_finset {M : Type*} [AddCommMonoid M] (p : List ℤ) (hp : p.Nodup) (f : ℤ → M) :
    (p.map f).sum = ∑ i ∈ p.toFinset, f i := (List.sum_toFinset f hp).symm

theorem PoolIso.finset {p : List ℤ} (hp : p.Nodup) {U : ℤ → ℤ → ℂ} (h : PoolIso p U) :
    ∀ l ∈ p.toFinset, ∀ l' ∈ p.toFinset,
      ∑ m ∈ p.toFinset, conj (U m l) * U m l' = if l = l' then 1 else 0 := by
  intro l hl l' hl'
  rw [← sum_map_eq_finset p hp]
  exact h l (List.mem_toFinset.mp hl) l' (List.mem_toFinset.mp hl')

theorem iso_norm (p : List ℤ) (hp : p.Nodup) (U : ℤ → ℤ → ℂ) (hU : PoolIso p U) (x : ℤ → ℂ) :
    (p.map fun m => Complex.normSq ((p.map fun l => U m l * x l).sum)).sum
      = (p.map fun l => Complex.normSq (x l)).sum := by
  simp only [sum_map_eq_finset p hp]
  exact norm_preserved p.toFinset U (hU.finset hp) x

/-- the product of two matrices with orthonormal columns has orthonormal columns -/
theorem iso_comp (p : List ℤ) (hp : p.Nodup) (C M : ℤ → ℤ → ℂ) (hC : PoolIso p C) (hM : PoolIso p M) :
    PoolIso p (fun m v => (p.map fun w => M w v * C m w).sum) := by
  intro v hv v' hv'
  have h := inner_preserved p.toFinset C (hC.finset hp) (fun w => M w v) (fun w => M w v')
  have hM' := hM v hv v' hv'
  simp only [sum_map_eq_finset p hp] at hM' ⊢
  rw [← hM', ← h]
  apply Finset.sum_congr rfl
  intro m _
  have e1 : ∀ u, ∑ w ∈ p.toFinset, M w u * C m w = ∑ l ∈ p.toFinset, C m l * M l u :=
    fun u => Finset.sum_congr rfl (fun w _ => mul_comm _ _)
  rw [e1, e1]

/-- chain matrices of rotations that are `PoolIso` are `PoolIso` -/
theorem chain_iso (D : ℕ → Angle → ℤ → ℤ → ℂ) (p : List ℤ) (hp : p.Nodup) (links : List Link)
    (hne : links ≠ []) (h : ∀ l ∈ links, PoolIso p (linkMat D l)) : PoolIso p (chainMat D p links) := by
  induction links with
  | nil => exact absurd rfl hne
  | cons l rest ih =>
    cases rest with
    | nil => exact h l List.mem_cons_self
    | cons l' rest =>
      exact iso_comp p hp _ _ (ih (List.cons_ne_nil _ _) fun x hx => h x (List.mem_cons_of_mem _ hx))
        (h l List.mem_cons_self)

/-- `Σ_{λ ∈ Π pools} |A λ|²` -/
def totalNorm : List (List ℤ) → (List ℤ → ℂ) → ℝ
  | [], A => Complex.normSq (A [])
  | p :: ps, A => (p.map fun v => totalNorm ps (fun ls => A (v :: ls))).sum

def specPool : Spec → List ℤ
  | .direct _ op => op
  | .chain _ _ pool _ _ => pool

/-- what the norm theorem needs from one state -/
def SpecIso (D : ℕ → Angle → ℤ → ℤ → ℂ) : Spec → Prop
  | .direct _ _ => True
  | .chain _ op pool neg links =>
    op = pool ∧ pool.Nodup ∧ (neg = true → ∀ v ∈ pool, -v ∈ pool) ∧ PoolIso pool (chainMat D pool links)

theorem flatten_outer_vars (specs : List Spec) :
    ∀ x ∈ (flatten specs).outer.map Prod.fst, varState x ∈ specs.map Spec.state := by
  intro x hx
  rw [flatten_outer, List.map_map] at hx
  obtain ⟨s, hs, rfl⟩ := List.mem_map.mp hx
  rw [Function.comp, outer_fst s]
  exact List.mem_map_of_mem hs

theorem sum_neg_reindex (p : List ℤ) (hp : p.Nodup) (hneg : ∀ v ∈ p, -v ∈ p) (g : ℤ → ℝ) :
    (p.map fun l => g (-l)).sum = (p.map g).sum := by
  rw [sum_map_eq_finset p hp, sum_map_eq_finset p hp]
  apply Finset.sum_nbij' (fun l => -l) (fun l => -l)
  · intro a ha; exact List.mem_toFinset.mpr (hneg a (List.mem_toFinset.mp ha))
  · intro a ha; exact List.mem_toFinset.mpr (hneg a (List.mem_toFinset.mp ha))
  · intro a _; exact neg_neg a
  · intro a _; exact neg_neg a
  · intro a _; rfl

/-- **Unitary product, list form.** Any number of states, any pools. -/
theorem alignedS_norm (D : ℕ → Angle → ℤ → ℤ → ℂ) (specs : List Spec)
    (hnd : (specs.map Spec.state).Nodup) (hiso : ∀ s ∈ specs, SpecIso D s)
    (A : List ℤ → ℂ) (env : Env) :
    psum (flatten specs).outer (fun e => Complex.normSq (alignedS D specs A e)) env
      = totalNorm (specs.map specPool) A := by
  induction specs generalizing A env with
  | nil => simp [flatten, psum, alignedS, totalNorm]
  | cons s rest ih =>
    obtain ⟨hs, hrest⟩ := List.nodup_cons.mp hnd
    have hiso' : ∀ s' ∈ rest, SpecIso D s' := fun s' h' => hiso s' (List.mem_cons_of_mem _ h')
    have hnot : Var.outer s.state ∉ (flatten rest).outer.map Prod.fst :=
      fun hmem => hs (flatten_outer_vars rest _ hmem)
    have hupd : ∀ (e' : Env) (m : ℤ) (B : List ℤ → ℂ),
        alignedS D rest B (Function.update e' (.outer s.state) m) = alignedS D rest B e' :=
      fun e' m B => alignedS_congr D rest B e' _ fun e he =>
        Function.update_of_ne (fun hh => hs (by injection hh with h1; exact h1 ▸ he)) _ _
    cases s with
    | direct e op =>
      simp only [Spec.state] at hnot hupd
      simp only [flatten, Spec.outer, psum, List.map_cons, specPool, totalNorm]
      congr 1
      apply List.map_congr_left
      intro m _
      rw [psum_update_comm _ _ _ _ _ hnot, ← ih hrest hiso' (fun ls => A (m :: ls)) env]
      simp only [alignedS, Function.update_self, hupd]
    | chain e op pool neg links =>
      obtain ⟨hop, hpn, hneg, hU⟩ := hiso _ (List.mem_cons_self)
      subst hop
      simp only [Spec.state] at hnot hupd
      simp only [flatten, Spec.outer, psum, List.map_cons, specPool, totalNorm]
      have h1 : ∀ m ∈ op,
          psum (flatten rest).outer
            (fun e' => Complex.normSq (alignedS D (Spec.chain e op op neg links :: rest) A e'))
            (Function.update env (.outer e) m)
          = psum (flatten rest).outer
            (fun e' => Complex.normSq ((op.map fun l => chainMat D op links m l
              * alignedS D rest (fun ls => A (sgn neg l :: ls)) e').sum)) env := by
        intro m _
        rw [psum_update_comm _ _ _ _ _ hnot]
        simp only [alignedS, Function.update_self, hupd]
      rw [List.map_congr_left h1, ← psum_list_sum]
      -- pointwise: the chain matrix preserves the norm
      have h2 : (fun e' : Env => (op.map fun m => Complex.normSq ((op.map fun l => chainMat D op links m l
              * alignedS D rest (fun ls => A (sgn neg l :: ls)) e').sum)).sum)
          = fun e' => (op.map fun l => Complex.normSq (alignedS D rest (fun ls => A (sgn neg l :: ls)) e')).sum := by
        funext e'
        exact iso_norm op hpn _ hU (fun l => alignedS D rest (fun ls => A (sgn neg l :: ls)) e')
      rw [h2, psum_list_sum]
      have h3 : ∀ l ∈ op,
          psum (flatten rest).outer
            (fun e' => Complex.normSq (alignedS D rest (fun ls => A (sgn neg l :: ls)) e')) env
          = totalNorm (rest.map specPool) (fun ls => A (sgn neg l :: ls)) :=
        fun l _ => ih hrest hiso' _ env
      rw [List.map_congr_left h3]
      cases neg with
      | false => simp [sgn]
      | true =>
        simp only [sgn, if_true]
        exact sum_neg_reindex op hpn (hneg rfl) (fun l => totalNorm (rest.map specPool) (fun ls => A (l :: ls)))

/-- meaning of the top expression `PoolSum(|amplitude|², outer pools)` of a skeleton -/
noncomputable def intensity (D : ℕ → Angle → ℤ → ℤ → ℂ) (A : List ℤ → ℂ) (sk : Skeleton) (env : Env) : ℝ :=
  psum sk.outer (fun e => Complex.normSq (amplitude D A sk e)) env

/-- the unaligned skeleton over the same states and pools (`NoAlignment`) -/
def unaligned (specs : List Spec) : List Spec := specs.map fun s => .direct s.state (specPool s)

theorem intensity_eq_totalNorm (D : ℕ → Angle → ℤ → ℤ → ℂ) (specs : List Spec)
    (hnd : (specs.map Spec.state).Nodup) (hiso : ∀ s ∈ specs, SpecIso D s)
    (A : List ℤ → ℂ) (env : Env) :
    intensity D A (flatten specs) env = totalNorm (specs.map specPool) A := by
  unfold intensity
  rw [← alignedS_norm D specs hnd hiso A env]
  apply psum_congr
  intro env' _
  rw [wiring D specs hnd]

/-- **Alignment leaves the intensity unchanged** (skeleton level): if every state's chain is
unitary on its pool, the aligned skeleton and the unaligned skeleton have the same intensity,
for every amplitude tensor. -/
theorem aligned_eq_unaligned (D : ℕ → Angle → ℤ → ℤ → ℂ) (specs : List Spec)
    (hnd : (specs.map Spec.state).Nodup) (hiso : ∀ s ∈ specs, SpecIso D s)
    (A : List ℤ → ℂ) (env : Env) :
    intensity D A (flatten specs) env = intensity D A (flatten (unaligned specs)) env := by
  rw [intensity_eq_totalNorm D specs hnd hiso]
  have hst : (unaligned specs).map Spec.state = specs.map Spec.state := by
    simp [unaligned, Function.comp_def, Spec.state]
  have hpl : (unaligned specs).map specPool = specs.map specPool := by
    simp [unaligned, Function.comp_def, specPool]
  rw [intensity_eq_totalNorm D (unaligned specs) (hst ▸ hnd)
    (by intro s hs; simp only [unaligned, List.mem_map] at hs; obtain ⟨_, _, rfl⟩ := hs; trivial), hpl]

end Ampverif.Lemmas.C05Unitary
