/-
Association lists with `dict` semantics (`alookup`, `dictInsert`, `dictOfList`), the stable insertion sort
and `dedup` of `Ampverif.Model.C17Rename`; core Lean only.
-/
import Ampverif.Model.C17Rename

namespace Ampverif.Model.C17

variable {α κ β γ : Type}

theorem mem_dedup [DecidableEq α] (a : α) (l : List α) : a ∈ dedup l ↔ a ∈ l := by
  induction l with
  | nil => simp [dedup]
  | cons b l ih =>
    by_cases h : a = b <;> simp [dedup, h, ih]

theorem insertBy_perm (lt : α → α → Bool) (x : α) (l : List α) : (insertBy lt x l).Perm (x :: l) := by
  induction l with
  | nil => simp [insertBy]
  | cons y ys ih =>
    by_cases h : lt y x = true
    · simp only [insertBy, h, if_true]
      exact ((List.Perm.cons y ih).trans (List.Perm.swap x y ys))
    · simp [insertBy, h]

theorem isort_perm (lt : α → α → Bool) (l : List α) : (isort lt l).Perm l := by
  induction l with
  | nil => simp [isort]
  | cons x xs ih =>
    simp only [isort]
    exact (insertBy_perm lt x _).trans (List.Perm.cons x ih)

theorem mem_isort (lt : α → α → Bool) (l : List α) (a : α) : a ∈ isort lt l ↔ a ∈ l :=
  (isort_perm lt l).mem_iff

theorem length_isort (lt : α → α → Bool) (l : List α) : (isort lt l).length = l.length :=
  (isort_perm lt l).length_eq

/-- adjacent elements are in order (no later element is strictly smaller than its predecessor) -/
def SortedAdj (lt : α → α → Bool) : List α → Prop
  | [] => True
  | [_] => True
  | x :: y :: l => lt y x = false ∧ SortedAdj lt (y :: l)

theorem isort_of_sorted (lt : α → α → Bool) (l : List α) (h : SortedAdj lt l) : isort lt l = l := by
  induction l with
  | nil => rfl
  | cons x xs ih =>
    cases xs with
    | nil => simp [isort, insertBy]
    | cons y ys =>
      simp only [SortedAdj] at h
      have := ih h.2
      simp only [isort] at this ⊢
      rw [this]
      simp [insertBy, h.1]

def keys (l : List (κ × β)) : List κ := l.map (·.1)

@[simp] theorem keys_nil : keys ([] : List (κ × β)) = [] := rfl
@[simp] theorem keys_cons (p : κ × β) (l : List (κ × β)) : keys (p :: l) = p.1 :: keys l := rfl

theorem keys_append (l₁ l₂ : List (κ × β)) : keys (l₁ ++ l₂) = keys l₁ ++ keys l₂ := List.map_append

theorem keys_map (f : κ → κ) (g : β → γ) (l : List (κ × β)) :
    keys (l.map fun kv => (f kv.1, g kv.2)) = (keys l).map f := by
  simp [keys, List.map_map, Function.comp_def]

theorem nodup_keys_map {f : κ → κ} (g : β → γ) {l : List (κ × β)} (hnd : (keys l).Nodup)
    (hinj : ∀ a, a ∈ keys l → ∀ b, b ∈ keys l → f a = f b → a = b) :
    (keys (l.map fun kv => (f kv.1, g kv.2))).Nodup := by
  rw [keys_map]
  exact List.pairwise_map.mpr (hnd.imp_of_mem fun ha hb hne e => hne (hinj _ ha _ hb e))

section
variable [DecidableEq κ]

theorem alookup_eq_none_iff (k : κ) (l : List (κ × β)) :
    alookup k l = none ↔ k ∉ keys l := by
  induction l with
  | nil => simp [alookup]
  | cons p l ih =>
    obtain ⟨k', v⟩ := p
    by_cases h : k' = k
    · simp [alookup, h]
    · have h' : ¬ k = k' := fun e => h e.symm
      simp [alookup, h, h', ih]

theorem alookup_mem {k : κ} {v : β} {l : List (κ × β)} :
    alookup k l = some v → (k, v) ∈ l := by
  induction l with
  | nil => simp [alookup]
  | cons p l ih =>
    obtain ⟨k', v'⟩ := p
    by_cases h : k' = k
    · subst h; simp [alookup]; intro e; exact Or.inl e.symm
    · simp [alookup, h]; intro e; exact Or.inr (ih e)

theorem alookup_eq_some_iff {k : κ} {v : β} {l : List (κ × β)}
    (hnd : (keys l).Nodup) : alookup k l = some v ↔ (k, v) ∈ l := by
  refine ⟨alookup_mem, fun hm => ?_⟩
  induction l with
  | nil => cases hm
  | cons p l ih =>
    obtain ⟨k', v'⟩ := p
    simp only [keys_cons, List.nodup_cons] at hnd
    by_cases h : k' = k
    · subst h
      rcases List.mem_cons.mp hm with e | e
      · cases e; simp [alookup]
      · exact absurd (List.mem_map.mpr ⟨(k', v), e, rfl⟩) hnd.1
    · rcases List.mem_cons.mp hm with e | e
      · cases e; exact absurd rfl h
      · simp [alookup, h, ih hnd.2 e]

theorem alookup_perm {l₁ l₂ : List (κ × β)} (hp : l₁.Perm l₂)
    (hnd : (keys l₁).Nodup) (k : κ) : alookup k l₁ = alookup k l₂ := by
  ext v
  rw [alookup_eq_some_iff hnd, alookup_eq_some_iff ((hp.map _).nodup_iff.mp hnd), hp.mem_iff]

theorem alookup_isort (lt : κ × β → κ × β → Bool) {l : List (κ × β)} (hnd : (keys l).Nodup)
    (k : κ) : alookup k (isort lt l) = alookup k l :=
  (alookup_perm (isort_perm lt l).symm hnd k).symm

theorem alookup_map_self (f : κ → β) (l : List κ) (k : κ) :
    alookup k (l.map (fun s => (s, f s))) = if k ∈ l then some (f k) else none := by
  induction l with
  | nil => simp [alookup]
  | cons a l ih =>
    by_cases h : a = k
    · subst h; simp [alookup]
    · have h' : ¬ k = a := fun e => h e.symm
      simp [alookup, h, h', ih]

/-- looking up the image of `s` among the images of the keys, for `f` injective on the keys and `s` -/
theorem alookup_map_inj (f : κ → κ) (g : β → γ) (l : List (κ × β)) (s : κ)
    (hinj : ∀ k ∈ keys l, f k = f s → k = s) :
    alookup (f s) (l.map (fun kv => (f kv.1, g kv.2))) = (alookup s l).map g := by
  induction l with
  | nil => simp [alookup]
  | cons p l ih =>
    obtain ⟨k', v'⟩ := p
    have ih' := ih (fun k hk => hinj k (List.mem_cons_of_mem _ hk))
    by_cases h : k' = s
    · subst h; simp [alookup]
    · have hne : ¬ f k' = f s := fun e => h (hinj k' (by simp) e)
      simp [alookup, h, hne, ih']

theorem keys_dictInsert (k : κ) (v : β) (d : List (κ × β)) :
    keys (dictInsert k v d) = if k ∈ keys d then keys d else keys d ++ [k] := by
  induction d with
  | nil => simp [dictInsert]
  | cons p d ih =>
    obtain ⟨k', v'⟩ := p
    by_cases h : k' = k
    · subst h; simp [dictInsert]
    · have h' : ¬ k = k' := fun e => h e.symm
      by_cases hk : k ∈ keys d <;> simp [dictInsert, h, h', ih, hk]

theorem mem_keys_dictInsert (k k' : κ) (v : β) (d : List (κ × β)) :
    k' ∈ keys (dictInsert k v d) ↔ k' = k ∨ k' ∈ keys d := by
  rw [keys_dictInsert]
  by_cases hk : k ∈ keys d
  · rw [if_pos hk]
    exact ⟨Or.inr, fun h => h.elim (fun e => e ▸ hk) id⟩
  · simp [hk, or_comm]

theorem nodup_keys_dictInsert (k : κ) (v : β) (d : List (κ × β))
    (h : (keys d).Nodup) : (keys (dictInsert k v d)).Nodup := by
  rw [keys_dictInsert]
  by_cases hk : k ∈ keys d
  · rwa [if_pos hk]
  · rw [if_neg hk, List.nodup_append]
    refine ⟨h, by simp, fun a ha b hb e => hk ?_⟩
    rwa [← List.mem_singleton.mp hb, ← e]

theorem mem_dictInsert {k : κ} {v : β} {d : List (κ × β)} {p : κ × β} :
    p ∈ dictInsert k v d → p = (k, v) ∨ p ∈ d := by
  induction d with
  | nil => simp [dictInsert]
  | cons q d ih =>
    obtain ⟨k', v'⟩ := q
    by_cases h : k' = k
    · subst h
      simp only [dictInsert, if_true, List.mem_cons]
      exact Or.imp_right Or.inr
    · simp only [dictInsert, h, if_false, List.mem_cons]
      rintro (e | e)
      · exact Or.inr (Or.inl e)
      · exact (ih e).imp_right Or.inr

theorem dictInsert_of_not_mem (k : κ) (v : β) (d : List (κ × β))
    (h : k ∉ keys d) : dictInsert k v d = d ++ [(k, v)] := by
  induction d with
  | nil => simp [dictInsert]
  | cons p d ih =>
    obtain ⟨k', v'⟩ := p
    simp only [keys_cons, List.mem_cons, not_or] at h
    have h' : ¬ k' = k := fun e => h.1 e.symm
    simp [dictInsert, h', ih h.2]

/-- Induction along `dictOfList`: `P items d` relates the pairs read so far to the dict built from them. -/
theorem dictOfList_induction {P : List (κ × β) → List (κ × β) → Prop} (nil : P [] [])
    (insert : ∀ items d p, P items d → P (items ++ [p]) (dictInsert p.1 p.2 d)) (items : List (κ × β)) :
    P items (dictOfList items) := by
  have : ∀ rest done d, P done d → P (done ++ rest) (rest.foldl (fun d kv => dictInsert kv.1 kv.2 d) d) := by
    intro rest
    induction rest with
    | nil => intro done d h; rwa [List.append_nil]
    | cons p rest ih =>
      intro done d h
      have := ih _ _ (insert done d p h)
      rwa [List.append_assoc] at this
  exact this items [] [] nil

theorem mem_keys_dictOfList (items : List (κ × β)) (k : κ) :
    k ∈ keys (dictOfList items) ↔ k ∈ keys items := by
  refine dictOfList_induction (P := fun items d => k ∈ keys d ↔ k ∈ keys items) Iff.rfl ?_ items
  intro items d p ih
  simp [mem_keys_dictInsert, ih, keys_append, or_comm]

theorem mem_dictOfList {items : List (κ × β)} {p : κ × β} : p ∈ dictOfList items → p ∈ items := by
  refine dictOfList_induction (P := fun items d => p ∈ d → p ∈ items) id ?_ items
  intro items d q ih h
  rcases mem_dictInsert h with rfl | h
  · simp
  · exact List.mem_append_left _ (ih h)

/-- a list of pairs with distinct keys already is the dict built from it -/
theorem dictOfList_of_nodup (items : List (κ × β)) (h : (keys items).Nodup) : dictOfList items = items := by
  refine dictOfList_induction (P := fun items d => (keys items).Nodup → d = items) (fun _ => rfl) ?_ items h
  intro items d p ih h
  rw [keys_append, List.nodup_append] at h
  rw [ih h.1, dictInsert_of_not_mem _ _ _ fun hm => h.2.2 _ hm _ List.mem_cons_self rfl]

/-! A dict whose keys are renamed by `f` and whose values are mapped by `g`, built again with `dictOfList`:
what `rename_symbols` does to `parameter_defaults` and `kinematic_variables`. -/

theorem mem_keys_dictOfList_map (f : κ → κ) (g : β → γ) (l : List (κ × β)) (k : κ) :
    k ∈ keys (dictOfList (l.map fun kv => (f kv.1, g kv.2))) ↔ ∃ k₀, k₀ ∈ keys l ∧ k = f k₀ := by
  rw [mem_keys_dictOfList, keys_map, List.mem_map]
  exact exists_congr fun _ => and_congr_right fun _ => eq_comm

theorem mem_dictOfList_map {f : κ → κ} {g : β → γ} {l : List (κ × β)} {k : κ} {c : γ}
    (h : (k, c) ∈ dictOfList (l.map fun kv => (f kv.1, g kv.2))) : ∃ kv, kv ∈ l ∧ k = f kv.1 ∧ c = g kv.2 := by
  obtain ⟨kv, hkv, e⟩ := List.mem_map.mp (mem_dictOfList h)
  cases e
  exact ⟨kv, hkv, rfl, rfl⟩

/-- without a collision of the new keys nothing is overwritten -/
theorem dictOfList_map_of_injOn {f : κ → κ} (g : β → γ) {l : List (κ × β)} (hnd : (keys l).Nodup)
    (hinj : ∀ a, a ∈ keys l → ∀ b, b ∈ keys l → f a = f b → a = b) :
    dictOfList (l.map fun kv => (f kv.1, g kv.2)) = l.map fun kv => (f kv.1, g kv.2) :=
  dictOfList_of_nodup _ (nodup_keys_map g hnd hinj)

end

theorem nodup_keys_dictOfList [DecidableEq κ] (items : List (κ × β)) :
    (keys (dictOfList items)).Nodup :=
  dictOfList_induction (P := fun _ d => (keys d).Nodup) List.nodup_nil
    (fun _ d p => nodup_keys_dictInsert p.1 p.2 d) items

end Ampverif.Model.C17
