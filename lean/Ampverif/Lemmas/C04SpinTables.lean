/-
C04, layer (I), J ≤ 5/2 — unitarity of `e^{-imα} d^J_{mm'}(β) e^{-im'γ}` from the d-tables
regenerated from SymPy for C05 (`Gen/C05Wigner.lean`).
-/
import Ampverif.Lemmas.C04Half
import Ampverif.Gen.C05Wigner
import Mathlib.Algebra.BigOperators.Fin
namespace Ampverif.Lemmas.C04
open Matrix Ampverif.Gen.C05Wigner

/-- projection `m_a = −J + a` for `J = j2/2` -/
noncomputable def mOf (j2 : ℕ) (a : ℕ) : ℝ := -(j2 : ℝ) / 2 + a

/-- `D^J_{m m'}(α,β,γ) = e^{-imα} d^J_{mm'}(β) e^{-im'γ}` built from the d-table regenerated from SymPy
(`Gen.C05Wigner.dtab`, J = j2/2 ≤ 5/2); the shape `phase · d · phase` is checked on the SymPy objects
at run time (fact `sympy_D_is_phase_times_real_d_upto_j2`). -/
noncomputable def DJ (j2 : ℕ) (α β γ : ℝ) : Matrix (Fin (j2 + 1)) (Fin (j2 + 1)) ℂ :=
  Matrix.of fun a b =>
    ce (-(mOf j2 a * α))
      * ((dtab j2 (Real.cos (β / 2)) (Real.sin (β / 2)) (Real.sqrt 2) (Real.sqrt 3) (Real.sqrt 5) a b : ℝ) : ℂ)
      * ce (-(mOf j2 b * γ))

theorem ce_mul_conj (x : ℝ) : ce x * (starRingEnd ℂ) (ce x) = 1 := by
  rw [ce_conj, ce_add, add_neg_cancel, ce_zero]

/-- unitarity for every J ≤ 5/2 (in particular J = 3/2, 2, 5/2) and all angles -/
theorem DJ_unitary (j2 : ℕ) (hj : j2 ≤ 5) (α β γ : ℝ) : DJ j2 α β γ * (DJ j2 α β γ)ᴴ = 1 := by
  have hrow := dtab_row_orth (Real.cos_sq_add_sin_sq (β / 2)) (Real.sq_sqrt (by norm_num : (0 : ℝ) ≤ 2))
    (Real.sq_sqrt (by norm_num : (0 : ℝ) ≤ 3)) (Real.sq_sqrt (by norm_num : (0 : ℝ) ≤ 5)) j2 hj
  ext a b
  rw [Matrix.mul_apply]
  simp only [DJ, Matrix.conjTranspose_apply, Matrix.of_apply, star_mul', Complex.star_def, Complex.conj_ofReal]
  generalize dtab j2 (Real.cos (β / 2)) (Real.sin (β / 2)) (Real.sqrt 2) (Real.sqrt 3) (Real.sqrt 5) = d
    at hrow ⊢
  have key : ∀ k : Fin (j2 + 1), ce (-(mOf j2 a * α)) * (d a k : ℂ) * ce (-(mOf j2 k * γ))
      * ((starRingEnd ℂ) (ce (-(mOf j2 b * α))) * (d b k : ℂ) * (starRingEnd ℂ) (ce (-(mOf j2 k * γ))))
      = ce (-(mOf j2 a * α)) * (starRingEnd ℂ) (ce (-(mOf j2 b * α))) * ((d a k * d b k : ℝ) : ℂ) := by
    intro k
    push_cast
    linear_combination (ce (-(mOf j2 a * α)) * (starRingEnd ℂ) (ce (-(mOf j2 b * α))) * (d a k : ℂ) * (d b k : ℂ))
      * ce_mul_conj (-(mOf j2 k * γ))
  rw [Finset.sum_congr rfl fun k _ => key k, ← Finset.mul_sum, ← Complex.ofReal_sum,
    Fin.sum_univ_eq_sum_range (fun k => d a k * d b k) (j2 + 1), hrow a b a.2 b.2]
  by_cases hab : a = b
  · subst hab
    simp [ce_mul_conj]
  · have : (a : ℕ) ≠ b := fun h => hab (Fin.ext h)
    simp [this, Matrix.one_apply_ne hab]

end Ampverif.Lemmas.C04
