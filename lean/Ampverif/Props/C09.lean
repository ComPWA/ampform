/-
C09 — K-matrix amplitudes are unitary and symmetric for real parameters.

For every number of channels and poles this is a fact about abstract matrices (Mathlib). The
entries that `dynamics/kmatrix.py` really computes for n = 1, 2 channels (`Ampverif.Gen.C09.*`,
regenerated from the working tree on every run; n = 3 in `Ampverif.Props.C09N3`) are shown to be the
abstract `K (1 − iK)⁻¹` resp. `√ρ K̂ (1 − iρK̂)⁻¹ √ρ`; the regenerated pole parametrisations are
symmetric, real under the stated sign conditions, and instances of the all-poles formula; the
regenerated results of `formulate(n_channels, n_poles)` are the composition of the two and therefore
unitary and symmetric — for the relativistic K-matrix under the guard that the phase-space factors
at the pole masses are real and positive (poles above thresholds). A kernel-checked witness shows
that the guard is needed (known finding).

Lean's `x⁻¹` is total (`0⁻¹ = 0`); at `s = m_R²` the statements are about that convention, the
property itself only speaks about `s` away from the poles.
-/
import Ampverif.Lemmas.C09Entries
import Ampverif.Lemmas.C09Pole
import Ampverif.Lemmas.C09Forms

set_option linter.unusedVariables false
set_option linter.unusedSectionVars false
set_option linter.unusedTactic false
set_option linter.unreachableTactic false

namespace Ampverif.Props.C09
open Ampverif.Gen.C09 Ampverif.Lemmas.C09 Matrix

section AllN
variable {n : Type*} [Fintype n] [DecidableEq n]

/-- **Unitarity, all n.** `K` Hermitian (in particular real symmetric) ⇒ `S = 1 + 2iK(1−iK)⁻¹`
satisfies `S†S = 1`. Invertibility of `1 − iK` is proved, not assumed. -/
theorem unitary_all_n (K : Matrix n n ℂ) (hK : K.IsHermitian) : (S K)ᴴ * S K = 1 :=
  S_unitary hK

/-- **Symmetry, all n.** `K` real symmetric ⇒ `T = K(1−iK)⁻¹` is symmetric. -/
theorem symmetric_all_n (K : Matrix n n ℂ) (hK : K.IsHermitian) (hs : Kᵀ = K) :
    (T K)ᵀ = T K :=
  T_symm_of_isUnit hs (isUnit_det_D hK)

/-- **All n, all pole sets.** With the pole parametrisation `K_ij = Σ_R g_Ri g_Rj/(m_R² − s)`
and real `g, m, s`, the T-matrix is unitary and symmetric. -/
theorem pole_unitary_symmetric_all_n_all_poles {ι : Type*} (poles : Finset ι) (g : ι → n → ℝ)
    (m : ι → ℝ) (s : ℝ) :
    (S (poleKMatrix poles g m s))ᴴ * S (poleKMatrix poles g m s) = 1
      ∧ (T (poleKMatrix poles g m s))ᵀ = T (poleKMatrix poles g m s) := by
  obtain ⟨hH, hT⟩ := hermitian_symm_of_real_symm (poleK poles g m s) (poleK_symm poles g m s)
  exact ⟨S_unitary hH, T_symm_of_isUnit hT (isUnit_det_D hH)⟩

/-- **Relativistic form, all n.** `ρ = diag(r)` with `r_i > 0`, `K̂` Hermitian ⇒
`T = √ρ K̂ (1 − iρK̂)⁻¹ √ρ` gives a unitary `S = 1 + 2iT`; and `T` is symmetric if `K̂` is. -/
theorem rel_unitary_all_n (r : n → ℝ) (hr : ∀ i, 0 < r i) (Kh : Matrix n n ℂ)
    (hK : Kh.IsHermitian) :
    (1 + (2 * Complex.I) • Trel r Kh)ᴴ * (1 + (2 * Complex.I) • Trel r Kh) = 1 :=
  Srel_unitary r hr hK

theorem rel_symmetric_all_n (r : n → ℝ) (hr : ∀ i, 0 < r i) (Kh : Matrix n n ℂ)
    (hK : Kh.IsHermitian) (hs : Khᵀ = Kh) : (Trel r Kh)ᵀ = Trel r Kh :=
  Trel_symm r hr hK hs

/-- The relativistic T-matrix is the non-relativistic one of `K' = √ρ K̂ √ρ`. -/
theorem rel_reduction_all_n (r : n → ℝ) (hr : ∀ i, 0 < r i) (Kh : Matrix n n ℂ)
    (hK : Kh.IsHermitian) : Trel r Kh = T (sqrtDiag r * Kh * sqrtDiag r) :=
  Trel_eq r hr hK

theorem rel_pole_unitary_symmetric_all_n_all_poles {ι : Type*} (poles : Finset ι)
    (g : ι → n → ℝ) (m : ι → ℝ) (s : ℝ) (r : n → ℝ) (hr : ∀ i, 0 < r i) :
    (1 + (2 * Complex.I) • Trel r (poleKMatrix poles g m s))ᴴ
        * (1 + (2 * Complex.I) • Trel r (poleKMatrix poles g m s)) = 1
      ∧ (Trel r (poleKMatrix poles g m s))ᵀ = Trel r (poleKMatrix poles g m s) := by
  obtain ⟨hH, hT⟩ := hermitian_symm_of_real_symm (poleK poles g m s) (poleK_symm poles g m s)
  exact ⟨Srel_unitary r hr hH, Trel_symm r hr hH hT⟩

end AllN

/-- n = 1, non-relativistic: the regenerated entry solves `E (1 − iK) = K`. -/
theorem nrT1_solves (a : ℂ) (h : nrT1_den1 a ≠ 0) :
    nrT1_00 a * (1 - Complex.I * a) = a := by
  simp only [nrT1_00]
  field_simp
  simp only [nrT1_den1]
  grind only [Complex.I_sq]

/-- n = 2, non-relativistic: the regenerated entries solve `E (1 − iK) = K` wherever the
denominators of the symbolic inverse do not vanish (a polynomial identity modulo `i² = −1`). -/
theorem nrT2_solves (a b c d : ℂ) (h1 : nrT2_den1 a b c d ≠ 0) (h2 : nrT2_den2 a b c d ≠ 0) :
    (nrT2_00 a b c d * (1 - Complex.I * a) + nrT2_01 a b c d * (-(Complex.I * c)) = a) ∧
    (nrT2_00 a b c d * (-(Complex.I * b)) + nrT2_01 a b c d * (1 - Complex.I * d) = b) ∧
    (nrT2_10 a b c d * (1 - Complex.I * a) + nrT2_11 a b c d * (-(Complex.I * c)) = c) ∧
    (nrT2_10 a b c d * (-(Complex.I * b)) + nrT2_11 a b c d * (1 - Complex.I * d) = d) := by
  simp only [nrT2_00, nrT2_01, nrT2_10, nrT2_11, nrT2_den2_eq]
  generalize hΔ : nrT2_den1 a b c d = Δ at h1
  refine ⟨?_, ?_, ?_, ?_⟩ <;>
  · field_simp
    subst hΔ
    simp only [nrT2_den1]
    grind only [Complex.I_sq]

/-- The denominators of the regenerated n = 2 entries are `± det(1 − iK)`. -/
theorem nrT2_dens_ne (K : Matrix (Fin 2) (Fin 2) ℂ) (h : (D K).det ≠ 0) :
    nrT2_den1 (K 0 0) (K 0 1) (K 1 0) (K 1 1) ≠ 0
      ∧ nrT2_den2 (K 0 0) (K 0 1) (K 1 0) (K 1 1) ≠ 0 := by
  rw [det_D2] at h
  simp only [nrT2_den1, nrT2_den2]
  exact ⟨fun e => h (by linear_combination -e), fun e => h (by linear_combination e)⟩

theorem nrT1_den_ne (K : Matrix (Fin 1) (Fin 1) ℂ) (h : (D K).det ≠ 0) :
    nrT1_den1 (K 0 0) ≠ 0 := by
  rw [det_D1] at h
  exact I_add_ne_zero h

/-- The regenerated n = 1 T-matrix as a matrix-valued function of `K`. -/
noncomputable def nrT1M (K : Matrix (Fin 1) (Fin 1) ℂ) : Matrix (Fin 1) (Fin 1) ℂ :=
  !![nrT1_00 (K 0 0)]

/-- The regenerated n = 2 T-matrix as a matrix-valued function of `K`. -/
noncomputable def nrT2M (K : Matrix (Fin 2) (Fin 2) ℂ) : Matrix (Fin 2) (Fin 2) ℂ :=
  !![nrT2_00 (K 0 0) (K 0 1) (K 1 0) (K 1 1), nrT2_01 (K 0 0) (K 0 1) (K 1 0) (K 1 1);
     nrT2_10 (K 0 0) (K 0 1) (K 1 0) (K 1 1), nrT2_11 (K 0 0) (K 0 1) (K 1 0) (K 1 1)]

/-- The source's n = 1 entry IS the abstract `K(1−iK)⁻¹` wherever `det(1−iK) ≠ 0`. -/
theorem nrT1M_eq_T (K : Matrix (Fin 1) (Fin 1) ℂ) (h : (D K).det ≠ 0) : nrT1M K = T K := by
  apply eq_mul_inv_of_mul_eq (isUnit_iff_ne_zero.2 h)
  have e := nrT1_solves _ (nrT1_den_ne K h)
  ext i j
  rw [Matrix.mul_apply, Fin.sum_univ_one]
  fin_cases i; fin_cases j
  simp only [nrT1M, D_apply, Fin.zero_eta, Matrix.of_apply, Matrix.cons_val_zero, Matrix.one_apply,
    if_true]
  exact e

/-- The source's n = 2 entries ARE the abstract `K(1−iK)⁻¹` wherever `det(1−iK) ≠ 0`. -/
theorem nrT2M_eq_T (K : Matrix (Fin 2) (Fin 2) ℂ) (h : (D K).det ≠ 0) : nrT2M K = T K := by
  apply eq_mul_inv_of_mul_eq (isUnit_iff_ne_zero.2 h)
  obtain ⟨h1, h2⟩ := nrT2_dens_ne K h
  obtain ⟨e00, e01, e10, e11⟩ := nrT2_solves _ _ _ _ h1 h2
  ext i j
  rw [Matrix.mul_apply, Fin.sum_univ_two]
  fin_cases i <;> fin_cases j <;>
    simp only [nrT2M, D_apply, Fin.zero_eta, Fin.mk_one, Matrix.of_apply, Matrix.cons_val_zero,
      Matrix.cons_val_one, Matrix.one_apply, Fin.reduceEq, if_true, if_false, zero_sub]
  exacts [e00, e01, e10, e11]

/-- The regenerated non-relativistic T-matrix of a Hermitian `K` is unitary (a 1×1 matrix is
symmetric anyway); for n = 2 symmetry needs `Kᵀ = K`. -/
theorem nrT1M_unitary_symmetric (K : Matrix (Fin 1) (Fin 1) ℂ) (hK : K.IsHermitian) :
    (1 + (2 * Complex.I) • nrT1M K)ᴴ * (1 + (2 * Complex.I) • nrT1M K) = 1
      ∧ (nrT1M K)ᵀ = nrT1M K := by
  have hd := isUnit_det_D hK
  rw [nrT1M_eq_T K (isUnit_iff_ne_zero.1 hd)]
  refine ⟨S_unitary hK, ?_⟩
  ext i j; fin_cases i; fin_cases j; rfl

theorem nrT2M_unitary_symmetric (K : Matrix (Fin 2) (Fin 2) ℂ) (hK : K.IsHermitian)
    (hs : Kᵀ = K) :
    (1 + (2 * Complex.I) • nrT2M K)ᴴ * (1 + (2 * Complex.I) • nrT2M K) = 1
      ∧ (nrT2M K)ᵀ = nrT2M K :=
  unitary_symmetric_of_eq_T hK hs (nrT2M_eq_T K (isUnit_iff_ne_zero.1 (isUnit_det_D hK)))

/-- n = 1: `T̂ (1 − iρK̂) = K̂`. -/
theorem relTh1_solves (ρ a : ℂ) (h : relT1_den1 ρ a ≠ 0) :
    relTh1_00 ρ a * (1 - Complex.I * ρ * a) = a := by
  simp only [relTh1_00]
  field_simp
  simp only [relT1_den1]
  grind only [Complex.I_sq]

/-- n = 2: `T̂ (1 − iρK̂) = K̂` for the regenerated entries. -/
theorem relTh2_solves (ρ0 ρ1 a b c d : ℂ) (h1 : relT2_den1 ρ0 ρ1 a b c d ≠ 0) :
    (relTh2_00 ρ0 ρ1 a b c d * (1 - Complex.I * ρ0 * a)
        + relTh2_01 ρ0 ρ1 a b c d * (-(Complex.I * ρ1 * c)) = a) ∧
    (relTh2_00 ρ0 ρ1 a b c d * (-(Complex.I * ρ0 * b))
        + relTh2_01 ρ0 ρ1 a b c d * (1 - Complex.I * ρ1 * d) = b) ∧
    (relTh2_10 ρ0 ρ1 a b c d * (1 - Complex.I * ρ0 * a)
        + relTh2_11 ρ0 ρ1 a b c d * (-(Complex.I * ρ1 * c)) = c) ∧
    (relTh2_10 ρ0 ρ1 a b c d * (-(Complex.I * ρ0 * b))
        + relTh2_11 ρ0 ρ1 a b c d * (1 - Complex.I * ρ1 * d) = d) := by
  refine ⟨?_, ?_, ?_, ?_⟩ <;>
  · simp only [relTh2_00, relTh2_01, relTh2_10, relTh2_11]
    field_simp
    simp only [relT2_den1]
    grind only [Complex.I_sq]

/-- `T = (√ρ)* T̂ √ρ` entry by entry (any complex `ρ`). -/
theorem relT1_eq (ρ a : ℂ) :
    relT1_00 ρ a
      = (starRingEnd ℂ) (ρ ^ ((1 : ℂ) / 2)) * relTh1_00 ρ a * ρ ^ ((1 : ℂ) / 2) := by
  simp only [relT1_00, relTh1_00]; ring

theorem relT2_eq (ρ0 ρ1 a b c d : ℂ) :
    relT2_00 ρ0 ρ1 a b c d
        = (starRingEnd ℂ) (ρ0 ^ ((1 : ℂ) / 2)) * relTh2_00 ρ0 ρ1 a b c d * ρ0 ^ ((1 : ℂ) / 2) ∧
    relT2_01 ρ0 ρ1 a b c d
        = (starRingEnd ℂ) (ρ0 ^ ((1 : ℂ) / 2)) * relTh2_01 ρ0 ρ1 a b c d * ρ1 ^ ((1 : ℂ) / 2) ∧
    relT2_10 ρ0 ρ1 a b c d
        = (starRingEnd ℂ) (ρ1 ^ ((1 : ℂ) / 2)) * relTh2_10 ρ0 ρ1 a b c d * ρ0 ^ ((1 : ℂ) / 2) ∧
    relT2_11 ρ0 ρ1 a b c d
        = (starRingEnd ℂ) (ρ1 ^ ((1 : ℂ) / 2)) * relTh2_11 ρ0 ρ1 a b c d * ρ1 ^ ((1 : ℂ) / 2) := by
  refine ⟨?_, ?_, ?_, ?_⟩ <;>
  · simp only [relT2_00, relT2_01, relT2_10, relT2_11, relTh2_00, relTh2_01, relTh2_10, relTh2_11]
    ring

noncomputable def relTh1M (ρ : Fin 1 → ℂ) (K : Matrix (Fin 1) (Fin 1) ℂ) :
    Matrix (Fin 1) (Fin 1) ℂ := !![relTh1_00 (ρ 0) (K 0 0)]

noncomputable def relT1M (ρ : Fin 1 → ℂ) (K : Matrix (Fin 1) (Fin 1) ℂ) :
    Matrix (Fin 1) (Fin 1) ℂ := !![relT1_00 (ρ 0) (K 0 0)]

noncomputable def relTh2M (ρ : Fin 2 → ℂ) (K : Matrix (Fin 2) (Fin 2) ℂ) :
    Matrix (Fin 2) (Fin 2) ℂ :=
  !![relTh2_00 (ρ 0) (ρ 1) (K 0 0) (K 0 1) (K 1 0) (K 1 1),
     relTh2_01 (ρ 0) (ρ 1) (K 0 0) (K 0 1) (K 1 0) (K 1 1);
     relTh2_10 (ρ 0) (ρ 1) (K 0 0) (K 0 1) (K 1 0) (K 1 1),
     relTh2_11 (ρ 0) (ρ 1) (K 0 0) (K 0 1) (K 1 0) (K 1 1)]

noncomputable def relT2M (ρ : Fin 2 → ℂ) (K : Matrix (Fin 2) (Fin 2) ℂ) :
    Matrix (Fin 2) (Fin 2) ℂ :=
  !![relT2_00 (ρ 0) (ρ 1) (K 0 0) (K 0 1) (K 1 0) (K 1 1),
     relT2_01 (ρ 0) (ρ 1) (K 0 0) (K 0 1) (K 1 0) (K 1 1);
     relT2_10 (ρ 0) (ρ 1) (K 0 0) (K 0 1) (K 1 0) (K 1 1),
     relT2_11 (ρ 0) (ρ 1) (K 0 0) (K 0 1) (K 1 0) (K 1 1)]

theorem relT1_den_ne (ρ : Fin 1 → ℂ) (K : Matrix (Fin 1) (Fin 1) ℂ)
    (h : (1 - Complex.I • (Matrix.diagonal ρ * K)).det ≠ 0) : relT1_den1 (ρ 0) (K 0 0) ≠ 0 := by
  rw [det_rel1, mul_assoc] at h
  exact I_add_ne_zero h

theorem relT2_den_ne (ρ : Fin 2 → ℂ) (K : Matrix (Fin 2) (Fin 2) ℂ)
    (h : (1 - Complex.I • (Matrix.diagonal ρ * K)).det ≠ 0) :
    relT2_den1 (ρ 0) (ρ 1) (K 0 0) (K 0 1) (K 1 0) (K 1 1) ≠ 0 := by
  rw [det_rel2] at h
  simp only [relT2_den1]
  exact fun e => h (by linear_combination -e)

/-- The source's `T̂` entries ARE `K̂(1 − iρK̂)⁻¹` wherever the determinant does not vanish. -/
theorem relTh1M_eq_That (ρ : Fin 1 → ℂ) (K : Matrix (Fin 1) (Fin 1) ℂ)
    (h : (1 - Complex.I • (Matrix.diagonal ρ * K)).det ≠ 0) :
    relTh1M ρ K = That (Matrix.diagonal ρ) K := by
  apply eq_mul_inv_of_mul_eq (isUnit_iff_ne_zero.2 h)
  have e := relTh1_solves _ _ (relT1_den_ne ρ K h)
  ext i j
  rw [Matrix.mul_apply, Fin.sum_univ_one]
  fin_cases i; fin_cases j
  simp only [relTh1M, Fin.zero_eta, Matrix.of_apply, Matrix.cons_val_zero, Matrix.sub_apply,
    Matrix.smul_apply, smul_eq_mul, Matrix.diagonal_mul, Matrix.one_apply, if_true]
  linear_combination e

theorem relTh2M_eq_That (ρ : Fin 2 → ℂ) (K : Matrix (Fin 2) (Fin 2) ℂ)
    (h : (1 - Complex.I • (Matrix.diagonal ρ * K)).det ≠ 0) :
    relTh2M ρ K = That (Matrix.diagonal ρ) K := by
  apply eq_mul_inv_of_mul_eq (isUnit_iff_ne_zero.2 h)
  obtain ⟨e00, e01, e10, e11⟩ := relTh2_solves _ _ _ _ _ _ (relT2_den_ne ρ K h)
  ext i j
  rw [Matrix.mul_apply, Fin.sum_univ_two]
  fin_cases i <;> fin_cases j <;>
    simp only [relTh2M, Fin.zero_eta, Fin.mk_one, Matrix.of_apply, Matrix.cons_val_zero,
      Matrix.cons_val_one, Matrix.sub_apply, Matrix.smul_apply, smul_eq_mul, Matrix.diagonal_mul,
      Matrix.one_apply, Fin.reduceEq, if_true, if_false, zero_sub]
  · linear_combination e00
  · linear_combination e01
  · linear_combination e10
  · linear_combination e11

/-- For positive real phase-space factors and Hermitian `K̂`, the source's relativistic T-matrix
(n = 1, 2) IS the abstract `√ρ K̂ (1 − iρK̂)⁻¹ √ρ`. -/
theorem relT1M_eq_Trel (r : Fin 1 → ℝ) (hr : ∀ i, 0 < r i) (K : Matrix (Fin 1) (Fin 1) ℂ)
    (hK : K.IsHermitian) : relT1M (fun i => ((r i : ℝ) : ℂ)) K = Trel r K := by
  unfold Trel
  rw [← relTh1M_eq_That _ K (isUnit_iff_ne_zero.1 (isUnit_det_rel r hr hK))]
  refine eq_sqrtDiag_conj r (fun i => (hr i).le) fun i j => ?_
  fin_cases i; fin_cases j
  simp only [relT1M, relTh1M, Fin.zero_eta, Matrix.of_apply, Matrix.cons_val_zero]
  exact relT1_eq (r 0) (K 0 0)

theorem relT2M_eq_Trel (r : Fin 2 → ℝ) (hr : ∀ i, 0 < r i) (K : Matrix (Fin 2) (Fin 2) ℂ)
    (hK : K.IsHermitian) : relT2M (fun i => ((r i : ℝ) : ℂ)) K = Trel r K := by
  unfold Trel
  rw [← relTh2M_eq_That _ K (isUnit_iff_ne_zero.1 (isUnit_det_rel r hr hK))]
  obtain ⟨e00, e01, e10, e11⟩ := relT2_eq (r 0) (r 1) (K 0 0) (K 0 1) (K 1 0) (K 1 1)
  refine eq_sqrtDiag_conj r (fun i => (hr i).le) fun i j => ?_
  fin_cases i <;> fin_cases j <;>
    simp only [relT2M, relTh2M, Fin.zero_eta, Fin.mk_one, Matrix.of_apply, Matrix.cons_val_zero,
      Matrix.cons_val_one]
  exacts [e00, e01, e10, e11]

theorem relT1M_unitary_symmetric (r : Fin 1 → ℝ) (hr : ∀ i, 0 < r i)
    (K : Matrix (Fin 1) (Fin 1) ℂ) (hK : K.IsHermitian) :
    (1 + (2 * Complex.I) • relT1M (fun i => ((r i : ℝ) : ℂ)) K)ᴴ
        * (1 + (2 * Complex.I) • relT1M (fun i => ((r i : ℝ) : ℂ)) K) = 1
      ∧ (relT1M (fun i => ((r i : ℝ) : ℂ)) K)ᵀ = relT1M (fun i => ((r i : ℝ) : ℂ)) K := by
  rw [relT1M_eq_Trel r hr K hK]
  refine ⟨Srel_unitary r hr hK, ?_⟩
  ext i j; fin_cases i; fin_cases j; rfl

theorem relT2M_unitary_symmetric (r : Fin 2 → ℝ) (hr : ∀ i, 0 < r i)
    (K : Matrix (Fin 2) (Fin 2) ℂ) (hK : K.IsHermitian) (hs : Kᵀ = K) :
    (1 + (2 * Complex.I) • relT2M (fun i => ((r i : ℝ) : ℂ)) K)ᴴ
        * (1 + (2 * Complex.I) • relT2M (fun i => ((r i : ℝ) : ℂ)) K) = 1
      ∧ (relT2M (fun i => ((r i : ℝ) : ℂ)) K)ᵀ = relT2M (fun i => ((r i : ℝ) : ℂ)) K :=
  unitary_symmetric_of_eq_Trel r hr hK hs (relT2M_eq_Trel r hr K hK)

/-! Parametrisations and `formulate(n_channels, n_poles)`.

One section per (n_channels, n_poles) ∈ {1,2}², non-relativistic (`nr…`) and relativistic (`rel…`),
followed by the two-channel parametrisations with three and four poles (their `formulate` is in
`Ampverif.Props.C09P34`). `K..` are the regenerated parametrisation entries, `F..` the regenerated entries of `formulate`,
`H..` those of `formulate(return_t_hat=True)`. In the relativistic sections the phase-space and
form factors are the leaves of the model: `rho{i}` = ρ_i(s), `rhoR_{R}_{i}` = ρ_i(m_R²),
`ff_{i}`, `ff0_{R}_{i}` the form factors at `s` and `m_R²`. -/

section NR11
variable (s m_1 Gamma_1_0 gamma_1_0 : ℝ)

local notation "K00" => nrK11_00 s m_1 Gamma_1_0 gamma_1_0
local notation "F00" => nrForm11_00 s m_1 Gamma_1_0 gamma_1_0

theorem nrK11_real (hGamma_1_0 : 0 ≤ Gamma_1_0) :
    IsRe K00 :=
  isRe_nrDiag

/-- `formulate(1, 1)` is the symbolic matrix expression with the parametrisation substituted. -/
theorem nrForm11_eq :
    F00 = nrT1_00 K00 := rfl

/-- **`formulate(1, 1)`, non-relativistic: unitary and symmetric** for real parameters. -/
theorem nrForm11_unitary_symmetric (hGamma_1_0 : 0 ≤ Gamma_1_0) :
    (1 + (2 * Complex.I) • (!![F00] : Matrix (Fin 1) (Fin 1) ℂ))ᴴ * (1 + (2 * Complex.I) • (!![F00] : Matrix (Fin 1) (Fin 1) ℂ)) = 1
      ∧ (!![F00] : Matrix (Fin 1) (Fin 1) ℂ)ᵀ = (!![F00] : Matrix (Fin 1) (Fin 1) ℂ) := by
  rw [nrForm11_eq s m_1 Gamma_1_0 gamma_1_0]
  exact nrT1M_unitary_symmetric !![K00] (herm1 (nrK11_real s m_1 Gamma_1_0 gamma_1_0 hGamma_1_0)).1

end NR11

section NR12
variable (s m_1 m_2 Gamma_1_0 Gamma_2_0 gamma_1_0 gamma_2_0 : ℝ)

local notation "K00" => nrK12_00 s m_1 m_2 Gamma_1_0 Gamma_2_0 gamma_1_0 gamma_2_0
local notation "F00" => nrForm12_00 s m_1 m_2 Gamma_1_0 Gamma_2_0 gamma_1_0 gamma_2_0

theorem nrK12_real (hGamma_1_0 : 0 ≤ Gamma_1_0) (hGamma_2_0 : 0 ≤ Gamma_2_0) :
    IsRe K00 :=
  isRe_nrDiag.add isRe_nrDiag

/-- `formulate(1, 2)` is the symbolic matrix expression with the parametrisation substituted. -/
theorem nrForm12_eq :
    F00 = nrT1_00 K00 := rfl

/-- **`formulate(1, 2)`, non-relativistic: unitary and symmetric** for real parameters. -/
theorem nrForm12_unitary_symmetric (hGamma_1_0 : 0 ≤ Gamma_1_0) (hGamma_2_0 : 0 ≤ Gamma_2_0) :
    (1 + (2 * Complex.I) • (!![F00] : Matrix (Fin 1) (Fin 1) ℂ))ᴴ * (1 + (2 * Complex.I) • (!![F00] : Matrix (Fin 1) (Fin 1) ℂ)) = 1
      ∧ (!![F00] : Matrix (Fin 1) (Fin 1) ℂ)ᵀ = (!![F00] : Matrix (Fin 1) (Fin 1) ℂ) := by
  rw [nrForm12_eq s m_1 m_2 Gamma_1_0 Gamma_2_0 gamma_1_0 gamma_2_0]
  exact nrT1M_unitary_symmetric !![K00] (herm1 (nrK12_real s m_1 m_2 Gamma_1_0 Gamma_2_0 gamma_1_0 gamma_2_0 hGamma_1_0 hGamma_2_0)).1

end NR12

section NR21
variable (s m_1 Gamma_1_0 Gamma_1_1 gamma_1_0 gamma_1_1 : ℝ)

local notation "K00" => nrK21_00 s m_1 Gamma_1_0 Gamma_1_1 gamma_1_0 gamma_1_1
local notation "K01" => nrK21_01 s m_1 Gamma_1_0 Gamma_1_1 gamma_1_0 gamma_1_1
local notation "K10" => nrK21_10 s m_1 Gamma_1_0 Gamma_1_1 gamma_1_0 gamma_1_1
local notation "K11" => nrK21_11 s m_1 Gamma_1_0 Gamma_1_1 gamma_1_0 gamma_1_1
local notation "F00" => nrForm21_00 s m_1 Gamma_1_0 Gamma_1_1 gamma_1_0 gamma_1_1
local notation "F01" => nrForm21_01 s m_1 Gamma_1_0 Gamma_1_1 gamma_1_0 gamma_1_1
local notation "F10" => nrForm21_10 s m_1 Gamma_1_0 Gamma_1_1 gamma_1_0 gamma_1_1
local notation "F11" => nrForm21_11 s m_1 Gamma_1_0 Gamma_1_1 gamma_1_0 gamma_1_1

theorem nrK21_symm : K01 = K10 := rfl

theorem nrK21_real (hGamma_1_0 : 0 ≤ Gamma_1_0) (hGamma_1_1 : 0 ≤ Gamma_1_1) :
    IsRe K00 ∧ IsRe K01 ∧ IsRe K10 ∧ IsRe K11 := by
  have h01 : IsRe K01 :=
    isRe_nrOff hGamma_1_0 hGamma_1_1
  exact ⟨isRe_nrDiag, h01, h01, isRe_nrDiag⟩

/-- `formulate(2, 1)` is the symbolic matrix expression with the parametrisation substituted. -/
theorem nrForm21_eq :
    F00 = nrT2_00 K00 K01 K10 K11 ∧ F01 = nrT2_01 K00 K01 K10 K11 ∧ F10 = nrT2_10 K00 K01 K10 K11 ∧ F11 = nrT2_11 K00 K01 K10 K11 :=
  nrForm2_shape K00 K01 K10 K11 rfl

/-- **`formulate(2, 1)`, non-relativistic: unitary and symmetric** for real parameters. -/
theorem nrForm21_unitary_symmetric (hGamma_1_0 : 0 ≤ Gamma_1_0) (hGamma_1_1 : 0 ≤ Gamma_1_1) :
    (1 + (2 * Complex.I) • (!![F00, F01; F10, F11] : Matrix (Fin 2) (Fin 2) ℂ))ᴴ * (1 + (2 * Complex.I) • (!![F00, F01; F10, F11] : Matrix (Fin 2) (Fin 2) ℂ)) = 1
      ∧ (!![F00, F01; F10, F11] : Matrix (Fin 2) (Fin 2) ℂ)ᵀ = (!![F00, F01; F10, F11] : Matrix (Fin 2) (Fin 2) ℂ) := by
  exact unitary_symmetric_of_entries
    (nrK21_real s m_1 Gamma_1_0 Gamma_1_1 gamma_1_0 gamma_1_1 hGamma_1_0 hGamma_1_1)
    (rfl : K01 = K10)
    (nrForm21_eq s m_1 Gamma_1_0 Gamma_1_1 gamma_1_0 gamma_1_1)
    (nrT2M_unitary_symmetric !![K00, K01; K10, K11])

end NR21

section NR22
variable (s m_1 m_2 Gamma_1_0 Gamma_1_1 Gamma_2_0 Gamma_2_1 gamma_1_0 gamma_1_1 gamma_2_0 gamma_2_1 : ℝ)

local notation "K00" => nrK22_00 s m_1 m_2 Gamma_1_0 Gamma_1_1 Gamma_2_0 Gamma_2_1 gamma_1_0 gamma_1_1 gamma_2_0 gamma_2_1
local notation "K01" => nrK22_01 s m_1 m_2 Gamma_1_0 Gamma_1_1 Gamma_2_0 Gamma_2_1 gamma_1_0 gamma_1_1 gamma_2_0 gamma_2_1
local notation "K10" => nrK22_10 s m_1 m_2 Gamma_1_0 Gamma_1_1 Gamma_2_0 Gamma_2_1 gamma_1_0 gamma_1_1 gamma_2_0 gamma_2_1
local notation "K11" => nrK22_11 s m_1 m_2 Gamma_1_0 Gamma_1_1 Gamma_2_0 Gamma_2_1 gamma_1_0 gamma_1_1 gamma_2_0 gamma_2_1
local notation "F00" => nrForm22_00 s m_1 m_2 Gamma_1_0 Gamma_1_1 Gamma_2_0 Gamma_2_1 gamma_1_0 gamma_1_1 gamma_2_0 gamma_2_1
local notation "F01" => nrForm22_01 s m_1 m_2 Gamma_1_0 Gamma_1_1 Gamma_2_0 Gamma_2_1 gamma_1_0 gamma_1_1 gamma_2_0 gamma_2_1
local notation "F10" => nrForm22_10 s m_1 m_2 Gamma_1_0 Gamma_1_1 Gamma_2_0 Gamma_2_1 gamma_1_0 gamma_1_1 gamma_2_0 gamma_2_1
local notation "F11" => nrForm22_11 s m_1 m_2 Gamma_1_0 Gamma_1_1 Gamma_2_0 Gamma_2_1 gamma_1_0 gamma_1_1 gamma_2_0 gamma_2_1

theorem nrK22_symm : K01 = K10 := rfl

theorem nrK22_real (hGamma_1_0 : 0 ≤ Gamma_1_0) (hGamma_1_1 : 0 ≤ Gamma_1_1) (hGamma_2_0 : 0 ≤ Gamma_2_0) (hGamma_2_1 : 0 ≤ Gamma_2_1) :
    IsRe K00 ∧ IsRe K01 ∧ IsRe K10 ∧ IsRe K11 := by
  have h01 : IsRe K01 :=
    (isRe_nrOff hGamma_1_0 hGamma_1_1).add
      (isRe_nrOff hGamma_2_0 hGamma_2_1)
  exact ⟨isRe_nrDiag.add isRe_nrDiag, h01, h01, isRe_nrDiag.add isRe_nrDiag⟩

/-- `formulate(2, 2)` is the symbolic matrix expression with the parametrisation substituted. -/
theorem nrForm22_eq :
    F00 = nrT2_00 K00 K01 K10 K11 ∧ F01 = nrT2_01 K00 K01 K10 K11 ∧ F10 = nrT2_10 K00 K01 K10 K11 ∧ F11 = nrT2_11 K00 K01 K10 K11 :=
  nrForm2_shape K00 K01 K10 K11 rfl

/-- **`formulate(2, 2)`, non-relativistic: unitary and symmetric** for real parameters. -/
theorem nrForm22_unitary_symmetric (hGamma_1_0 : 0 ≤ Gamma_1_0) (hGamma_1_1 : 0 ≤ Gamma_1_1) (hGamma_2_0 : 0 ≤ Gamma_2_0) (hGamma_2_1 : 0 ≤ Gamma_2_1) :
    (1 + (2 * Complex.I) • (!![F00, F01; F10, F11] : Matrix (Fin 2) (Fin 2) ℂ))ᴴ * (1 + (2 * Complex.I) • (!![F00, F01; F10, F11] : Matrix (Fin 2) (Fin 2) ℂ)) = 1
      ∧ (!![F00, F01; F10, F11] : Matrix (Fin 2) (Fin 2) ℂ)ᵀ = (!![F00, F01; F10, F11] : Matrix (Fin 2) (Fin 2) ℂ) := by
  exact unitary_symmetric_of_entries
    (nrK22_real s m_1 m_2 Gamma_1_0 Gamma_1_1 Gamma_2_0 Gamma_2_1 gamma_1_0 gamma_1_1 gamma_2_0 gamma_2_1 hGamma_1_0 hGamma_1_1 hGamma_2_0 hGamma_2_1)
    (rfl : K01 = K10)
    (nrForm22_eq s m_1 m_2 Gamma_1_0 Gamma_1_1 Gamma_2_0 Gamma_2_1 gamma_1_0 gamma_1_1 gamma_2_0 gamma_2_1)
    (nrT2M_unitary_symmetric !![K00, K01; K10, K11])

end NR22

section REL11
variable (s m_1 Gamma_1_0 gamma_1_0 rho0 rhoR_1_0 ff_0 ff0_1_0 : ℝ)

local notation "K00" => relK11_00 s m_1 Gamma_1_0 gamma_1_0 (rho0 : ℂ) (rhoR_1_0 : ℂ) (ff_0 : ℂ) (ff0_1_0 : ℂ)
local notation "F00" => relForm11_00 s m_1 Gamma_1_0 gamma_1_0 (rho0 : ℂ) (rhoR_1_0 : ℂ) (ff_0 : ℂ) (ff0_1_0 : ℂ)
local notation "H00" => relFormHat11_00 s m_1 Gamma_1_0 gamma_1_0 (rho0 : ℂ) (rhoR_1_0 : ℂ) (ff_0 : ℂ) (ff0_1_0 : ℂ)

/-- A diagonal entry is real for all real arguments; the sign conditions (the guard: positive
phase-space factors at `s` and at the pole masses) are needed by the off-diagonal entries of the
two-channel parametrisations, whose widths stand under a square root. -/
theorem relK11_real (hGamma_1_0 : 0 ≤ Gamma_1_0) (hrho0 : 0 < rho0) (hrhoR_1_0 : 0 < rhoR_1_0) :
    IsRe K00 :=
  isRe_relDiag

/-- `formulate(1, 1)` is the symbolic matrix expression with the parametrisation substituted. -/
theorem relForm11_eq :
    F00 = relT1_00 (rho0 : ℂ) K00 :=
  relForm1_shape (rho0 : ℂ) K00

/-- `formulate(1, 1, return_t_hat=True)` is the symbolic matrix expression with the parametrisation substituted. -/
theorem relFormHat11_eq :
    H00 = relTh1_00 (rho0 : ℂ) K00 := rfl

/-- **`formulate(1, 1)`, relativistic: unitary and symmetric** for real parameters, under the guard that all phase-space factors (at `s` and at every pole mass) are real and positive. -/
theorem relForm11_unitary_symmetric (hGamma_1_0 : 0 ≤ Gamma_1_0) (hrho0 : 0 < rho0) (hrhoR_1_0 : 0 < rhoR_1_0) :
    (1 + (2 * Complex.I) • (!![F00] : Matrix (Fin 1) (Fin 1) ℂ))ᴴ * (1 + (2 * Complex.I) • (!![F00] : Matrix (Fin 1) (Fin 1) ℂ)) = 1
      ∧ (!![F00] : Matrix (Fin 1) (Fin 1) ℂ)ᵀ = (!![F00] : Matrix (Fin 1) (Fin 1) ℂ) := by
  rw [relForm11_eq s m_1 Gamma_1_0 gamma_1_0 rho0 rhoR_1_0 ff_0 ff0_1_0]
  exact relT1M_unitary_symmetric ![rho0] (Fin.forall_fin_one.2 hrho0) !![K00]
    (herm1 (relK11_real s m_1 Gamma_1_0 gamma_1_0 rho0 rhoR_1_0 ff_0 ff0_1_0 hGamma_1_0 hrho0 hrhoR_1_0)).1

end REL11

section REL12
variable (s m_1 m_2 Gamma_1_0 Gamma_2_0 gamma_1_0 gamma_2_0 rho0 rhoR_1_0 rhoR_2_0 ff_0 ff0_1_0 ff0_2_0 : ℝ)

local notation "K00" => relK12_00 s m_1 m_2 Gamma_1_0 Gamma_2_0 gamma_1_0 gamma_2_0 (rho0 : ℂ) (rhoR_1_0 : ℂ) (rhoR_2_0 : ℂ) (ff_0 : ℂ) (ff0_1_0 : ℂ) (ff0_2_0 : ℂ)
local notation "F00" => relForm12_00 s m_1 m_2 Gamma_1_0 Gamma_2_0 gamma_1_0 gamma_2_0 (rho0 : ℂ) (rhoR_1_0 : ℂ) (rhoR_2_0 : ℂ) (ff_0 : ℂ) (ff0_1_0 : ℂ) (ff0_2_0 : ℂ)
local notation "H00" => relFormHat12_00 s m_1 m_2 Gamma_1_0 Gamma_2_0 gamma_1_0 gamma_2_0 (rho0 : ℂ) (rhoR_1_0 : ℂ) (rhoR_2_0 : ℂ) (ff_0 : ℂ) (ff0_1_0 : ℂ) (ff0_2_0 : ℂ)

theorem relK12_real (hGamma_1_0 : 0 ≤ Gamma_1_0) (hGamma_2_0 : 0 ≤ Gamma_2_0) (hrho0 : 0 < rho0) (hrhoR_1_0 : 0 < rhoR_1_0) (hrhoR_2_0 : 0 < rhoR_2_0) :
    IsRe K00 :=
  isRe_relDiag.add isRe_relDiag

/-- `formulate(1, 2)` is the symbolic matrix expression with the parametrisation substituted. -/
theorem relForm12_eq :
    F00 = relT1_00 (rho0 : ℂ) K00 :=
  relForm1_shape (rho0 : ℂ) K00

/-- `formulate(1, 2, return_t_hat=True)` is the symbolic matrix expression with the parametrisation substituted. -/
theorem relFormHat12_eq :
    H00 = relTh1_00 (rho0 : ℂ) K00 := rfl

/-- **`formulate(1, 2)`, relativistic: unitary and symmetric** for real parameters, under the guard that all phase-space factors (at `s` and at every pole mass) are real and positive. -/
theorem relForm12_unitary_symmetric (hGamma_1_0 : 0 ≤ Gamma_1_0) (hGamma_2_0 : 0 ≤ Gamma_2_0) (hrho0 : 0 < rho0) (hrhoR_1_0 : 0 < rhoR_1_0) (hrhoR_2_0 : 0 < rhoR_2_0) :
    (1 + (2 * Complex.I) • (!![F00] : Matrix (Fin 1) (Fin 1) ℂ))ᴴ * (1 + (2 * Complex.I) • (!![F00] : Matrix (Fin 1) (Fin 1) ℂ)) = 1
      ∧ (!![F00] : Matrix (Fin 1) (Fin 1) ℂ)ᵀ = (!![F00] : Matrix (Fin 1) (Fin 1) ℂ) := by
  rw [relForm12_eq s m_1 m_2 Gamma_1_0 Gamma_2_0 gamma_1_0 gamma_2_0 rho0 rhoR_1_0 rhoR_2_0 ff_0 ff0_1_0 ff0_2_0]
  exact relT1M_unitary_symmetric ![rho0] (Fin.forall_fin_one.2 hrho0) !![K00]
    (herm1 (relK12_real s m_1 m_2 Gamma_1_0 Gamma_2_0 gamma_1_0 gamma_2_0 rho0 rhoR_1_0 rhoR_2_0 ff_0 ff0_1_0 ff0_2_0 hGamma_1_0 hGamma_2_0 hrho0 hrhoR_1_0 hrhoR_2_0)).1

end REL12

section REL21
variable (s m_1 Gamma_1_0 Gamma_1_1 gamma_1_0 gamma_1_1 rho0 rho1 rhoR_1_0 rhoR_1_1 ff_0 ff_1 ff0_1_0 ff0_1_1 : ℝ)

local notation "K00" => relK21_00 s m_1 Gamma_1_0 Gamma_1_1 gamma_1_0 gamma_1_1 (rho0 : ℂ) (rho1 : ℂ) (rhoR_1_0 : ℂ) (rhoR_1_1 : ℂ) (ff_0 : ℂ) (ff_1 : ℂ) (ff0_1_0 : ℂ) (ff0_1_1 : ℂ)
local notation "K01" => relK21_01 s m_1 Gamma_1_0 Gamma_1_1 gamma_1_0 gamma_1_1 (rho0 : ℂ) (rho1 : ℂ) (rhoR_1_0 : ℂ) (rhoR_1_1 : ℂ) (ff_0 : ℂ) (ff_1 : ℂ) (ff0_1_0 : ℂ) (ff0_1_1 : ℂ)
local notation "K10" => relK21_10 s m_1 Gamma_1_0 Gamma_1_1 gamma_1_0 gamma_1_1 (rho0 : ℂ) (rho1 : ℂ) (rhoR_1_0 : ℂ) (rhoR_1_1 : ℂ) (ff_0 : ℂ) (ff_1 : ℂ) (ff0_1_0 : ℂ) (ff0_1_1 : ℂ)
local notation "K11" => relK21_11 s m_1 Gamma_1_0 Gamma_1_1 gamma_1_0 gamma_1_1 (rho0 : ℂ) (rho1 : ℂ) (rhoR_1_0 : ℂ) (rhoR_1_1 : ℂ) (ff_0 : ℂ) (ff_1 : ℂ) (ff0_1_0 : ℂ) (ff0_1_1 : ℂ)
local notation "F00" => relForm21_00 s m_1 Gamma_1_0 Gamma_1_1 gamma_1_0 gamma_1_1 (rho0 : ℂ) (rho1 : ℂ) (rhoR_1_0 : ℂ) (rhoR_1_1 : ℂ) (ff_0 : ℂ) (ff_1 : ℂ) (ff0_1_0 : ℂ) (ff0_1_1 : ℂ)
local notation "F01" => relForm21_01 s m_1 Gamma_1_0 Gamma_1_1 gamma_1_0 gamma_1_1 (rho0 : ℂ) (rho1 : ℂ) (rhoR_1_0 : ℂ) (rhoR_1_1 : ℂ) (ff_0 : ℂ) (ff_1 : ℂ) (ff0_1_0 : ℂ) (ff0_1_1 : ℂ)
local notation "F10" => relForm21_10 s m_1 Gamma_1_0 Gamma_1_1 gamma_1_0 gamma_1_1 (rho0 : ℂ) (rho1 : ℂ) (rhoR_1_0 : ℂ) (rhoR_1_1 : ℂ) (ff_0 : ℂ) (ff_1 : ℂ) (ff0_1_0 : ℂ) (ff0_1_1 : ℂ)
local notation "F11" => relForm21_11 s m_1 Gamma_1_0 Gamma_1_1 gamma_1_0 gamma_1_1 (rho0 : ℂ) (rho1 : ℂ) (rhoR_1_0 : ℂ) (rhoR_1_1 : ℂ) (ff_0 : ℂ) (ff_1 : ℂ) (ff0_1_0 : ℂ) (ff0_1_1 : ℂ)
local notation "H00" => relFormHat21_00 s m_1 Gamma_1_0 Gamma_1_1 gamma_1_0 gamma_1_1 (rho0 : ℂ) (rho1 : ℂ) (rhoR_1_0 : ℂ) (rhoR_1_1 : ℂ) (ff_0 : ℂ) (ff_1 : ℂ) (ff0_1_0 : ℂ) (ff0_1_1 : ℂ)
local notation "H01" => relFormHat21_01 s m_1 Gamma_1_0 Gamma_1_1 gamma_1_0 gamma_1_1 (rho0 : ℂ) (rho1 : ℂ) (rhoR_1_0 : ℂ) (rhoR_1_1 : ℂ) (ff_0 : ℂ) (ff_1 : ℂ) (ff0_1_0 : ℂ) (ff0_1_1 : ℂ)
local notation "H10" => relFormHat21_10 s m_1 Gamma_1_0 Gamma_1_1 gamma_1_0 gamma_1_1 (rho0 : ℂ) (rho1 : ℂ) (rhoR_1_0 : ℂ) (rhoR_1_1 : ℂ) (ff_0 : ℂ) (ff_1 : ℂ) (ff0_1_0 : ℂ) (ff0_1_1 : ℂ)
local notation "H11" => relFormHat21_11 s m_1 Gamma_1_0 Gamma_1_1 gamma_1_0 gamma_1_1 (rho0 : ℂ) (rho1 : ℂ) (rhoR_1_0 : ℂ) (rhoR_1_1 : ℂ) (ff_0 : ℂ) (ff_1 : ℂ) (ff0_1_0 : ℂ) (ff0_1_1 : ℂ)

theorem relK21_symm : K01 = K10 := rfl

theorem relK21_real (hGamma_1_0 : 0 ≤ Gamma_1_0) (hGamma_1_1 : 0 ≤ Gamma_1_1) (hrho0 : 0 < rho0) (hrho1 : 0 < rho1) (hrhoR_1_0 : 0 < rhoR_1_0) (hrhoR_1_1 : 0 < rhoR_1_1) :
    IsRe K00 ∧ IsRe K01 ∧ IsRe K10 ∧ IsRe K11 := by
  have h01 : IsRe K01 :=
    isRe_relOff hGamma_1_0 hrho0 hrhoR_1_0 hGamma_1_1 hrho1 hrhoR_1_1
  exact ⟨isRe_relDiag, h01, h01, isRe_relDiag⟩

/-- `formulate(2, 1)` is the symbolic matrix expression with the parametrisation substituted. -/
theorem relForm21_eq :
    F00 = relT2_00 (rho0 : ℂ) (rho1 : ℂ) K00 K01 K10 K11 ∧ F01 = relT2_01 (rho0 : ℂ) (rho1 : ℂ) K00 K01 K10 K11 ∧ F10 = relT2_10 (rho0 : ℂ) (rho1 : ℂ) K00 K01 K10 K11 ∧ F11 = relT2_11 (rho0 : ℂ) (rho1 : ℂ) K00 K01 K10 K11 :=
  relForm2_shape (rho0 : ℂ) (rho1 : ℂ) K00 K01 K10 K11 rfl

/-- `formulate(2, 1, return_t_hat=True)` is the symbolic matrix expression with the parametrisation substituted. -/
theorem relFormHat21_eq :
    H00 = relTh2_00 (rho0 : ℂ) (rho1 : ℂ) K00 K01 K10 K11 ∧ H01 = relTh2_01 (rho0 : ℂ) (rho1 : ℂ) K00 K01 K10 K11 ∧ H10 = relTh2_10 (rho0 : ℂ) (rho1 : ℂ) K00 K01 K10 K11 ∧ H11 = relTh2_11 (rho0 : ℂ) (rho1 : ℂ) K00 K01 K10 K11 :=
  relFormHat2_shape (rho0 : ℂ) (rho1 : ℂ) K00 K01 K10 K11 rfl

/-- **`formulate(2, 1)`, relativistic: unitary and symmetric** for real parameters, under the guard that all phase-space factors (at `s` and at every pole mass) are real and positive. -/
theorem relForm21_unitary_symmetric (hGamma_1_0 : 0 ≤ Gamma_1_0) (hGamma_1_1 : 0 ≤ Gamma_1_1) (hrho0 : 0 < rho0) (hrho1 : 0 < rho1) (hrhoR_1_0 : 0 < rhoR_1_0) (hrhoR_1_1 : 0 < rhoR_1_1) :
    (1 + (2 * Complex.I) • (!![F00, F01; F10, F11] : Matrix (Fin 2) (Fin 2) ℂ))ᴴ * (1 + (2 * Complex.I) • (!![F00, F01; F10, F11] : Matrix (Fin 2) (Fin 2) ℂ)) = 1
      ∧ (!![F00, F01; F10, F11] : Matrix (Fin 2) (Fin 2) ℂ)ᵀ = (!![F00, F01; F10, F11] : Matrix (Fin 2) (Fin 2) ℂ) := by
  exact unitary_symmetric_of_entries
    (relK21_real s m_1 Gamma_1_0 Gamma_1_1 gamma_1_0 gamma_1_1 rho0 rho1 rhoR_1_0 rhoR_1_1 ff_0 ff_1 ff0_1_0 ff0_1_1 hGamma_1_0 hGamma_1_1 hrho0 hrho1 hrhoR_1_0 hrhoR_1_1)
    (rfl : K01 = K10)
    (relForm21_eq s m_1 Gamma_1_0 Gamma_1_1 gamma_1_0 gamma_1_1 rho0 rho1 rhoR_1_0 rhoR_1_1 ff_0 ff_1 ff0_1_0 ff0_1_1)
    (relT2M_unitary_symmetric ![rho0, rho1] (Fin.forall_fin_two.2 ⟨hrho0, hrho1⟩)
      !![K00, K01; K10, K11])

end REL21

section REL22
variable (s m_1 m_2 Gamma_1_0 Gamma_1_1 Gamma_2_0 Gamma_2_1 gamma_1_0 gamma_1_1 gamma_2_0 gamma_2_1 rho0 rho1 rhoR_1_0 rhoR_1_1 rhoR_2_0 rhoR_2_1 ff_0 ff_1 ff0_1_0 ff0_1_1 ff0_2_0 ff0_2_1 : ℝ)

local notation "K00" => relK22_00 s m_1 m_2 Gamma_1_0 Gamma_1_1 Gamma_2_0 Gamma_2_1 gamma_1_0 gamma_1_1 gamma_2_0 gamma_2_1 (rho0 : ℂ) (rho1 : ℂ) (rhoR_1_0 : ℂ) (rhoR_1_1 : ℂ) (rhoR_2_0 : ℂ) (rhoR_2_1 : ℂ) (ff_0 : ℂ) (ff_1 : ℂ) (ff0_1_0 : ℂ) (ff0_1_1 : ℂ) (ff0_2_0 : ℂ) (ff0_2_1 : ℂ)
local notation "K01" => relK22_01 s m_1 m_2 Gamma_1_0 Gamma_1_1 Gamma_2_0 Gamma_2_1 gamma_1_0 gamma_1_1 gamma_2_0 gamma_2_1 (rho0 : ℂ) (rho1 : ℂ) (rhoR_1_0 : ℂ) (rhoR_1_1 : ℂ) (rhoR_2_0 : ℂ) (rhoR_2_1 : ℂ) (ff_0 : ℂ) (ff_1 : ℂ) (ff0_1_0 : ℂ) (ff0_1_1 : ℂ) (ff0_2_0 : ℂ) (ff0_2_1 : ℂ)
local notation "K10" => relK22_10 s m_1 m_2 Gamma_1_0 Gamma_1_1 Gamma_2_0 Gamma_2_1 gamma_1_0 gamma_1_1 gamma_2_0 gamma_2_1 (rho0 : ℂ) (rho1 : ℂ) (rhoR_1_0 : ℂ) (rhoR_1_1 : ℂ) (rhoR_2_0 : ℂ) (rhoR_2_1 : ℂ) (ff_0 : ℂ) (ff_1 : ℂ) (ff0_1_0 : ℂ) (ff0_1_1 : ℂ) (ff0_2_0 : ℂ) (ff0_2_1 : ℂ)
local notation "K11" => relK22_11 s m_1 m_2 Gamma_1_0 Gamma_1_1 Gamma_2_0 Gamma_2_1 gamma_1_0 gamma_1_1 gamma_2_0 gamma_2_1 (rho0 : ℂ) (rho1 : ℂ) (rhoR_1_0 : ℂ) (rhoR_1_1 : ℂ) (rhoR_2_0 : ℂ) (rhoR_2_1 : ℂ) (ff_0 : ℂ) (ff_1 : ℂ) (ff0_1_0 : ℂ) (ff0_1_1 : ℂ) (ff0_2_0 : ℂ) (ff0_2_1 : ℂ)
local notation "F00" => relForm22_00 s m_1 m_2 Gamma_1_0 Gamma_1_1 Gamma_2_0 Gamma_2_1 gamma_1_0 gamma_1_1 gamma_2_0 gamma_2_1 (rho0 : ℂ) (rho1 : ℂ) (rhoR_1_0 : ℂ) (rhoR_1_1 : ℂ) (rhoR_2_0 : ℂ) (rhoR_2_1 : ℂ) (ff_0 : ℂ) (ff_1 : ℂ) (ff0_1_0 : ℂ) (ff0_1_1 : ℂ) (ff0_2_0 : ℂ) (ff0_2_1 : ℂ)
local notation "F01" => relForm22_01 s m_1 m_2 Gamma_1_0 Gamma_1_1 Gamma_2_0 Gamma_2_1 gamma_1_0 gamma_1_1 gamma_2_0 gamma_2_1 (rho0 : ℂ) (rho1 : ℂ) (rhoR_1_0 : ℂ) (rhoR_1_1 : ℂ) (rhoR_2_0 : ℂ) (rhoR_2_1 : ℂ) (ff_0 : ℂ) (ff_1 : ℂ) (ff0_1_0 : ℂ) (ff0_1_1 : ℂ) (ff0_2_0 : ℂ) (ff0_2_1 : ℂ)
local notation "F10" => relForm22_10 s m_1 m_2 Gamma_1_0 Gamma_1_1 Gamma_2_0 Gamma_2_1 gamma_1_0 gamma_1_1 gamma_2_0 gamma_2_1 (rho0 : ℂ) (rho1 : ℂ) (rhoR_1_0 : ℂ) (rhoR_1_1 : ℂ) (rhoR_2_0 : ℂ) (rhoR_2_1 : ℂ) (ff_0 : ℂ) (ff_1 : ℂ) (ff0_1_0 : ℂ) (ff0_1_1 : ℂ) (ff0_2_0 : ℂ) (ff0_2_1 : ℂ)
local notation "F11" => relForm22_11 s m_1 m_2 Gamma_1_0 Gamma_1_1 Gamma_2_0 Gamma_2_1 gamma_1_0 gamma_1_1 gamma_2_0 gamma_2_1 (rho0 : ℂ) (rho1 : ℂ) (rhoR_1_0 : ℂ) (rhoR_1_1 : ℂ) (rhoR_2_0 : ℂ) (rhoR_2_1 : ℂ) (ff_0 : ℂ) (ff_1 : ℂ) (ff0_1_0 : ℂ) (ff0_1_1 : ℂ) (ff0_2_0 : ℂ) (ff0_2_1 : ℂ)
local notation "H00" => relFormHat22_00 s m_1 m_2 Gamma_1_0 Gamma_1_1 Gamma_2_0 Gamma_2_1 gamma_1_0 gamma_1_1 gamma_2_0 gamma_2_1 (rho0 : ℂ) (rho1 : ℂ) (rhoR_1_0 : ℂ) (rhoR_1_1 : ℂ) (rhoR_2_0 : ℂ) (rhoR_2_1 : ℂ) (ff_0 : ℂ) (ff_1 : ℂ) (ff0_1_0 : ℂ) (ff0_1_1 : ℂ) (ff0_2_0 : ℂ) (ff0_2_1 : ℂ)
local notation "H01" => relFormHat22_01 s m_1 m_2 Gamma_1_0 Gamma_1_1 Gamma_2_0 Gamma_2_1 gamma_1_0 gamma_1_1 gamma_2_0 gamma_2_1 (rho0 : ℂ) (rho1 : ℂ) (rhoR_1_0 : ℂ) (rhoR_1_1 : ℂ) (rhoR_2_0 : ℂ) (rhoR_2_1 : ℂ) (ff_0 : ℂ) (ff_1 : ℂ) (ff0_1_0 : ℂ) (ff0_1_1 : ℂ) (ff0_2_0 : ℂ) (ff0_2_1 : ℂ)
local notation "H10" => relFormHat22_10 s m_1 m_2 Gamma_1_0 Gamma_1_1 Gamma_2_0 Gamma_2_1 gamma_1_0 gamma_1_1 gamma_2_0 gamma_2_1 (rho0 : ℂ) (rho1 : ℂ) (rhoR_1_0 : ℂ) (rhoR_1_1 : ℂ) (rhoR_2_0 : ℂ) (rhoR_2_1 : ℂ) (ff_0 : ℂ) (ff_1 : ℂ) (ff0_1_0 : ℂ) (ff0_1_1 : ℂ) (ff0_2_0 : ℂ) (ff0_2_1 : ℂ)
local notation "H11" => relFormHat22_11 s m_1 m_2 Gamma_1_0 Gamma_1_1 Gamma_2_0 Gamma_2_1 gamma_1_0 gamma_1_1 gamma_2_0 gamma_2_1 (rho0 : ℂ) (rho1 : ℂ) (rhoR_1_0 : ℂ) (rhoR_1_1 : ℂ) (rhoR_2_0 : ℂ) (rhoR_2_1 : ℂ) (ff_0 : ℂ) (ff_1 : ℂ) (ff0_1_0 : ℂ) (ff0_1_1 : ℂ) (ff0_2_0 : ℂ) (ff0_2_1 : ℂ)

theorem relK22_symm : K01 = K10 := rfl

theorem relK22_real (hGamma_1_0 : 0 ≤ Gamma_1_0) (hGamma_1_1 : 0 ≤ Gamma_1_1) (hGamma_2_0 : 0 ≤ Gamma_2_0) (hGamma_2_1 : 0 ≤ Gamma_2_1) (hrho0 : 0 < rho0) (hrho1 : 0 < rho1) (hrhoR_1_0 : 0 < rhoR_1_0) (hrhoR_1_1 : 0 < rhoR_1_1) (hrhoR_2_0 : 0 < rhoR_2_0) (hrhoR_2_1 : 0 < rhoR_2_1) :
    IsRe K00 ∧ IsRe K01 ∧ IsRe K10 ∧ IsRe K11 := by
  have h01 : IsRe K01 :=
    (isRe_relOff hGamma_1_0 hrho0 hrhoR_1_0 hGamma_1_1 hrho1 hrhoR_1_1).add
      (isRe_relOff hGamma_2_0 hrho0 hrhoR_2_0 hGamma_2_1 hrho1 hrhoR_2_1)
  exact ⟨isRe_relDiag.add isRe_relDiag, h01, h01, isRe_relDiag.add isRe_relDiag⟩

/-- `formulate(2, 2)` is the symbolic matrix expression with the parametrisation substituted. -/
theorem relForm22_eq :
    F00 = relT2_00 (rho0 : ℂ) (rho1 : ℂ) K00 K01 K10 K11 ∧ F01 = relT2_01 (rho0 : ℂ) (rho1 : ℂ) K00 K01 K10 K11 ∧ F10 = relT2_10 (rho0 : ℂ) (rho1 : ℂ) K00 K01 K10 K11 ∧ F11 = relT2_11 (rho0 : ℂ) (rho1 : ℂ) K00 K01 K10 K11 :=
  relForm2_shape (rho0 : ℂ) (rho1 : ℂ) K00 K01 K10 K11 rfl

/-- `formulate(2, 2, return_t_hat=True)` is the symbolic matrix expression with the parametrisation substituted. -/
theorem relFormHat22_eq :
    H00 = relTh2_00 (rho0 : ℂ) (rho1 : ℂ) K00 K01 K10 K11 ∧ H01 = relTh2_01 (rho0 : ℂ) (rho1 : ℂ) K00 K01 K10 K11 ∧ H10 = relTh2_10 (rho0 : ℂ) (rho1 : ℂ) K00 K01 K10 K11 ∧ H11 = relTh2_11 (rho0 : ℂ) (rho1 : ℂ) K00 K01 K10 K11 :=
  relFormHat2_shape (rho0 : ℂ) (rho1 : ℂ) K00 K01 K10 K11 rfl

/-- **`formulate(2, 2)`, relativistic: unitary and symmetric** for real parameters, under the guard that all phase-space factors (at `s` and at every pole mass) are real and positive. -/
theorem relForm22_unitary_symmetric (hGamma_1_0 : 0 ≤ Gamma_1_0) (hGamma_1_1 : 0 ≤ Gamma_1_1) (hGamma_2_0 : 0 ≤ Gamma_2_0) (hGamma_2_1 : 0 ≤ Gamma_2_1) (hrho0 : 0 < rho0) (hrho1 : 0 < rho1) (hrhoR_1_0 : 0 < rhoR_1_0) (hrhoR_1_1 : 0 < rhoR_1_1) (hrhoR_2_0 : 0 < rhoR_2_0) (hrhoR_2_1 : 0 < rhoR_2_1) :
    (1 + (2 * Complex.I) • (!![F00, F01; F10, F11] : Matrix (Fin 2) (Fin 2) ℂ))ᴴ * (1 + (2 * Complex.I) • (!![F00, F01; F10, F11] : Matrix (Fin 2) (Fin 2) ℂ)) = 1
      ∧ (!![F00, F01; F10, F11] : Matrix (Fin 2) (Fin 2) ℂ)ᵀ = (!![F00, F01; F10, F11] : Matrix (Fin 2) (Fin 2) ℂ) := by
  exact unitary_symmetric_of_entries
    (relK22_real s m_1 m_2 Gamma_1_0 Gamma_1_1 Gamma_2_0 Gamma_2_1 gamma_1_0 gamma_1_1 gamma_2_0 gamma_2_1 rho0 rho1 rhoR_1_0 rhoR_1_1 rhoR_2_0 rhoR_2_1 ff_0 ff_1 ff0_1_0 ff0_1_1 ff0_2_0 ff0_2_1 hGamma_1_0 hGamma_1_1 hGamma_2_0 hGamma_2_1 hrho0 hrho1 hrhoR_1_0 hrhoR_1_1 hrhoR_2_0 hrhoR_2_1)
    (rfl : K01 = K10)
    (relForm22_eq s m_1 m_2 Gamma_1_0 Gamma_1_1 Gamma_2_0 Gamma_2_1 gamma_1_0 gamma_1_1 gamma_2_0 gamma_2_1 rho0 rho1 rhoR_1_0 rhoR_1_1 rhoR_2_0 rhoR_2_1 ff_0 ff_1 ff0_1_0 ff0_1_1 ff0_2_0 ff0_2_1)
    (relT2M_unitary_symmetric ![rho0, rho1] (Fin.forall_fin_two.2 ⟨hrho0, hrho1⟩)
      !![K00, K01; K10, K11])

end REL22

section NR23
variable (s m_1 m_2 m_3 Gamma_1_0 Gamma_1_1 Gamma_2_0 Gamma_2_1 Gamma_3_0 Gamma_3_1 gamma_1_0 gamma_1_1 gamma_2_0 gamma_2_1 gamma_3_0 gamma_3_1 : ℝ)

local notation "K00" => nrK23_00 s m_1 m_2 m_3 Gamma_1_0 Gamma_1_1 Gamma_2_0 Gamma_2_1 Gamma_3_0 Gamma_3_1 gamma_1_0 gamma_1_1 gamma_2_0 gamma_2_1 gamma_3_0 gamma_3_1
local notation "K01" => nrK23_01 s m_1 m_2 m_3 Gamma_1_0 Gamma_1_1 Gamma_2_0 Gamma_2_1 Gamma_3_0 Gamma_3_1 gamma_1_0 gamma_1_1 gamma_2_0 gamma_2_1 gamma_3_0 gamma_3_1
local notation "K10" => nrK23_10 s m_1 m_2 m_3 Gamma_1_0 Gamma_1_1 Gamma_2_0 Gamma_2_1 Gamma_3_0 Gamma_3_1 gamma_1_0 gamma_1_1 gamma_2_0 gamma_2_1 gamma_3_0 gamma_3_1
local notation "K11" => nrK23_11 s m_1 m_2 m_3 Gamma_1_0 Gamma_1_1 Gamma_2_0 Gamma_2_1 Gamma_3_0 Gamma_3_1 gamma_1_0 gamma_1_1 gamma_2_0 gamma_2_1 gamma_3_0 gamma_3_1

theorem nrK23_symm : K01 = K10 := rfl

theorem nrK23_real (hGamma_1_0 : 0 ≤ Gamma_1_0) (hGamma_1_1 : 0 ≤ Gamma_1_1) (hGamma_2_0 : 0 ≤ Gamma_2_0) (hGamma_2_1 : 0 ≤ Gamma_2_1) (hGamma_3_0 : 0 ≤ Gamma_3_0) (hGamma_3_1 : 0 ≤ Gamma_3_1) :
    IsRe K00 ∧ IsRe K01 ∧ IsRe K10 ∧ IsRe K11 := by
  have h01 : IsRe K01 :=
    ((isRe_nrOff hGamma_1_0 hGamma_1_1).add
      (isRe_nrOff hGamma_2_0 hGamma_2_1)).add
      (isRe_nrOff hGamma_3_0 hGamma_3_1)
  exact ⟨(isRe_nrDiag.add isRe_nrDiag).add isRe_nrDiag, h01, h01, (isRe_nrDiag.add isRe_nrDiag).add isRe_nrDiag⟩

end NR23

section NR24
variable (s m_1 m_2 m_3 m_4 Gamma_1_0 Gamma_1_1 Gamma_2_0 Gamma_2_1 Gamma_3_0 Gamma_3_1 Gamma_4_0 Gamma_4_1 gamma_1_0 gamma_1_1 gamma_2_0 gamma_2_1 gamma_3_0 gamma_3_1 gamma_4_0 gamma_4_1 : ℝ)

local notation "K00" => nrK24_00 s m_1 m_2 m_3 m_4 Gamma_1_0 Gamma_1_1 Gamma_2_0 Gamma_2_1 Gamma_3_0 Gamma_3_1 Gamma_4_0 Gamma_4_1 gamma_1_0 gamma_1_1 gamma_2_0 gamma_2_1 gamma_3_0 gamma_3_1 gamma_4_0 gamma_4_1
local notation "K01" => nrK24_01 s m_1 m_2 m_3 m_4 Gamma_1_0 Gamma_1_1 Gamma_2_0 Gamma_2_1 Gamma_3_0 Gamma_3_1 Gamma_4_0 Gamma_4_1 gamma_1_0 gamma_1_1 gamma_2_0 gamma_2_1 gamma_3_0 gamma_3_1 gamma_4_0 gamma_4_1
local notation "K10" => nrK24_10 s m_1 m_2 m_3 m_4 Gamma_1_0 Gamma_1_1 Gamma_2_0 Gamma_2_1 Gamma_3_0 Gamma_3_1 Gamma_4_0 Gamma_4_1 gamma_1_0 gamma_1_1 gamma_2_0 gamma_2_1 gamma_3_0 gamma_3_1 gamma_4_0 gamma_4_1
local notation "K11" => nrK24_11 s m_1 m_2 m_3 m_4 Gamma_1_0 Gamma_1_1 Gamma_2_0 Gamma_2_1 Gamma_3_0 Gamma_3_1 Gamma_4_0 Gamma_4_1 gamma_1_0 gamma_1_1 gamma_2_0 gamma_2_1 gamma_3_0 gamma_3_1 gamma_4_0 gamma_4_1

theorem nrK24_symm : K01 = K10 := rfl

theorem nrK24_real (hGamma_1_0 : 0 ≤ Gamma_1_0) (hGamma_1_1 : 0 ≤ Gamma_1_1) (hGamma_2_0 : 0 ≤ Gamma_2_0) (hGamma_2_1 : 0 ≤ Gamma_2_1) (hGamma_3_0 : 0 ≤ Gamma_3_0) (hGamma_3_1 : 0 ≤ Gamma_3_1) (hGamma_4_0 : 0 ≤ Gamma_4_0) (hGamma_4_1 : 0 ≤ Gamma_4_1) :
    IsRe K00 ∧ IsRe K01 ∧ IsRe K10 ∧ IsRe K11 := by
  have h01 : IsRe K01 :=
    (((isRe_nrOff hGamma_1_0 hGamma_1_1).add
      (isRe_nrOff hGamma_2_0 hGamma_2_1)).add
      (isRe_nrOff hGamma_3_0 hGamma_3_1)).add
      (isRe_nrOff hGamma_4_0 hGamma_4_1)
  exact ⟨((isRe_nrDiag.add isRe_nrDiag).add isRe_nrDiag).add isRe_nrDiag, h01, h01, ((isRe_nrDiag.add isRe_nrDiag).add isRe_nrDiag).add isRe_nrDiag⟩

end NR24

section REL23
variable (s m_1 m_2 m_3 Gamma_1_0 Gamma_1_1 Gamma_2_0 Gamma_2_1 Gamma_3_0 Gamma_3_1 gamma_1_0 gamma_1_1 gamma_2_0 gamma_2_1 gamma_3_0 gamma_3_1 rho0 rho1 rhoR_1_0 rhoR_1_1 rhoR_2_0 rhoR_2_1 rhoR_3_0 rhoR_3_1 ff_0 ff_1 ff0_1_0 ff0_1_1 ff0_2_0 ff0_2_1 ff0_3_0 ff0_3_1 : ℝ)

local notation "K00" => relK23_00 s m_1 m_2 m_3 Gamma_1_0 Gamma_1_1 Gamma_2_0 Gamma_2_1 Gamma_3_0 Gamma_3_1 gamma_1_0 gamma_1_1 gamma_2_0 gamma_2_1 gamma_3_0 gamma_3_1 (rho0 : ℂ) (rho1 : ℂ) (rhoR_1_0 : ℂ) (rhoR_1_1 : ℂ) (rhoR_2_0 : ℂ) (rhoR_2_1 : ℂ) (rhoR_3_0 : ℂ) (rhoR_3_1 : ℂ) (ff_0 : ℂ) (ff_1 : ℂ) (ff0_1_0 : ℂ) (ff0_1_1 : ℂ) (ff0_2_0 : ℂ) (ff0_2_1 : ℂ) (ff0_3_0 : ℂ) (ff0_3_1 : ℂ)
local notation "K01" => relK23_01 s m_1 m_2 m_3 Gamma_1_0 Gamma_1_1 Gamma_2_0 Gamma_2_1 Gamma_3_0 Gamma_3_1 gamma_1_0 gamma_1_1 gamma_2_0 gamma_2_1 gamma_3_0 gamma_3_1 (rho0 : ℂ) (rho1 : ℂ) (rhoR_1_0 : ℂ) (rhoR_1_1 : ℂ) (rhoR_2_0 : ℂ) (rhoR_2_1 : ℂ) (rhoR_3_0 : ℂ) (rhoR_3_1 : ℂ) (ff_0 : ℂ) (ff_1 : ℂ) (ff0_1_0 : ℂ) (ff0_1_1 : ℂ) (ff0_2_0 : ℂ) (ff0_2_1 : ℂ) (ff0_3_0 : ℂ) (ff0_3_1 : ℂ)
local notation "K10" => relK23_10 s m_1 m_2 m_3 Gamma_1_0 Gamma_1_1 Gamma_2_0 Gamma_2_1 Gamma_3_0 Gamma_3_1 gamma_1_0 gamma_1_1 gamma_2_0 gamma_2_1 gamma_3_0 gamma_3_1 (rho0 : ℂ) (rho1 : ℂ) (rhoR_1_0 : ℂ) (rhoR_1_1 : ℂ) (rhoR_2_0 : ℂ) (rhoR_2_1 : ℂ) (rhoR_3_0 : ℂ) (rhoR_3_1 : ℂ) (ff_0 : ℂ) (ff_1 : ℂ) (ff0_1_0 : ℂ) (ff0_1_1 : ℂ) (ff0_2_0 : ℂ) (ff0_2_1 : ℂ) (ff0_3_0 : ℂ) (ff0_3_1 : ℂ)
local notation "K11" => relK23_11 s m_1 m_2 m_3 Gamma_1_0 Gamma_1_1 Gamma_2_0 Gamma_2_1 Gamma_3_0 Gamma_3_1 gamma_1_0 gamma_1_1 gamma_2_0 gamma_2_1 gamma_3_0 gamma_3_1 (rho0 : ℂ) (rho1 : ℂ) (rhoR_1_0 : ℂ) (rhoR_1_1 : ℂ) (rhoR_2_0 : ℂ) (rhoR_2_1 : ℂ) (rhoR_3_0 : ℂ) (rhoR_3_1 : ℂ) (ff_0 : ℂ) (ff_1 : ℂ) (ff0_1_0 : ℂ) (ff0_1_1 : ℂ) (ff0_2_0 : ℂ) (ff0_2_1 : ℂ) (ff0_3_0 : ℂ) (ff0_3_1 : ℂ)

theorem relK23_symm : K01 = K10 := rfl

theorem relK23_real (hGamma_1_0 : 0 ≤ Gamma_1_0) (hGamma_1_1 : 0 ≤ Gamma_1_1) (hGamma_2_0 : 0 ≤ Gamma_2_0) (hGamma_2_1 : 0 ≤ Gamma_2_1) (hGamma_3_0 : 0 ≤ Gamma_3_0) (hGamma_3_1 : 0 ≤ Gamma_3_1) (hrho0 : 0 < rho0) (hrho1 : 0 < rho1) (hrhoR_1_0 : 0 < rhoR_1_0) (hrhoR_1_1 : 0 < rhoR_1_1) (hrhoR_2_0 : 0 < rhoR_2_0) (hrhoR_2_1 : 0 < rhoR_2_1) (hrhoR_3_0 : 0 < rhoR_3_0) (hrhoR_3_1 : 0 < rhoR_3_1) :
    IsRe K00 ∧ IsRe K01 ∧ IsRe K10 ∧ IsRe K11 := by
  have h01 : IsRe K01 :=
    ((isRe_relOff hGamma_1_0 hrho0 hrhoR_1_0 hGamma_1_1 hrho1 hrhoR_1_1).add
      (isRe_relOff hGamma_2_0 hrho0 hrhoR_2_0 hGamma_2_1 hrho1 hrhoR_2_1)).add
      (isRe_relOff hGamma_3_0 hrho0 hrhoR_3_0 hGamma_3_1 hrho1 hrhoR_3_1)
  exact ⟨(isRe_relDiag.add isRe_relDiag).add isRe_relDiag, h01, h01, (isRe_relDiag.add isRe_relDiag).add isRe_relDiag⟩

end REL23

section REL24
variable (s m_1 m_2 m_3 m_4 Gamma_1_0 Gamma_1_1 Gamma_2_0 Gamma_2_1 Gamma_3_0 Gamma_3_1 Gamma_4_0 Gamma_4_1 gamma_1_0 gamma_1_1 gamma_2_0 gamma_2_1 gamma_3_0 gamma_3_1 gamma_4_0 gamma_4_1 rho0 rho1 rhoR_1_0 rhoR_1_1 rhoR_2_0 rhoR_2_1 rhoR_3_0 rhoR_3_1 rhoR_4_0 rhoR_4_1 ff_0 ff_1 ff0_1_0 ff0_1_1 ff0_2_0 ff0_2_1 ff0_3_0 ff0_3_1 ff0_4_0 ff0_4_1 : ℝ)

local notation "K00" => relK24_00 s m_1 m_2 m_3 m_4 Gamma_1_0 Gamma_1_1 Gamma_2_0 Gamma_2_1 Gamma_3_0 Gamma_3_1 Gamma_4_0 Gamma_4_1 gamma_1_0 gamma_1_1 gamma_2_0 gamma_2_1 gamma_3_0 gamma_3_1 gamma_4_0 gamma_4_1 (rho0 : ℂ) (rho1 : ℂ) (rhoR_1_0 : ℂ) (rhoR_1_1 : ℂ) (rhoR_2_0 : ℂ) (rhoR_2_1 : ℂ) (rhoR_3_0 : ℂ) (rhoR_3_1 : ℂ) (rhoR_4_0 : ℂ) (rhoR_4_1 : ℂ) (ff_0 : ℂ) (ff_1 : ℂ) (ff0_1_0 : ℂ) (ff0_1_1 : ℂ) (ff0_2_0 : ℂ) (ff0_2_1 : ℂ) (ff0_3_0 : ℂ) (ff0_3_1 : ℂ) (ff0_4_0 : ℂ) (ff0_4_1 : ℂ)
local notation "K01" => relK24_01 s m_1 m_2 m_3 m_4 Gamma_1_0 Gamma_1_1 Gamma_2_0 Gamma_2_1 Gamma_3_0 Gamma_3_1 Gamma_4_0 Gamma_4_1 gamma_1_0 gamma_1_1 gamma_2_0 gamma_2_1 gamma_3_0 gamma_3_1 gamma_4_0 gamma_4_1 (rho0 : ℂ) (rho1 : ℂ) (rhoR_1_0 : ℂ) (rhoR_1_1 : ℂ) (rhoR_2_0 : ℂ) (rhoR_2_1 : ℂ) (rhoR_3_0 : ℂ) (rhoR_3_1 : ℂ) (rhoR_4_0 : ℂ) (rhoR_4_1 : ℂ) (ff_0 : ℂ) (ff_1 : ℂ) (ff0_1_0 : ℂ) (ff0_1_1 : ℂ) (ff0_2_0 : ℂ) (ff0_2_1 : ℂ) (ff0_3_0 : ℂ) (ff0_3_1 : ℂ) (ff0_4_0 : ℂ) (ff0_4_1 : ℂ)
local notation "K10" => relK24_10 s m_1 m_2 m_3 m_4 Gamma_1_0 Gamma_1_1 Gamma_2_0 Gamma_2_1 Gamma_3_0 Gamma_3_1 Gamma_4_0 Gamma_4_1 gamma_1_0 gamma_1_1 gamma_2_0 gamma_2_1 gamma_3_0 gamma_3_1 gamma_4_0 gamma_4_1 (rho0 : ℂ) (rho1 : ℂ) (rhoR_1_0 : ℂ) (rhoR_1_1 : ℂ) (rhoR_2_0 : ℂ) (rhoR_2_1 : ℂ) (rhoR_3_0 : ℂ) (rhoR_3_1 : ℂ) (rhoR_4_0 : ℂ) (rhoR_4_1 : ℂ) (ff_0 : ℂ) (ff_1 : ℂ) (ff0_1_0 : ℂ) (ff0_1_1 : ℂ) (ff0_2_0 : ℂ) (ff0_2_1 : ℂ) (ff0_3_0 : ℂ) (ff0_3_1 : ℂ) (ff0_4_0 : ℂ) (ff0_4_1 : ℂ)
local notation "K11" => relK24_11 s m_1 m_2 m_3 m_4 Gamma_1_0 Gamma_1_1 Gamma_2_0 Gamma_2_1 Gamma_3_0 Gamma_3_1 Gamma_4_0 Gamma_4_1 gamma_1_0 gamma_1_1 gamma_2_0 gamma_2_1 gamma_3_0 gamma_3_1 gamma_4_0 gamma_4_1 (rho0 : ℂ) (rho1 : ℂ) (rhoR_1_0 : ℂ) (rhoR_1_1 : ℂ) (rhoR_2_0 : ℂ) (rhoR_2_1 : ℂ) (rhoR_3_0 : ℂ) (rhoR_3_1 : ℂ) (rhoR_4_0 : ℂ) (rhoR_4_1 : ℂ) (ff_0 : ℂ) (ff_1 : ℂ) (ff0_1_0 : ℂ) (ff0_1_1 : ℂ) (ff0_2_0 : ℂ) (ff0_2_1 : ℂ) (ff0_3_0 : ℂ) (ff0_3_1 : ℂ) (ff0_4_0 : ℂ) (ff0_4_1 : ℂ)

theorem relK24_symm : K01 = K10 := rfl

theorem relK24_real (hGamma_1_0 : 0 ≤ Gamma_1_0) (hGamma_1_1 : 0 ≤ Gamma_1_1) (hGamma_2_0 : 0 ≤ Gamma_2_0) (hGamma_2_1 : 0 ≤ Gamma_2_1) (hGamma_3_0 : 0 ≤ Gamma_3_0) (hGamma_3_1 : 0 ≤ Gamma_3_1) (hGamma_4_0 : 0 ≤ Gamma_4_0) (hGamma_4_1 : 0 ≤ Gamma_4_1) (hrho0 : 0 < rho0) (hrho1 : 0 < rho1) (hrhoR_1_0 : 0 < rhoR_1_0) (hrhoR_1_1 : 0 < rhoR_1_1) (hrhoR_2_0 : 0 < rhoR_2_0) (hrhoR_2_1 : 0 < rhoR_2_1) (hrhoR_3_0 : 0 < rhoR_3_0) (hrhoR_3_1 : 0 < rhoR_3_1) (hrhoR_4_0 : 0 < rhoR_4_0) (hrhoR_4_1 : 0 < rhoR_4_1) :
    IsRe K00 ∧ IsRe K01 ∧ IsRe K10 ∧ IsRe K11 := by
  have h01 : IsRe K01 :=
    (((isRe_relOff hGamma_1_0 hrho0 hrhoR_1_0 hGamma_1_1 hrho1 hrhoR_1_1).add
      (isRe_relOff hGamma_2_0 hrho0 hrhoR_2_0 hGamma_2_1 hrho1 hrhoR_2_1)).add
      (isRe_relOff hGamma_3_0 hrho0 hrhoR_3_0 hGamma_3_1 hrho1 hrhoR_3_1)).add
      (isRe_relOff hGamma_4_0 hrho0 hrhoR_4_0 hGamma_4_1 hrho1 hrhoR_4_1)
  exact ⟨((isRe_relDiag.add isRe_relDiag).add isRe_relDiag).add isRe_relDiag, h01, h01, ((isRe_relDiag.add isRe_relDiag).add isRe_relDiag).add isRe_relDiag⟩

end REL24

section
variable (s m_1 m_2 Gamma_1_0 Gamma_1_1 Gamma_2_0 Gamma_2_1 gamma_1_0 gamma_1_1 gamma_2_0 gamma_2_1 : ℝ)

/-- residue functions `g_R,i = γ_R,i √(m_R Γ_R,i)` of the non-relativistic parametrisation -/
noncomputable def nrG22 : Fin 2 → Fin 2 → ℝ :=
  ![![gamma_1_0 * Real.sqrt (m_1 * Gamma_1_0), gamma_1_1 * Real.sqrt (m_1 * Gamma_1_1)],
    ![gamma_2_0 * Real.sqrt (m_2 * Gamma_2_0), gamma_2_1 * Real.sqrt (m_2 * Gamma_2_1)]]

theorem nrK22_eq_poleK (hm1 : 0 ≤ m_1) (hm2 : 0 ≤ m_2)
    (h10 : 0 ≤ Gamma_1_0) (h11 : 0 ≤ Gamma_1_1) (h20 : 0 ≤ Gamma_2_0) (h21 : 0 ≤ Gamma_2_1) :
    !![nrK22_00 s m_1 m_2 Gamma_1_0 Gamma_1_1 Gamma_2_0 Gamma_2_1 gamma_1_0 gamma_1_1 gamma_2_0 gamma_2_1,
       nrK22_01 s m_1 m_2 Gamma_1_0 Gamma_1_1 Gamma_2_0 Gamma_2_1 gamma_1_0 gamma_1_1 gamma_2_0 gamma_2_1;
       nrK22_10 s m_1 m_2 Gamma_1_0 Gamma_1_1 Gamma_2_0 Gamma_2_1 gamma_1_0 gamma_1_1 gamma_2_0 gamma_2_1,
       nrK22_11 s m_1 m_2 Gamma_1_0 Gamma_1_1 Gamma_2_0 Gamma_2_1 gamma_1_0 gamma_1_1 gamma_2_0 gamma_2_1]
      = poleKMatrix (Finset.univ : Finset (Fin 2))
          (nrG22 m_1 m_2 Gamma_1_0 Gamma_1_1 Gamma_2_0 Gamma_2_1 gamma_1_0 gamma_1_1 gamma_2_0 gamma_2_1)
          ![m_1, m_2] s :=
  eq_poleKMatrix_two_symm (two_pole_entry (nrDiag_eq hm1 h10) (nrDiag_eq hm2 h20))
    (two_pole_entry (nrOff_eq hm1 h10 h11) (nrOff_eq hm2 h20 h21))
    (two_pole_entry (nrDiag_eq hm1 h11) (nrDiag_eq hm2 h21))
end

section RelPole
variable (s m_1 m_2 Gamma_1_0 Gamma_1_1 Gamma_2_0 Gamma_2_1 gamma_1_0 gamma_1_1 gamma_2_0 gamma_2_1 rho0 rho1 rhoR_1_0 rhoR_1_1 rhoR_2_0 rhoR_2_1 ff_0 ff_1 ff0_1_0 ff0_1_1 ff0_2_0 ff0_2_1 : ℝ)

/-- The energy-dependent width `Γ(s) = Γ₀ (ff/ff₀)² ρ(s)/ρ(m_R²)` in the shape the source's
`EnergyDependentWidth.evaluate()` produces. -/
noncomputable def edw (Γ ff ff0 ρ ρR : ℝ) : ℝ := ff ^ 2 * (ff0 ^ 2)⁻¹ * ρR⁻¹ * Γ * ρ

/-- residue functions `g_R,i(s) = γ_R,i √(m_R Γ_R,i(s))` of the relativistic parametrisation -/
noncomputable def relG22 : Fin 2 → Fin 2 → ℝ :=
  ![![gamma_1_0 * Real.sqrt (m_1 * edw Gamma_1_0 ff_0 ff0_1_0 rho0 rhoR_1_0),
      gamma_1_1 * Real.sqrt (m_1 * edw Gamma_1_1 ff_1 ff0_1_1 rho1 rhoR_1_1)],
    ![gamma_2_0 * Real.sqrt (m_2 * edw Gamma_2_0 ff_0 ff0_2_0 rho0 rhoR_2_0),
      gamma_2_1 * Real.sqrt (m_2 * edw Gamma_2_1 ff_1 ff0_2_1 rho1 rhoR_2_1)]]

theorem relK22_eq_poleK (hm1 : 0 ≤ m_1) (hm2 : 0 ≤ m_2)
    (h10 : 0 ≤ Gamma_1_0) (h11 : 0 ≤ Gamma_1_1) (h20 : 0 ≤ Gamma_2_0) (h21 : 0 ≤ Gamma_2_1)
    (hr0 : 0 < rho0) (hr1 : 0 < rho1) (hR10 : 0 < rhoR_1_0) (hR11 : 0 < rhoR_1_1)
    (hR20 : 0 < rhoR_2_0) (hR21 : 0 < rhoR_2_1) :
    !![relK22_00 s m_1 m_2 Gamma_1_0 Gamma_1_1 Gamma_2_0 Gamma_2_1 gamma_1_0 gamma_1_1 gamma_2_0 gamma_2_1 rho0 rho1 rhoR_1_0 rhoR_1_1 rhoR_2_0 rhoR_2_1 ff_0 ff_1 ff0_1_0 ff0_1_1 ff0_2_0 ff0_2_1,
       relK22_01 s m_1 m_2 Gamma_1_0 Gamma_1_1 Gamma_2_0 Gamma_2_1 gamma_1_0 gamma_1_1 gamma_2_0 gamma_2_1 rho0 rho1 rhoR_1_0 rhoR_1_1 rhoR_2_0 rhoR_2_1 ff_0 ff_1 ff0_1_0 ff0_1_1 ff0_2_0 ff0_2_1;
       relK22_10 s m_1 m_2 Gamma_1_0 Gamma_1_1 Gamma_2_0 Gamma_2_1 gamma_1_0 gamma_1_1 gamma_2_0 gamma_2_1 rho0 rho1 rhoR_1_0 rhoR_1_1 rhoR_2_0 rhoR_2_1 ff_0 ff_1 ff0_1_0 ff0_1_1 ff0_2_0 ff0_2_1,
       relK22_11 s m_1 m_2 Gamma_1_0 Gamma_1_1 Gamma_2_0 Gamma_2_1 gamma_1_0 gamma_1_1 gamma_2_0 gamma_2_1 rho0 rho1 rhoR_1_0 rhoR_1_1 rhoR_2_0 rhoR_2_1 ff_0 ff_1 ff0_1_0 ff0_1_1 ff0_2_0 ff0_2_1]
      = poleKMatrix (Finset.univ : Finset (Fin 2))
          (relG22 m_1 m_2 Gamma_1_0 Gamma_1_1 Gamma_2_0 Gamma_2_1 gamma_1_0 gamma_1_1 gamma_2_0 gamma_2_1 rho0 rho1 rhoR_1_0 rhoR_1_1 rhoR_2_0 rhoR_2_1 ff_0 ff_1 ff0_1_0 ff0_1_1 ff0_2_0 ff0_2_1)
          ![m_1, m_2] s :=
  eq_poleKMatrix_two_symm
    (two_pole_entry (relDiag_eq hm1 h10 hr0 hR10) (relDiag_eq hm2 h20 hr0 hR20))
    (two_pole_entry (relOff_eq hm1 h10 hr0 hR10 h11 hr1 hR11)
      (relOff_eq hm2 h20 hr0 hR20 h21 hr1 hR21))
    (two_pole_entry (relDiag_eq hm1 h11 hr1 hR11) (relDiag_eq hm2 h21 hr1 hR21))

/-- Hence the all-n / all-poles relativistic theorem applies to the source's own parametrisation:
with `K̂` the regenerated `RelativisticKMatrix.parametrization` (2 channels, 2 poles) and any positive
diagonal `ρ`, `√ρ K̂ (1 − iρK̂)⁻¹ √ρ` is unitary and symmetric. -/
theorem relK22_all_poles_unitary_symmetric (hm1 : 0 ≤ m_1) (hm2 : 0 ≤ m_2)
    (h10 : 0 ≤ Gamma_1_0) (h11 : 0 ≤ Gamma_1_1) (h20 : 0 ≤ Gamma_2_0) (h21 : 0 ≤ Gamma_2_1)
    (hr0 : 0 < rho0) (hr1 : 0 < rho1) (hR10 : 0 < rhoR_1_0) (hR11 : 0 < rhoR_1_1)
    (hR20 : 0 < rhoR_2_0) (hR21 : 0 < rhoR_2_1) (r : Fin 2 → ℝ) (hr : ∀ i, 0 < r i) :
    (1 + (2 * Complex.I) • Trel r !![relK22_00 s m_1 m_2 Gamma_1_0 Gamma_1_1 Gamma_2_0 Gamma_2_1 gamma_1_0 gamma_1_1 gamma_2_0 gamma_2_1 rho0 rho1 rhoR_1_0 rhoR_1_1 rhoR_2_0 rhoR_2_1 ff_0 ff_1 ff0_1_0 ff0_1_1 ff0_2_0 ff0_2_1,
        relK22_01 s m_1 m_2 Gamma_1_0 Gamma_1_1 Gamma_2_0 Gamma_2_1 gamma_1_0 gamma_1_1 gamma_2_0 gamma_2_1 rho0 rho1 rhoR_1_0 rhoR_1_1 rhoR_2_0 rhoR_2_1 ff_0 ff_1 ff0_1_0 ff0_1_1 ff0_2_0 ff0_2_1;
        relK22_10 s m_1 m_2 Gamma_1_0 Gamma_1_1 Gamma_2_0 Gamma_2_1 gamma_1_0 gamma_1_1 gamma_2_0 gamma_2_1 rho0 rho1 rhoR_1_0 rhoR_1_1 rhoR_2_0 rhoR_2_1 ff_0 ff_1 ff0_1_0 ff0_1_1 ff0_2_0 ff0_2_1,
        relK22_11 s m_1 m_2 Gamma_1_0 Gamma_1_1 Gamma_2_0 Gamma_2_1 gamma_1_0 gamma_1_1 gamma_2_0 gamma_2_1 rho0 rho1 rhoR_1_0 rhoR_1_1 rhoR_2_0 rhoR_2_1 ff_0 ff_1 ff0_1_0 ff0_1_1 ff0_2_0 ff0_2_1])ᴴ
      * (1 + (2 * Complex.I) • Trel r !![relK22_00 s m_1 m_2 Gamma_1_0 Gamma_1_1 Gamma_2_0 Gamma_2_1 gamma_1_0 gamma_1_1 gamma_2_0 gamma_2_1 rho0 rho1 rhoR_1_0 rhoR_1_1 rhoR_2_0 rhoR_2_1 ff_0 ff_1 ff0_1_0 ff0_1_1 ff0_2_0 ff0_2_1,
        relK22_01 s m_1 m_2 Gamma_1_0 Gamma_1_1 Gamma_2_0 Gamma_2_1 gamma_1_0 gamma_1_1 gamma_2_0 gamma_2_1 rho0 rho1 rhoR_1_0 rhoR_1_1 rhoR_2_0 rhoR_2_1 ff_0 ff_1 ff0_1_0 ff0_1_1 ff0_2_0 ff0_2_1;
        relK22_10 s m_1 m_2 Gamma_1_0 Gamma_1_1 Gamma_2_0 Gamma_2_1 gamma_1_0 gamma_1_1 gamma_2_0 gamma_2_1 rho0 rho1 rhoR_1_0 rhoR_1_1 rhoR_2_0 rhoR_2_1 ff_0 ff_1 ff0_1_0 ff0_1_1 ff0_2_0 ff0_2_1,
        relK22_11 s m_1 m_2 Gamma_1_0 Gamma_1_1 Gamma_2_0 Gamma_2_1 gamma_1_0 gamma_1_1 gamma_2_0 gamma_2_1 rho0 rho1 rhoR_1_0 rhoR_1_1 rhoR_2_0 rhoR_2_1 ff_0 ff_1 ff0_1_0 ff0_1_1 ff0_2_0 ff0_2_1]) = 1
    ∧ (Trel r !![relK22_00 s m_1 m_2 Gamma_1_0 Gamma_1_1 Gamma_2_0 Gamma_2_1 gamma_1_0 gamma_1_1 gamma_2_0 gamma_2_1 rho0 rho1 rhoR_1_0 rhoR_1_1 rhoR_2_0 rhoR_2_1 ff_0 ff_1 ff0_1_0 ff0_1_1 ff0_2_0 ff0_2_1,
        relK22_01 s m_1 m_2 Gamma_1_0 Gamma_1_1 Gamma_2_0 Gamma_2_1 gamma_1_0 gamma_1_1 gamma_2_0 gamma_2_1 rho0 rho1 rhoR_1_0 rhoR_1_1 rhoR_2_0 rhoR_2_1 ff_0 ff_1 ff0_1_0 ff0_1_1 ff0_2_0 ff0_2_1;
        relK22_10 s m_1 m_2 Gamma_1_0 Gamma_1_1 Gamma_2_0 Gamma_2_1 gamma_1_0 gamma_1_1 gamma_2_0 gamma_2_1 rho0 rho1 rhoR_1_0 rhoR_1_1 rhoR_2_0 rhoR_2_1 ff_0 ff_1 ff0_1_0 ff0_1_1 ff0_2_0 ff0_2_1,
        relK22_11 s m_1 m_2 Gamma_1_0 Gamma_1_1 Gamma_2_0 Gamma_2_1 gamma_1_0 gamma_1_1 gamma_2_0 gamma_2_1 rho0 rho1 rhoR_1_0 rhoR_1_1 rhoR_2_0 rhoR_2_1 ff_0 ff_1 ff0_1_0 ff0_1_1 ff0_2_0 ff0_2_1])ᵀ
      = Trel r !![relK22_00 s m_1 m_2 Gamma_1_0 Gamma_1_1 Gamma_2_0 Gamma_2_1 gamma_1_0 gamma_1_1 gamma_2_0 gamma_2_1 rho0 rho1 rhoR_1_0 rhoR_1_1 rhoR_2_0 rhoR_2_1 ff_0 ff_1 ff0_1_0 ff0_1_1 ff0_2_0 ff0_2_1,
        relK22_01 s m_1 m_2 Gamma_1_0 Gamma_1_1 Gamma_2_0 Gamma_2_1 gamma_1_0 gamma_1_1 gamma_2_0 gamma_2_1 rho0 rho1 rhoR_1_0 rhoR_1_1 rhoR_2_0 rhoR_2_1 ff_0 ff_1 ff0_1_0 ff0_1_1 ff0_2_0 ff0_2_1;
        relK22_10 s m_1 m_2 Gamma_1_0 Gamma_1_1 Gamma_2_0 Gamma_2_1 gamma_1_0 gamma_1_1 gamma_2_0 gamma_2_1 rho0 rho1 rhoR_1_0 rhoR_1_1 rhoR_2_0 rhoR_2_1 ff_0 ff_1 ff0_1_0 ff0_1_1 ff0_2_0 ff0_2_1,
        relK22_11 s m_1 m_2 Gamma_1_0 Gamma_1_1 Gamma_2_0 Gamma_2_1 gamma_1_0 gamma_1_1 gamma_2_0 gamma_2_1 rho0 rho1 rhoR_1_0 rhoR_1_1 rhoR_2_0 rhoR_2_1 ff_0 ff_1 ff0_1_0 ff0_1_1 ff0_2_0 ff0_2_1] := by
  rw [relK22_eq_poleK s m_1 m_2 Gamma_1_0 Gamma_1_1 Gamma_2_0 Gamma_2_1 gamma_1_0 gamma_1_1 gamma_2_0
    gamma_2_1 rho0 rho1 rhoR_1_0 rhoR_1_1 rhoR_2_0 rhoR_2_1 ff_0 ff_1 ff0_1_0 ff0_1_1 ff0_2_0 ff0_2_1
    hm1 hm2 h10 h11 h20 h21 hr0 hr1 hR10 hR11 hR20 hR21]
  exact rel_pole_unitary_symmetric_all_n_all_poles _ _ _ _ r hr

end RelPole

/-- **Witness for the known finding** (relativistic K-matrix, pole mass below the channel
threshold): when the phase-space factor at the pole mass `ρ(m_R²)` is imaginary — which is what
`PhaseSpaceFactor` returns for `m_R < m_a + m_b` — the regenerated one-channel, one-pole T-matrix
is NOT unitary although every parameter is real and `s` is above threshold and away from the pole.
Instance: `s = 4, m_R = Γ = γ = 1, ρ(s) = 1, ρ(m_R²) = i`, form factors 1: `S = 1/2`. -/
theorem relForm11_witness_subthreshold :
    ∃ (s m_1 Gamma_1_0 gamma_1_0 rho0 ff_0 ff0_1_0 : ℝ) (rhoR_1_0 : ℂ),
      0 ≤ s ∧ 0 ≤ m_1 ∧ 0 ≤ Gamma_1_0 ∧ 0 ≤ gamma_1_0 ∧ 0 < rho0 ∧ m_1 ^ 2 ≠ s ∧ rhoR_1_0.re = 0 ∧
      (1 + 2 * Complex.I * relForm11_00 s m_1 Gamma_1_0 gamma_1_0 rho0 rhoR_1_0 ff_0 ff0_1_0)
        * (starRingEnd ℂ) (1 + 2 * Complex.I * relForm11_00 s m_1 Gamma_1_0 gamma_1_0 rho0 rhoR_1_0 ff_0 ff0_1_0) ≠ 1 := by
  refine ⟨4, 1, 1, 1, 1, 1, 1, Complex.I, by norm_num, by norm_num, by norm_num, by norm_num, by norm_num, by norm_num, by simp, ?_⟩
  have hK : relK11_00 4 1 1 1 ((1 : ℝ) : ℂ) Complex.I ((1 : ℝ) : ℂ) ((1 : ℝ) : ℂ) = Complex.I / 3 := by
    simp only [relK11_00]
    push_cast
    rw [Complex.inv_I]
    norm_num
    ring
  have hT : relForm11_00 4 1 1 1 ((1 : ℝ) : ℂ) Complex.I ((1 : ℝ) : ℂ) ((1 : ℝ) : ℂ) = Complex.I / 4 := by
    simp only [relForm11_00, hK]
    push_cast
    rw [Complex.one_cpow]
    have h3 : Complex.I + 1 * (Complex.I / 3) = Complex.I * (4 / 3) := by ring
    rw [h3, mul_inv, Complex.inv_I]
    simp
    grind only [Complex.I_sq]
  rw [hT]
  have h2 : (1 : ℂ) + 2 * Complex.I * (Complex.I / 4) = ((1 / 2 : ℝ) : ℂ) := by
    push_cast; grind only [Complex.I_sq]
  rw [h2, Complex.conj_ofReal, ← Complex.ofReal_mul]
  norm_num

/-! The guard is about the CALLER's phase-space factor: `formulate` forwards it.

The `formulate` theorems above are conditional on `0 < ρ_i(s)` and `0 < ρ_i(m_R²)` where `ρ` (`rho{i}`,
`rhoR_{R}_{i}`) is ONE phase-space implementation: the one passed to `formulate`. That the ρ of
`√ρ K̂ (1 − iρK̂)⁻¹ √ρ` and the ρ inside every energy-dependent width are this same implementation
(and every form factor carries the passed angular momentum / radius) is a fact about the source; it is
regenerated as `occTable` (from `formulate(..., phsp_factor=PhaseSpaceFactorC09Marker,
angular_momentum=L, meson_radius=d)`, the same call that the `…Form…` definitions are translated
from) and decided by the kernel. With a factor that is real and positive below threshold
(`PhaseSpaceFactorAbs`) the guard holds for sub-threshold poles too, so those inputs must be unitary. -/

/-- An itemised occurrence carries the passed arguments; pole and channel were identified
(`tools/corr/C09_occ.py` writes `99` for a pole or channel it could not identify). -/
def itemOk (it : OccItem) : Bool :=
  it.pole != 99 && it.channel != 99 &&
  (if it.kind == "W" then
      it.phsp == "PhaseSpaceFactorC09Marker" && it.angMom == "L" && it.radius == "d"
   else if it.kind == "Wf" || it.kind == "F" then it.angMom == "L" && it.radius == "d"
   else (it.kind == "R" || it.kind == "Wr") && it.phsp == "PhaseSpaceFactorC09Marker")

def hasItem (o : Occ) (k : String) (R i : Nat) : Bool :=
  o.items.any fun it => it.kind == k && it.pole == R && it.channel == i

/-- Every channel has its phase-space node at `s` in the matrix expression; every pole × channel has
its energy-dependent width, and inside that width the phase-space nodes and form factors at `s` and
at `m_R²`. -/
def covers (o : Occ) : Bool :=
  (List.range o.nChannels).all fun i =>
    hasItem o "R" 0 i && hasItem o "Wr" 0 i && hasItem o "Wf" 0 i &&
      ((List.range o.nPoles).all fun r =>
        hasItem o "W" (r + 1) i && hasItem o "Wr" (r + 1) i && hasItem o "Wf" (r + 1) i)

/-- A row forwards the arguments: the relativistic class contains exactly the passed phase-space
implementation, angular momentum and radius — as sets and for every pole × channel, inside the
widths too; the non-relativistic class (which takes none of them) contains none. -/
def honours (o : Occ) : Bool :=
  if o.relativistic then
    (o.phsp == ["PhaseSpaceFactorC09Marker"] && o.angMom == ["L"] && o.radius == ["d"]
      && o.items.all itemOk && covers o)
  else (o.phsp == [] && o.angMom == [] && o.radius == [] && o.items.isEmpty)

/-- **The phase-space factor, angular momentum and meson radius passed to `formulate` are the only
ones that occur anywhere in the formulated T-matrix, the energy-dependent widths included** — both
K-matrix classes, n, n_R ∈ {1,2}, `return_t_hat` on/off. -/
theorem formulate_forwards_arguments : occTable.all honours = true := by decide

/-- The table is not empty: both classes, every (n, n_R) ∈ {1,2}², `return_t_hat` on and off. -/
theorem occTable_covers :
    occTable.length = 12 ∧
    (∀ c ∈ ["NonRelativisticKMatrix", "RelativisticKMatrix"], ∀ n ∈ [1, 2], ∀ p ∈ [1, 2],
      occTable.any (fun o => o.cls == c && o.nChannels == n && o.nPoles == p) = true) ∧
    (∀ h ∈ [true, false], occTable.any (fun o => o.relativistic && o.hat == h && o.nChannels == 2
      && o.nPoles == 2) = true) := by
  decide

/-- The denominators of the regenerated entries are non-zero e.g. at K = 0 (and, by
`nrT2M_unitary_symmetric` / `relT2M_unitary_symmetric`, at every real symmetric K). -/
example : nrT2_den1 0 0 0 0 ≠ 0 ∧ nrT2_den2 0 0 0 0 ≠ 0 := by
  simp [nrT2_den1, nrT2_den2]

example : relT2_den1 1 1 0 0 0 0 ≠ 0 := by simp [relT2_den1]

/-- The hypotheses of the relativistic `formulate` theorem (the guard included) are satisfiable. -/
example : ∃ T : Matrix (Fin 1) (Fin 1) ℂ, (1 + (2 * Complex.I) • T)ᴴ * (1 + (2 * Complex.I) • T) = 1 :=
  ⟨_, (relForm11_unitary_symmetric 4 1 1 1 1 1 1 1 zero_le_one zero_lt_one zero_lt_one).1⟩

end Ampverif.Props.C09
