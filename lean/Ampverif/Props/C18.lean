/-
C18 — PoolSum denotes the finite sum over its index pools.

Theorems about the hand-written executable model `Ampverif.Model` (M1), which follows
`ampform.sympy.PoolSum` line by line and is tied to the working tree by the correspondence run
of `tools/props/C18.py`.  `v.sound` = the source protects bound indices in `subs/xreplace`
(0f745db) and collects field values without recursion (1c47dce); the harness infers `v` from
the real code.  `eval I e ρ` is the value of `e` in ℚ for EVERY environment `ρ` and EVERY
interpretation `I` of uninterpreted function applications.

Pool VALUES are terms (numbers, symbols, sums, outer summation indices): they are arguments of the
pool sum, so `free_symbols`, `subs` and `xreplace` reach them, and the value of a pool sum is the
sum over the product of the pool values EVALUATED IN THE ENVIRONMENT (for a nested sum: in the
environment extended by the outer indices).  `wfSums e` (decidable; `Model/Expr.lean`) is the
standing hypothesis: every pool sum inside `e` has pairwise distinct index symbols, non-empty
pools, pool values without pool sums that mention neither an index of the same sum nor a symbol
bound inside its summand.  What it excludes is run on the real code and recorded.
-/
import Ampverif.Lemmas.C18Cleanup
import Ampverif.Lemmas.C18Commute
import Ampverif.Lemmas.C18Depth
import Ampverif.Lemmas.C18New

namespace Ampverif.Props.C18
open Ampverif.Model Ampverif.Lemmas.C18

/-! ### 1. evaluation = explicit sum over the cartesian product of the pools -/

/-- `PoolSum.evaluate()` (cartesian product, sequential `subs` of the pool values for the indices,
`Add`) has the value of the nested finite sum `Σ_{i₁∈⟦pool₁⟧ρ} … Σ_{iₙ∈⟦poolₙ⟧ρ} summand`, for every
summand (nested pool sums included, also ones whose pools mention `i₁…iₙ`), any number of
indices, pools with duplicates, singletons, symbols and compound terms. -/
theorem evaluate_denotes (I : Interp) (v : Variant) (hv : v.sound) (b : Expr) (ixs : List Binder)
    (hw : wfSums (.psum b ixs) = true) (ρ : Env) :
    eval I (evaluate v (.psum b ixs)) ρ
      = evalSum (evalBinders I ixs ρ) ρ (fun ρ' => eval I b ρ') := by
  obtain ⟨hnd, _, hnp, hown, hwb⟩ := wfSums_psum.mp hw
  simp only [evaluate, eval]
  rw [dictOf_nodup ixs hnd, evalList_eq_map, List.map_map]
  exact sum_evaluate_terms I v hv ixs b ρ hnd hnp hown hwb

/-- … which is the flat sum over `itertools.product(*pools)` — the pool VALUES evaluated in the
environment — of the summand evaluated with the indices bound to the combination. -/
theorem evaluate_is_sum_over_product (I : Interp) (v : Variant) (hv : v.sound) (b : Expr)
    (ixs : List Binder) (hw : wfSums (.psum b ixs) = true) (ρ : Env) :
    eval I (evaluate v (.psum b ixs)) ρ
      = ((assignments (evalBinders I ixs ρ)).map (fun c => eval I b (updAll ρ c))).sum := by
  rw [evaluate_denotes I v hv b ixs hw ρ, evalSum_flat]

/-- `evaluate` does not change the value of the pool sum. -/
theorem evaluate_preserves_value (I : Interp) (v : Variant) (hv : v.sound) (b : Expr)
    (ixs : List Binder) (hw : wfSums (.psum b ixs) = true) (ρ : Env) :
    eval I (evaluate v (.psum b ixs)) ρ = eval I (.psum b ixs) ρ := by
  rw [evaluate_denotes I v hv b ixs hw ρ]; simp [eval]

/-- `doit()` (deep: pool sums at any nesting depth, inside sums, products, powers and function
arguments; inner pools that mention outer indices) does not change the value, for every amount
of recursion fuel. -/
theorem doit_preserves_value (I : Interp) (v : Variant) (hv : v.sound) :
    ∀ (n : Nat) (e : Expr) (ρ : Env), wfSums e = true → eval I (doit v n e) ρ = eval I e ρ := by
  intro n
  induction n with
  | zero => intro e ρ _; rfl
  | succ n ih =>
    intro e ρ h
    exact eval_doitPass I v hv (doit v n) ih
      (fun b ixs ρ' hw => evaluate_preserves_value I v hv b ixs hw ρ') e ρ h

/-- a directly nested sum whose INNER pools mention the OUTER indices: `doit` has the value of
the iterated sum in which the inner pool values are evaluated with the outer indices bound. -/
theorem doit_nested_dependent_pools (I : Interp) (v : Variant) (hv : v.sound) (n : Nat) (g : Expr)
    (inner outer : List Binder) (hw : wfSums (.psum (.psum g inner) outer) = true) (ρ : Env) :
    eval I (doit v n (.psum (.psum g inner) outer)) ρ
      = evalSum (evalBinders I outer ρ) ρ
          (fun ρ' => evalSum (evalBinders I inner ρ') ρ' (fun ρ'' => eval I g ρ'')) := by
  rw [doit_preserves_value I v hv n _ ρ hw]
  simp only [eval]

/-- …and with fuel ≥ nesting depth the result is explicit: no pool sum is left anywhere. -/
theorem doit_leaves_no_pool_sum (v : Variant) (hv : v.sound) :
    ∀ (n : Nat) (e : Expr), wfSums e = true → psumDepth e ≤ n → noPsum (doit v n e) = true := by
  simp only [noPsum_iff_psumDepth_zero]
  intro n
  induction n with
  | zero => intro e _ h; simpa [doit] using h
  | succ n ih => intro e hw h; exact psumDepth_doitPass v hv (doit v n) n ih e hw h

/-! ### 2. free symbols -/

/-- `free_symbols` of a pool sum = free symbols of the summand AND of the pool values, minus the
indices (`super().free_symbols` is the union over all arguments). -/
theorem free_symbols (b : Expr) (ixs : List Binder) (s : Sym) :
    s ∈ free (.psum b ixs) ↔ (s ∈ free b ∨ s ∈ freeBinders ixs) ∧ s ∉ names ixs := by
  simp [free, List.mem_filter, or_and_right]

/-- …and that is semantically right: the value of any term depends on its free symbols only
(in particular never on the value an environment gives to a summation index, but it does depend
on a symbol that occurs only in a pool). -/
theorem value_depends_on_free_symbols_only (I : Interp) (e : Expr) (hw : wfSums e = true) (ρ ρ' : Env)
    (h : ∀ s ∈ free e, ρ s = ρ' s) : eval I e ρ = eval I e ρ' :=
  eval_agree I e ρ ρ' hw h

/-! ### 3. cleanup -/

/-- What `cleanup()` really does to the value: it divides by the product of the pool sizes of the
indices that do not occur in the summand (those are dropped without compensation). -/
theorem cleanup_value (I : Interp) (v : Variant) (hv : v.sound) (b : Expr) (ixs : List Binder)
    (hw : wfSums (.psum b ixs) = true) (ρ : Env) :
    eval I (.psum b ixs) ρ
      = (cleanupMultiplicity (.psum b ixs) : Q) * eval I (cleanup v (.psum b ixs)) ρ := by
  obtain ⟨hnd, hne, hnp, hown, hwb⟩ := wfSums_psum.mp hw
  have key := evalSum_cleanup (free b) (fun ρ' => eval I b ρ')
    (fun ρ1 ρ2 h => eval_agree I b ρ1 ρ2 hwb h) (evalBinders I ixs ρ) ρ
    (by rw [names_evalBinders]; exact hnd)
    (by rw [evalBinders_eq_map]; exact nonempty_map_pools _ hne)
  simp only [eval, cleanupMultiplicity, cleanup]
  rw [key, cleanupMult_evalBinders, cleanupKept_evalBinders, cleanupSingles_evalBinders, evalPairs_reverse]
  congr 1
  -- the inserted values are pool values: pool-sum-free, no index of this sum, nothing bound in `b`
  have hσ : ∀ p ∈ (cleanupSingles (free b) ixs).reverse,
      wfSums p.2 = true ∧ ∀ s ∈ syms p.2, s ∉ names ixs ∧ s ∉ bound b := by
    intro p hp
    have := cleanupSingles_vals (free b) ixs hnp p (List.mem_reverse.mp hp)
    exact ⟨wfSums_of_noPsum this.1, fun s hs => hown s (this.2 s hs)⟩
  have hx := fun ρ' => eval_xreplace I v hv b _ ρ' hwb
    fun p hp => ⟨(hσ p hp).1, fun s hs => ((hσ p hp).2 s hs).2⟩
  by_cases hk : (cleanupKept (free b) ixs).isEmpty = true
  · have : cleanupKept (free b) ixs = [] := by simpa using hk
    simp only [this, List.isEmpty_nil, if_true, evalSum, evalBinders, hx]
  · simp only [hk]
    apply evalSum_congr_agree
    intro ρ' hρ'
    rw [hx, evalPairs_congr I _ ρ ρ']
    intro p hp
    apply eval_agree I p.2 ρ' ρ (hσ p hp).1
    intro s hs
    apply hρ' s
    rw [names_evalBinders]
    exact not_mem_names_kept (free b) ixs s ((hσ p hp).2 s (mem_syms_of_mem_free hs)).1

/-- `cleanup()` never changes the value PROVIDED every index that does not occur in the summand
has exactly one value. (Without the proviso the clause fails on the real code:
`cleanup_changes_value_witness`, known finding.) -/
theorem cleanup_preserves_value (I : Interp) (v : Variant) (hv : v.sound) (b : Expr)
    (ixs : List Binder) (hw : wfSums (.psum b ixs) = true)
    (hunused : ∀ p ∈ ixs, p.1 ∉ free b → p.2.length = 1) (ρ : Env) :
    eval I (cleanup v (.psum b ixs)) ρ = eval I (.psum b ixs) ρ := by
  rw [cleanup_value I v hv b ixs hw ρ]
  simp [cleanupMultiplicity, cleanupMult_eq_one (free b) ixs hunused]

/-! ### 4. substitution laws -/

/-- Substituting a symbol that is not an index by a term that mentions no index commutes with
evaluation — as an equality of terms, hence of values — ALSO when the symbol occurs in a pool
(or only in a pool): `subs` rewrites the pool values, `evaluate` inserts the rewritten values. -/
theorem subs_free_commutes_with_evaluate (v : Variant) (hv : v.sound) (x : Sym) (a b : Expr)
    (ixs : List Binder) (hw : wfSums (.psum b ixs) = true) (hx : x ∉ names ixs)
    (ha : ∀ i ∈ names ixs, i ∉ syms a) :
    evaluate v (subst1 v x a (.psum b ixs)) = subst1 v x a (evaluate v (.psum b ixs)) := by
  obtain ⟨hnd, _, hnp, hown, _⟩ := wfSums_psum.mp hw
  rw [subst1_psum_not_mem hv hx]
  simp only [evaluate, subst1]
  rw [dictOf_nodup ixs hnd, dictOf_nodup _ (by rw [names_subst1Binders]; exact hnd),
    assignments_subst1Binders, List.map_map, subst1List_eq_map, List.map_map]
  congr 1
  apply List.map_congr_left
  intro c hc
  simp only [Function.comp]
  apply substSeq_comm v hv x a c b
  intro p hp
  have hm := assignments_keys ixs c hc p hp
  have hv' := assignments_vals ixs hnp c hc p hp
  exact ⟨fun h => hx (h ▸ hm), ha _ hm, hv'.1, fun hxb hxs => (hown x (hv'.2 x hxs)).2 hxb⟩

/-- `subs(x, a)` is the update `x ↦ ⟦a⟧ρ` of the environment, for every term — nested pool sums,
`x` in summands, in pools, in both or nowhere — provided `a` mentions no bound symbol. -/
theorem subs_is_environment_update (I : Interp) (v : Variant) (hv : v.sound) (x : Sym) (a e : Expr)
    (ha : wfSums a = true) (hw : wfSums e = true) (hc : ∀ s ∈ syms a, s ∉ bound e) (ρ : Env) :
    eval I (subst1 v x a e) ρ = eval I e (upd ρ x (eval I a ρ)) :=
  eval_subst1 I v hv x a ha e ρ hw hc

/-- …hence substituting and then unfolding has the value of unfolding in the updated environment
(= unfolding and then substituting), whatever the fuel. -/
theorem subs_commutes_with_doit_value (I : Interp) (v : Variant) (hv : v.sound) (x : Sym) (a e : Expr)
    (ha : noPsum a = true) (hw : wfSums e = true) (hc : ∀ s ∈ syms a, s ∉ bound e) (n : Nat) (ρ : Env) :
    eval I (doit v n (subst1 v x a e)) ρ = eval I (doit v n e) (upd ρ x (eval I a ρ)) := by
  rw [doit_preserves_value I v hv n _ ρ (wfSums_subst1 v hv x a ha e hw hc),
    doit_preserves_value I v hv n e _ hw]
  exact eval_subst1 I v hv x a (wfSums_of_noPsum ha) e ρ hw hc

/-- `xreplace(σ)` is the simultaneous update of the environment (pools included). -/
theorem xreplace_is_simultaneous_update (I : Interp) (v : Variant) (hv : v.sound) (e : Expr)
    (σ : List (Sym × Expr)) (hw : wfSums e = true)
    (hσ : ∀ p ∈ σ, wfSums p.2 = true ∧ ∀ s ∈ syms p.2, s ∉ bound e) (ρ : Env) :
    eval I (xreplace v e σ) ρ = eval I e (qEnv (evalPairs I σ ρ) ρ) :=
  eval_xreplace I v hv e σ ρ hw hσ

/-- A substitution for a summation index leaves the sum unchanged (`subs`). -/
theorem subs_index_is_identity (v : Variant) (hv : v.sound) (x : Sym) (a b : Expr)
    (ixs : List Binder) (hx : x ∈ names ixs) : subst1 v x a (.psum b ixs) = .psum b ixs :=
  subst1_psum_mem hv hx

/-- A replacement map whose keys are all summation indices leaves the sum unchanged (`xreplace`). -/
theorem xreplace_index_is_identity (v : Variant) (hv : v.sound) (σ : List (Sym × Expr)) (b : Expr)
    (ixs : List Binder) (hσ : ∀ p ∈ σ, p.1 ∈ names ixs) : xreplace v (.psum b ixs) σ = .psum b ixs := by
  have : σ.filter (fun p => !(names ixs).contains p.1) = [] :=
    List.filter_eq_nil_iff.mpr fun p hp => by simpa using hσ p hp
  rw [xreplace_psum hv, this, xreplace_nil v hv, xreplaceBinders_eq_map,
    map_pools_eq_self fun _ _ e _ => xreplace_nil v hv e]

/-! ### 5. the constructor `PoolSum.__new__` (`Model/ExprNew.lean`)

`Pool` = what iterating the Python object handed over as a value pool yields + whether the object is
a one-shot iterator (generator, `map`/`filter`/`zip` object, `iter(…)`) or re-iterable (list, tuple,
range, set, dict view, `sympy.Tuple`).  `nv.sound`: the constructor iterates each pool once and drops
nothing (the current source; the harness infers `nv` by probes and compares construction from every
input kind with `psumNew`). -/

/-- The constructor stores the summand and, for every index, exactly the values the pool object
yields — same order, same multiplicity (duplicates included) — for EVERY kind of iterable. -/
theorem new_stores_given_values (v : Variant) (nv : NewVariant) (hn : nv.sound) (b : Expr)
    (ixs : List (Sym × Pool)) (h : ∀ p ∈ ixs, p.2.items ≠ []) :
    psumNew v nv b ixs false = .ok (.psum b (ixs.map (fun p => (p.1, p.2.items)))) := by
  rw [psumNew_sound v nv hn, convertIndices_ok nv hn.2 ixs h]; simp

/-- `PoolSum(…, evaluate=True)` built from any kinds of iterables has the value of the explicit
nested sum over the values the pools yield. -/
theorem new_evaluate_denotes (I : Interp) (v : Variant) (hv : v.sound) (nv : NewVariant) (hn : nv.sound)
    (b : Expr) (ixs : List (Sym × Pool))
    (hw : wfSums (.psum b (ixs.map (fun p => (p.1, p.2.items)))) = true) (ρ : Env) :
    ∃ e, psumNew v nv b ixs true = .ok e ∧
      eval I e ρ = evalSum (evalBinders I (ixs.map (fun p => (p.1, p.2.items))) ρ) ρ (fun ρ' => eval I b ρ') := by
  have hne : ∀ p ∈ ixs, p.2.items ≠ [] := fun p hp =>
    (wfSums_psum.mp hw).2.1 (p.1, p.2.items) (List.mem_map.mpr ⟨p, hp, rfl⟩)
  refine ⟨evaluate v (.psum b (ixs.map (fun p => (p.1, p.2.items)))), ?_, evaluate_denotes I v hv b _ hw ρ⟩
  rw [psumNew_sound v nv hn, convertIndices_ok nv hn.2 ixs hne]; simp

/-- An index whose pool yields nothing (an empty list, an exhausted iterator) is rejected
(`ValueError`): no `PoolSum` with an empty pool is ever constructed. -/
theorem new_rejects_empty_pool (v : Variant) (nv : NewVariant) (hn : nv.sound) (b : Expr)
    (ixs : List (Sym × Pool)) (ev : Bool) (h : ∃ p ∈ ixs, p.2.items = []) :
    ∃ j ∈ names ixs, psumNew v nv b ixs ev = .noValues j := by
  obtain ⟨j, hj, hm⟩ := convertIndices_error nv hn.2 ixs h
  exact ⟨j, hm, by rw [psumNew_sound v nv hn, hj]⟩

/-- `expr.func(*expr.args)` is the identity on pool sums. -/
theorem rebuild_is_identity (v : Variant) (nv : NewVariant) (hn : nv.sound) (b : Expr) (ixs : List Binder)
    (h : poolsNonempty ixs = true) : psumRebuild v nv (.psum b ixs) = .ok (.psum b ixs) := by
  simp only [psumRebuild]
  rw [psumNew_sound v nv hn, convertIndices_argPools nv hn.2 ixs h]; simp

/-- `subs` rebuilds the pool sum through `__new__`; the result is the `subst1` of the term model:
in particular every pool keeps its length, ALSO when the substitution makes pool entries equal. -/
theorem subs_through_constructor (v : Variant) (hv : v.sound) (nv : NewVariant) (hn : nv.sound)
    (x : Sym) (a b : Expr) (ixs : List Binder) (h : poolsNonempty ixs = true) :
    subst1ViaNew v nv x a (.psum b ixs) = .ok (subst1 v x a (.psum b ixs)) := by
  by_cases hx : x ∈ names ixs
  · rw [subst1_psum_mem hv hx]
    simp [subst1ViaNew, hx]
  · rw [subst1_psum_not_mem hv hx]
    have hc : (names ixs).contains x = false := by simpa using hx
    simp only [subst1ViaNew, hc]
    rw [psumNew_sound v nv hn, convertIndices_argPools nv hn.2 _
      (poolsNonempty_of_sizes (subst1Binders_sizes v x a ixs) h)]
    simp

/-- the same for `xreplace`. -/
theorem xreplace_through_constructor (v : Variant) (hv : v.sound) (nv : NewVariant) (hn : nv.sound)
    (σ : List (Sym × Expr)) (b : Expr) (ixs : List Binder) (h : poolsNonempty ixs = true) :
    xreplaceViaNew v nv σ (.psum b ixs) = .ok (xreplace v (.psum b ixs) σ) := by
  simp only [xreplaceViaNew, xreplace_psum hv]
  rw [psumNew_sound v nv hn, convertIndices_argPools nv hn.2 _
    (poolsNonempty_of_sizes (xreplaceBinders_sizes v _ ixs) h)]
  simp

/-- multiplicity: a substitution never changes the number of values of a pool. -/
theorem subs_keeps_pool_sizes (v : Variant) (x : Sym) (a : Expr) (σ : List (Sym × Expr)) (ixs : List Binder) :
    (subst1Binders v x a ixs).map (fun p => p.2.length) = ixs.map (fun p => p.2.length) ∧
    (xreplaceBinders v ixs σ).map (fun p => p.2.length) = ixs.map (fun p => p.2.length) :=
  ⟨subst1Binders_sizes v x a ixs, xreplaceBinders_sizes v σ ixs⟩

/-- `subs` through the constructor, then `doit` = `doit`, then the substitution (as values) — for
every pool, in particular when `x ↦ a` makes two pool entries equal: both are summed. -/
theorem subs_through_constructor_then_doit (I : Interp) (v : Variant) (hv : v.sound) (nv : NewVariant)
    (hn : nv.sound) (x : Sym) (a b : Expr) (ixs : List Binder) (ha : noPsum a = true)
    (hw : wfSums (.psum b ixs) = true) (hc : ∀ s ∈ syms a, s ∉ bound (.psum b ixs)) (n : Nat) (ρ : Env) :
    ∃ e', subst1ViaNew v nv x a (.psum b ixs) = .ok e' ∧
      eval I (doit v n e') ρ = eval I (doit v n (.psum b ixs)) (upd ρ x (eval I a ρ)) :=
  ⟨_, subs_through_constructor v hv nv hn x a b ixs (poolsNonempty_of_wfSums hw),
    subs_commutes_with_doit_value I v hv x a _ ha hw hc n ρ⟩

/-- … and for `xreplace` (simultaneous; e.g. `{a: 2, b: 2}` on the pool `(a, b)`). -/
theorem xreplace_through_constructor_value (I : Interp) (v : Variant) (hv : v.sound) (nv : NewVariant)
    (hn : nv.sound) (σ : List (Sym × Expr)) (b : Expr) (ixs : List Binder)
    (hw : wfSums (.psum b ixs) = true)
    (hσ : ∀ p ∈ σ, wfSums p.2 = true ∧ ∀ s ∈ syms p.2, s ∉ bound (.psum b ixs)) (ρ : Env) :
    ∃ e', xreplaceViaNew v nv σ (.psum b ixs) = .ok e' ∧
      eval I e' ρ = eval I (.psum b ixs) (qEnv (evalPairs I σ ρ) ρ) :=
  ⟨_, xreplace_through_constructor v hv nv hn σ b ixs (poolsNonempty_of_wfSums hw),
    xreplace_is_simultaneous_update I v hv _ σ hw hσ ρ⟩

/-! ### 6. witnesses: what the hypotheses exclude really fails -/

def wi : Sym := ⟨"i", []⟩
def wj : Sym := ⟨"j", []⟩
def wk : Sym := ⟨"k", []⟩
def wx : Sym := ⟨"x", []⟩
def wn : Sym := ⟨"n", []⟩
/-- `PoolSum(f(i, j), (i, (1, 2)))` -/
def wBound : Expr := .psum (.app "f:f" [.sym wi, .sym wj]) [(wi, [.rat 1, .rat 2])]
/-- the pinned tree before 0f745db: bound indices are rewritten -/
def vUnprotected : Variant := ⟨false, false⟩
def wI : Interp := fun _ args => args.sum + 1

/-- unsound variant `poolSumProtectsBound = false`: `PoolSum(f(i,j),(i,(1,2))).subs(i,5)` is not
the original sum, and its value differs. -/
theorem witness_bound :
    Expr.beq (subst1 vUnprotected wi (.rat 5) wBound) wBound = false ∧
    eval wI (subst1 vUnprotected wi (.rat 5) wBound) (fun _ => 0) ≠ eval wI wBound (fun _ => 0) := by
  decide +kernel

/-- the sound variant on the same input: identity. -/
example : Expr.beq (subst1 Variant.current wi (.rat 5) wBound) wBound = true := by decide +kernel

/-- `PoolSum(x, (i, (0, 1, 2)))`: `doit` gives `3x`, `cleanup` gives `x` (known finding). -/
theorem cleanup_changes_value_witness :
    eval wI (cleanup Variant.current (.psum (.sym wx) [(wi, [.rat 0, .rat 1, .rat 2])])) (fun _ => 1)
      ≠ eval wI (.psum (.sym wx) [(wi, [.rat 0, .rat 1, .rat 2])]) (fun _ => 1) := by
  decide +kernel

/-- a repeated index symbol (excluded by `Nodup`): `dict(self.indices)` keeps the last pool, so
`PoolSum(f(i),(i,(1,2)),(i,(3,4)))` evaluates to `f(3)+f(4)`, not to the nested sum. -/
theorem repeated_index_witness :
    eval wI (evaluate Variant.current
        (.psum (.app "f:f" [.sym wi]) [(wi, [.rat 1, .rat 2]), (wi, [.rat 3, .rat 4])])) (fun _ => 0)
      ≠ eval wI (.psum (.app "f:f" [.sym wi]) [(wi, [.rat 1, .rat 2]), (wi, [.rat 3, .rat 4])]) (fun _ => 0) := by
  decide +kernel

/-- a pool value that mentions a LATER index of the same sum (excluded by `wfSums`): `evaluate`
substitutes sequentially, so `PoolSum(f(i,j),(i,(j,2)),(j,(3,4)))` gives `f(3,3)+…`, which is not
the sum over the product of the pool values in the environment. -/
theorem sibling_index_in_pool_witness :
    eval wI (evaluate Variant.current
        (.psum (.app "f:f" [.sym wi, .sym wj]) [(wi, [.sym wj, .rat 2]), (wj, [.rat 3, .rat 4])])) (fun _ => 0)
      ≠ eval wI (.psum (.app "f:f" [.sym wi, .sym wj]) [(wi, [.sym wj, .rat 2]), (wj, [.rat 3, .rat 4])]) (fun _ => 0) := by
  decide +kernel

/-! ### non-vacuity: the hypotheses hold on nested sums with a shadowed index and symbolic pools -/

/-- `PoolSum(PoolSum(f(i,x), (i,(1,2))) + i*g(j), (i,(3,4,4)), (j,(1/2,)))` -/
def wNested : Expr :=
  .psum (.add [.psum (.app "f:f" [.sym wi, .sym wx]) [(wi, [.rat 1, .rat 2])],
               .mul [.sym wi, .app "f:g" [.sym wj]]])
        [(wi, [.rat 3, .rat 4, .rat 4]), (wj, [.rat ((1 : Q) / 2)])]

example : Variant.current.sound := by decide
example : wfSums wNested = true := by decide +kernel
example : eval wI (doit Variant.current 2 wNested) (fun _ => 7) = eval wI wNested (fun _ => 7) :=
  doit_preserves_value wI _ (by decide) 2 wNested _ (by decide +kernel)
example : noPsum (doit Variant.current 2 wNested) = true := by decide +kernel
example : eval wI wNested (fun _ => 7) = 147 / 2 := by decide +kernel

/-- `PoolSum(f(k)*x, (k, (0, 1, n)))`: the symbol `n` occurs in a pool only. -/
def wPoolOnly : Expr :=
  .psum (.mul [.app "f:f" [.sym wk], .sym wx]) [(wk, [.rat 0, .rat 1, .sym wn])]

example : wfSums wPoolOnly = true := by decide +kernel
/-- `n` is a free symbol, `k` is not. -/
example : free wPoolOnly = [wx, wn] := by decide +kernel
/-- `.subs(n, 5)` rewrites the pool (it is NOT the identity)… -/
example :
    Expr.beq (subst1 Variant.current wn (.rat 5) wPoolOnly)
      (.psum (.mul [.app "f:f" [.sym wk], .sym wx]) [(wk, [.rat 0, .rat 1, .rat 5])]) = true := by
  decide +kernel
/-- …and commutes with evaluation, as terms and as values. -/
example :
    evaluate Variant.current (subst1 Variant.current wn (.rat 5) wPoolOnly)
      = subst1 Variant.current wn (.rat 5) (evaluate Variant.current wPoolOnly) :=
  subs_free_commutes_with_evaluate _ (by decide) wn _ _ _ (by decide +kernel) (by decide +kernel)
    (by decide +kernel)
example : eval wI (subst1 Variant.current wn (.rat 5) wPoolOnly) (fun _ => 2)
    ≠ eval wI wPoolOnly (fun _ => 2) := by decide +kernel

/-- `PoolSum(PoolSum(g(j), (j, (i, i + 10))), (i, (1, 2)))`: the inner pool mentions the outer
index, the inner summand does not. -/
def wDependent : Expr :=
  .psum (.psum (.app "f:g" [.sym wj]) [(wj, [.sym wi, .add [.sym wi, .rat 10]])])
        [(wi, [.rat 1, .rat 2])]

example : wfSums wDependent = true := by decide +kernel
example : free wDependent = [] := by decide +kernel
/-- `doit()` = `g(1) + g(11) + g(2) + g(12)` -/
example :
    eval wI (doit Variant.current 2 wDependent) (fun _ => 0)
      = eval wI (.add [.app "f:g" [.rat 1], .app "f:g" [.rat 11], .app "f:g" [.rat 2], .app "f:g" [.rat 12]])
          (fun _ => 0) := by decide +kernel
example : eval wI (doit Variant.current 2 wDependent) (fun _ => 0) = eval wI wDependent (fun _ => 0) :=
  doit_preserves_value wI _ (by decide) 2 wDependent _ (by decide +kernel)

/-! ### 7. constructor witnesses: each unsound constructor variant breaks the property -/

def wp : Sym := ⟨"p", []⟩
def wq : Sym := ⟨"q", []⟩
def wBody : Expr := .mul [.sym wx, .sym wi]
def vTwoPass : NewVariant := ⟨true, false⟩
def vDedup : NewVariant := ⟨false, true⟩
def valueOf (r : NewResult) (ρ : Env) : Option Q := r.get?.map (fun e => eval wI (doit Variant.current 2 e) ρ)

/-- a constructor that validates in a pass of its own builds an EMPTY sum from a one-shot iterator
(value 0 instead of x·(1+2+3)); from a list it builds the right sum. -/
theorem two_pass_constructor_witness :
    valueOf (psumNew Variant.current vTwoPass wBody [(wi, ⟨[.rat 1, .rat 2, .rat 3], true⟩)] false) (fun _ => 5) = some 0
    ∧ valueOf (psumNew Variant.current NewVariant.current wBody [(wi, ⟨[.rat 1, .rat 2, .rat 3], true⟩)] false) (fun _ => 5) = some 30
    ∧ valueOf (psumNew Variant.current vTwoPass wBody [(wi, ⟨[.rat 1, .rat 2, .rat 3], false⟩)] false) (fun _ => 5) = some 30 := by
  decide +kernel

/-- a constructor that drops repeated pool values breaks `subs/xreplace ∘ doit = doit ∘ subs/xreplace`
when the substitution identifies two pool entries, and sums literal duplicates once. -/
theorem dedup_constructor_witness :
    valueOf (xreplaceViaNew Variant.current vDedup [(wp, .rat 2), (wq, .rat 2)] (.psum wBody [(wi, [.sym wp, .sym wq])])) (fun _ => 5) = some 10
    ∧ valueOf (xreplaceViaNew Variant.current NewVariant.current [(wp, .rat 2), (wq, .rat 2)] (.psum wBody [(wi, [.sym wp, .sym wq])])) (fun _ => 5) = some 20
    ∧ valueOf (psumNew Variant.current vDedup wBody [(wi, ⟨[.rat 1, .rat 1], false⟩)] false) (fun _ => 5) = some 5 := by
  decide +kernel

example : NewVariant.current.sound := by decide
example : poolsNonempty [(wi, [.sym wp, .sym wq])] = true := by decide

end Ampverif.Props.C18
