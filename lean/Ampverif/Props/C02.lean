/-
C02 — model intensity equals the helicity formula evaluated on the transitions.

`Model/C02Skeleton.lean` contains
* `impl`: a line-by-line executable model of ampform's amplitude builder producing the skeleton of
  `model.amplitudes`, `model.components` and `model.intensity` (compared with the REAL sympy
  objects on every run by `tools/props/C02.py`), and
* `spec`: the helicity formula of the property statement (incoherent over per-state outer
  projections, coherent over all symmetrised graphs with those projections, each node with D, CG and the assigned
  lineshape).

The theorems hold for EVERY interpretation `ι` of the Wigner D-functions, the Clebsch–Gordan
coefficients, the lineshape builders, the parameters and `|·|²` in ANY commutative ring — no special-function theory is
needed, and they hold in particular for the true functions at every numerical point.
-/
import Ampverif.Lemmas.C02Regroup
import Ampverif.Lemmas.C02Sym
import Ampverif.Lemmas.C02Memo

namespace Ampverif.Props.C02
open Ampverif.Model.C03 Ampverif.Model.C02
open Ampverif.Lemmas.C02Denote Ampverif.Lemmas.C02Regroup Ampverif.Lemmas.C02Sym Ampverif.Lemmas.C02Lists

variable {R : Type} [CommRing R]

/-- **C02 (intensity).** For every reaction `ts` (any number of transitions, nodes, spins, any
topologies), every configuration (helicity/canonical, coefficients/couplings, naming flags, any
prefactor rule `v`) and every interpretation `ι`: under the decidable well-formedness condition
(isobar graphs; amplitude bases name topologies injectively; graphs of different spin groups have
different outer projections) the builder's intensity denotes the helicity formula. -/
theorem C02_intensity (ι : Interp R) (v : Variant) (cfg : Config) (ts : List Transition)
    (hwf : wellFormed ts = true) :
    denImpl ι (impl v true cfg ts) = denSpec ι (spec v cfg ts) := by
  have wf := wf_of_check ts hwf
  refine congrArg List.sum (List.map_congr_left fun h _ => congrArg ι.nsq ?_)
  rw [impl_writes, impl_bases, sum_bases ι _ _ h (writes_syms_nodup v cfg _ _ ts wf) (basesOf_nodup ts wf)
    (writes_base_mem v cfg _ _ ts wf), sum_writes, spec_graphs_at v cfg h ts wf]

/-- **C02 (terms).** The term the builder writes for an isobar graph is the term of the formula:
`conj D^J_{m, λ₁−λ₂}(φ, θ of the first child)`, first child = the one whose final-state ids come
first, in the canonical basis `⟨L 0; S δ | J δ⟩ ⟨s₁ λ₁; s₂ −λ₂ | S δ⟩`, times the lineshape assigned to the
decaying particle (whenever the node is a key of the dynamics selector). -/
theorem C02_term (v : Variant) (cfg : Config) (m : Mapping) (sel : List DecayKey) (g : Transition)
    (h : g.isobar = true) (hk : ∀ n ∈ g.nodes, g.decayKey n ∈ sel) :
    g.term v cfg m sel = g.specTerm v cfg m :=
  term_eq_specTerm v cfg m sel g h hk

/-- **C02 (lineshape attachment).** Every node of every symmetrised graph of every transition of the
reaction is a key of the dynamics selector (e918528), so `C02_term` applies to every graph the
builder formulates: its lineshape factor is the builder assigned to the decaying particle, applied
to that particle and to (m_parent, m_child1, m_child2, L, φ, θ) of that node. -/
theorem C02_selector_covers (ts : List Transition) (t : Transition) (ht : t ∈ ts) (g : Transition)
    (hg : g ∈ t.symmetrise) (n : Nat) (hn : n ∈ g.nodes) : g.decayKey n ∈ selectorKeys ts :=
  mem_selectorKeys ts t ht g hg n hn

/-- **C02 (components, amplitudes).** Every `A_{…}` component is the term of one symmetrised graph
of one transition, named after that graph. -/
theorem C02_components_A (v : Variant) (own : Bool) (cfg : Config) (ts : List Transition)
    (hwf : wellFormed ts = true) (n : String) (t : Term) (h : (n, t) ∈ (impl v own cfg ts).compA) :
    ∃ tr ∈ ts, ∃ g ∈ tr.symmetrise,
      n = "A_{" ++ g.amplitudeName cfg ++ "}"
      ∧ t = g.specTerm v cfg (registerAll cfg.flags (ts.map Transition.chain)) := by
  rw [impl_compA] at h
  obtain ⟨g, hg, h⟩ := List.mem_flatMap.mp h
  obtain ⟨c, hc, h⟩ := List.mem_flatMap.mp h
  obtain ⟨tr, htr, h⟩ := List.mem_flatMap.mp h
  obtain ⟨gr, hgr, e⟩ := List.mem_map.mp h
  have htr' : tr ∈ ts := (of_mem_cellsOf ts g hg c hc).1 tr htr
  refine ⟨tr, htr', gr, hgr, (congrArg Prod.fst e).symm, ?_⟩
  rw [← term_eq_specTerm v cfg _ (selectorKeys ts) gr ((wf_of_check ts hwf).isobar tr htr' gr hgr)
    (mem_selectorKeys ts tr htr' gr hgr)]
  exact (congrArg Prod.snd e).symm

/-- **C02 (components, intensities).** The `I_{…}` component of a spin group denotes the partial
sum of the formula over the group's graphs: incoherent over their distinct outer projection
tuples, coherent within each. -/
theorem C02_components_I (ι : Interp R) (v : Variant) (cfg : Config) (m : Mapping) (sel : List DecayKey)
    (gs : List Transition) (hiso : ∀ g ∈ gs, g.isobar = true)
    (hk : ∀ g ∈ gs, ∀ n ∈ g.nodes, g.decayKey n ∈ sel) :
    denIncoherent ι ((byProjection v cfg m sel gs).map (·.2))
      = ((dedupFirst (gs.map Transition.outer)).map fun h =>
          ι.nsq (denTerms ι ((gs.filter fun g => g.outer = h).map (Transition.specTerm v cfg m)))).sum := by
  rw [denIncoherent, byProjection, List.map_map, List.map_map]
  refine congrArg List.sum (List.map_congr_left fun h _ => congrArg (fun l => ι.nsq (denTerms ι l)) ?_)
  exact map_term_eq_specTerm v cfg m sel _ (fun g hg => hiso g (List.mem_filter.mp hg).1)
    (fun g hg => hk g (List.mem_filter.mp hg).1)

/-- the `I_{…}` entry of the skeleton is exactly that list of coherent sums (repaired builder). -/
theorem C02_components_I_entry (v : Variant) (cfg : Config) (ts : List Transition) :
    (impl v true cfg ts).compI = (cellsOf ts).map fun g =>
      ("I_{" ++ ((g.headD []).headD default).label ++ "}",
        (byProjection v cfg (registerAll cfg.flags (ts.map Transition.chain)) (selectorKeys ts)
          (g.flatMap graphsOf)).map (·.2)) :=
  rfl

/-- **C02 (symmetrised).** The graphs summed for a transition are exactly its relabelings by
permutations of identical final-state particles, one per distinct attachment of the ids. -/
theorem C02_symmetrised (t : Transition) :
    (t.symmetrise.map Transition.attachment).Nodup
    ∧ (∀ g ∈ t.symmetrise, ∃ σ ∈ t.relabelings, g = t.relabel σ)
    ∧ (∀ σ ∈ t.relabelings, ∃ g ∈ t.symmetrise, g.attachment = (t.relabel σ).attachment) :=
  ⟨symmetrise_nodup t, symmetrise_sound t, symmetrise_complete t⟩

/-- the terms written for one (spin group, topology) cell add up to the terms of all symmetrised
graphs of the cell's transitions, for every interpretation (nothing dropped, nothing doubled). -/
theorem C02_cell_total (ι : Interp R) (v : Variant) (cfg : Config) (m : Mapping) (sel : List DecayKey)
    (c : List Transition) (h : List Int) :
    ((cellWrites v true cfg m sel c).map fun w => if w.idx = h then denTerms ι w.terms else 0).sum
      = denTerms ι (((graphsOf c).filter fun g => g.outer = h).map (Transition.term v cfg m sel)) :=
  sum_cellWrites ι v cfg m sel h c

/-! ### the angles of a node belong to the graph's own boost chain -/

/-- **C02 (angles of a node).** For every graph `g` (any topology, any number of final states) and
every node `n`: the D-function the builder writes for the node, and the variable set its lineshape is
built with, carry the helicity angles named after the boost chain of the node's first child IN `g`
(`phi_2^23` below the initial state, `phi_2^23,023` below (023), …) and the invariant masses of `g`'s
own edges — whatever other graph of the reaction contains a node with the same edge ids, particles,
helicities and interaction. -/
theorem C02_node_angles (cfg : Config) (sel : List DecayKey) (g : Transition) (n : Nat) :
    (g.nodeFactor cfg sel n).d.phi = "phi" ++ g.boostSuffix (g.decay n).2.1
    ∧ (g.nodeFactor cfg sel n).d.theta = "theta" ++ g.boostSuffix (g.decay n).2.1
    ∧ ∀ a, (g.nodeFactor cfg sel n).dyn = some a →
        a.phi = "phi" ++ g.boostSuffix (g.decay n).2.1 ∧ a.theta = "theta" ++ g.boostSuffix (g.decay n).2.1
        ∧ a.mParent = g.massName (g.decay n).1 ∧ a.m1 = g.massName (g.decay n).2.1
        ∧ a.m2 = g.massName (g.decay n).2.2 := by
  refine ⟨rfl, rfl, fun a ha => ?_⟩
  have ha' : g.dynFactor cfg sel n = some a := ha
  rw [Transition.dynFactor] at ha'
  split at ha'
  · obtain ⟨b, _, rfl⟩ := Option.map_eq_some_iff.mp ha'
    exact ⟨rfl, rfl, rfl, rfl, rfl⟩
  · cases ha'

/-- **C02 (when a per-node key is enough).** On any list of graphs on which equal `TwoBodyDecay`s
have equal node factors (`keyDeterminesFactor`, decidable; true e.g. for three-body reactions without
identical particles, where the edge ids of a node fix its boost chain), formulating every node once
per key gives exactly the library's terms — and `C02_witness_shared_subdecay` shows that the
condition fails, and the terms differ, as soon as a sub-decay sits below different ancestors. -/
theorem C02_memo_harmless (v : Variant) (cfg : Config) (m : Mapping) (sel : List DecayKey) (gs : List Transition)
    (h : keyDeterminesFactor cfg sel gs = true) :
    termsMemo v cfg m sel gs [] = termsOwn v cfg m sel gs :=
  Ampverif.Lemmas.C02Memo.terms_memo h gs [] (fun _ hg => hg) (fun _ _ hm => nomatch hm)

namespace Shared

def finals : List (Int × EState) :=
  [(0, ⟨"pi+", "\\pi^{+}", 0, 0⟩), (1, ⟨"pi-", "\\pi^{-}", 0, 0⟩), (2, ⟨"pi0", "\\pi^{0}", 0, 0⟩),
   (3, ⟨"gamma", "\\gamma", 2, 2⟩)]

def omega : EState := ⟨"omega(782)", "\\omega(782)", 2, 2⟩

/-- J/ψ → f₀(980) [π⁺ π⁻] ω [π⁰ γ]: ω is edge 5 → (2, 3) below the initial state. -/
def tA : Transition :=
  { nodes := [0, 1, 2]
    edges := [⟨-1, none, some 0⟩, ⟨4, some 0, some 1⟩, ⟨5, some 0, some 2⟩, ⟨0, some 1, none⟩, ⟨1, some 1, none⟩,
              ⟨2, some 2, none⟩, ⟨3, some 2, none⟩]
    states := (-1, ⟨"J/psi(1S)", "J/\\psi(1S)", 2, 2⟩) :: (4, ⟨"f(0)(980)", "f_{0}(980)", 0, 0⟩) :: (5, omega) :: finals
    inters := [(0, ⟨none, none⟩), (1, ⟨none, none⟩), (2, ⟨none, none⟩)] }

/-- J/ψ → π⁻ b₁(1235)⁺ [π⁺ ω [π⁰ γ]]: the same ω node, edge 5 → (2, 3), below (023). -/
def tB : Transition :=
  { nodes := [0, 1, 2]
    edges := [⟨-1, none, some 0⟩, ⟨1, some 0, none⟩, ⟨4, some 0, some 1⟩, ⟨0, some 1, none⟩, ⟨5, some 1, some 2⟩,
              ⟨2, some 2, none⟩, ⟨3, some 2, none⟩]
    states := (-1, ⟨"J/psi(1S)", "J/\\psi(1S)", 2, 2⟩) :: (4, ⟨"b(1)(1235)+", "b_{1}(1235)^{+}", 2, 2⟩) :: (5, omega) :: finals
    inters := [(0, ⟨none, none⟩), (1, ⟨none, none⟩), (2, ⟨none, none⟩)] }

def cfg : Config := ⟨false, false, ⟨false, true, false⟩, [("omega(782)", "bw")]⟩
def ts : List Transition := [tA, tB]
def v : Variant := ⟨true, true⟩
def m : Mapping := registerAll cfg.flags (ts.map Transition.chain)
def sel : List DecayKey := selectorKeys ts

end Shared

open Shared in
/-- Four final states, two topologies, the same sub-decay below different ancestors: the two ω nodes
are EQUAL as `TwoBodyDecay`s (edge ids, particles, helicities, interaction) but their factors differ
(angles and lineshape variables of the graph's own boost chain), so a per-node key without the
topology does not determine the factor.  The library's skeleton agrees with the formula on this
reaction (both topologies interfere in one outer configuration); a builder memoising node factors by
`TwoBodyDecay` does not: the topology formulated first wins, in either order. -/
theorem C02_witness_shared_subdecay :
    tA.decayKey 2 = tB.decayKey 2
    ∧ (tA.nodeFactor cfg sel 2).d = ⟨2, 2, -2, "phi_2^23", "theta_2^23"⟩
    ∧ (tB.nodeFactor cfg sel 2).d = ⟨2, 2, -2, "phi_2^23,023", "theta_2^23,023"⟩
    ∧ (tA.nodeFactor cfg sel 2).dyn = some ⟨"bw", "omega(782)", "m_23", "m_2", "m_3", some 1, "phi_2^23", "theta_2^23"⟩
    ∧ (tB.nodeFactor cfg sel 2).dyn = some ⟨"bw", "omega(782)", "m_23", "m_2", "m_3", some 1, "phi_2^23,023", "theta_2^23,023"⟩
    ∧ keyDeterminesFactor cfg sel (visitedGraphs ts) = false
    ∧ wellFormed ts = true
    ∧ (impl v true cfg ts).bases = ["A^01,23", "A^023,23"]
    ∧ skeletonsAgree (impl v true cfg ts) (spec v cfg ts) = true
    ∧ decide (termsMemo v cfg m sel (visitedGraphs ts) [] = termsOwn v cfg m sel (visitedGraphs ts)) = false
    ∧ decide (termsMemo v cfg m sel (visitedGraphs ts.reverse) [] = termsOwn v cfg m sel (visitedGraphs ts.reverse)) = false
    ∧ ((termsMemo v cfg m sel (visitedGraphs ts) []).map fun t => t.nodes.map (·.d.phi))
        = [["phi_01", "phi_0^01", "phi_2^23"], ["phi_023", "phi_0^023", "phi_2^23"]] := by
  decide +kernel

open Shared in
/-- Non-vacuity of `C02_memo_harmless`: its hypothesis holds on each topology of the witness reaction
alone (3 nodes each) and fails on the two together. -/
example :
    keyDeterminesFactor cfg sel (visitedGraphs [tA]) = true ∧ keyDeterminesFactor cfg sel (visitedGraphs [tB]) = true
    ∧ (visitedGraphs ts).length = 2 ∧ keyDeterminesFactor cfg sel (visitedGraphs ts) = false := by
  decide +kernel

/-! ### witness for the builder up to 043d8fb (`own = false`) -/

namespace Witness

def photon (h : Int) : EState := ⟨"gamma", "\\gamma", 2, h⟩
def edges : List Edge := [⟨-1, none, some 0⟩, ⟨3, some 0, some 1⟩, ⟨0, some 0, none⟩, ⟨1, some 1, none⟩, ⟨2, some 1, none⟩]

/-- ψ(2S) → γ χc1, χc1 → γ J/ψ shaped: identical photons on ids 0 and 1 (different nodes) with
helicities `(a, b)`. -/
def tr (a b : Int) : Transition :=
  { nodes := [0, 1], edges := edges
    states := [(-1, ⟨"psi(2S)", "\\psi(2S)", 2, 2⟩), (3, ⟨"chi(c1)(1P)", "\\chi_{c1}(1P)", 2, 0⟩),
               (0, photon a), (1, photon b), (2, ⟨"J/psi(1S)", "J/\\psi(1S)", 2, 0⟩)]
    inters := [(0, ⟨none, none⟩), (1, ⟨none, none⟩)] }

def cfg : Config := ⟨false, false, ⟨false, true, false⟩, [("chi(c1)(1P)", "bw")]⟩
def ts : List Transition := [tr (-2) 2, tr 2 (-2)]

end Witness

open Witness in
/-- Two identical final-state particles with UNEQUAL helicities: the old builder puts all four
graphs under one amplitude symbol (`wellGrouped` fails, skeletons differ from the formula), the
repaired builder agrees with the formula. Replayed on ψ(2S) → γ γ J/ψ. -/
theorem C02_witness_unequal_identical :
    wellFormed ts = true ∧ wellGrouped ts = false
    ∧ skeletonsAgree (impl ⟨true, true⟩ false cfg ts) (spec ⟨true, true⟩ cfg ts) = false
    ∧ skeletonsAgree (impl ⟨true, true⟩ true cfg ts) (spec ⟨true, true⟩ cfg ts) = true
    ∧ (lookupLast (impl ⟨true, true⟩ false cfg ts).writes "A^12" [2, -2, 2, 0]).length = 4
    ∧ (lookupLast (impl ⟨true, true⟩ false cfg ts).writes "A^12" [2, 2, -2, 0]).length = 0
    ∧ (lookupLast (impl ⟨true, true⟩ true cfg ts).writes "A^12" [2, -2, 2, 0]).length = 2
    ∧ (lookupLast (impl ⟨true, true⟩ true cfg ts).writes "A^12" [2, 2, -2, 0]).length = 2 := by
  decide +kernel

open Witness in
/-- Non-vacuity of `C02_intensity`: its hypothesis holds on the witness reaction, whose
symmetrisation is non-trivial (two graphs per transition, four terms in two configurations). -/
example :
    wellFormed ts = true ∧ (ts.map fun t => t.symmetrise.length) = [2, 2]
    ∧ (spec ⟨true, true⟩ cfg ts).graphs.length = 4
    ∧ ((spec ⟨true, true⟩ cfg ts).graphs.map (·.1)) = [[2, -2, 2, 0], [2, 2, -2, 0], [2, 2, -2, 0], [2, -2, 2, 0]] := by
  decide +kernel

end Ampverif.Props.C02
