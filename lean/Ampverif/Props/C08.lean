/-
C08 — boost and rotation expressions are proper Lorentz transformations.

All theorems are about `Ampverif.Gen.C08.*`, which is REGENERATED on every run from
`/repo/src/ampform/kinematics/lorentz.py` and `/repo/src/ampform/sympy/_array_expressions.py`:

* `<name>Ex`     — the matrix returned by the library's `as_explicit()`, read per event;
* `<name>Code0`  — the numpy code `sympy.lambdify(.., cse=False)` generates from the library's
                   `_numpycode` printers, parsed and interpreted per event;
* `<name>Code1`  — the same with `cse=True`;
* `<name>_rad`   — the radicand of the square root occurring in a family of entries;
* `<name>_s<i>`, `<name>_v<k>_<i>` — (families with wrapped momenta only) repeated subterms and the
                   components of intermediate matrix-times-vector results, NAMED by the translator so that
                   nested arguments do not blow up the file; unfolding them gives back the code's terms.

The einsum model is `Model/C08Einsum.lean`.

Guards forced by the source: `BoostMatrix` divides by `β²`, so `p⃗ ≠ 0` is a hypothesis; `E > 0`;
`|p⃗| < E` (time-like). `BoostZMatrix.as_explicit` uses `ComplexSqrt`, translated on its real branch:
`boostZ_radicand_pos` shows that `β² < 1` puts us on that branch.
-/
import Ampverif.Gen.C08
import Ampverif.Lemmas.C08Boost
import Ampverif.Lemmas.C08Shape
import Ampverif.Lemmas.C08Einsum
import Mathlib.Analysis.SpecialFunctions.Trigonometric.Basic
import Mathlib.Tactic.Positivity
import Mathlib.Tactic.Linarith

set_option linter.unusedVariables false

namespace Ampverif.Props.C08
open Ampverif.Gen.C08 Ampverif.Lemmas.C08 Matrix

/-- Invariant mass `√(E² − |p⃗|²)` of the four-momentum `(E, px, py, pz)`. -/
noncomputable def mass (E px py pz : ℝ) : ℝ := Real.sqrt (E ^ 2 - (px ^ 2 + py ^ 2 + pz ^ 2))

/-- `MinkowskiMetric(p).as_explicit()` is `diag(1,−1,−1,−1)`. -/
theorem metric_eq : metricEx = eta := by
  rfl

theorem boostEx_sqrt (E px py pz : ℝ) (hE : 0 < E) :
    Real.sqrt (boostEx_rad E px py pz) = mass E px py pz / E := by
  apply sqrt_radicand E _ _ hE
  unfold boostEx_rad
  field_simp
  ring

/-- The explicit boost matrix is the textbook boost with `γ = E/m`, `β⃗ = p⃗/E`. -/
theorem boostEx_abs (E px py pz : ℝ) (hE : 0 < E) (hp : 0 < px ^ 2 + py ^ 2 + pz ^ 2)
    (hm : px ^ 2 + py ^ 2 + pz ^ 2 < E ^ 2) :
    boostEx E px py pz
      = absBoost (E / mass E px py pz) (px / E) (py / E) (pz / E)
          ((E / mass E px py pz - 1) * E ^ 2 / (px ^ 2 + py ^ 2 + pz ^ 2)) := by
  unfold boostEx absBoost
  apply literal_ext <;>
    simp only [c08_entries, boostEx_sqrt E px py pz hE, inv_div, scaled_mul_div hE.ne'] <;> ring

/-- The three relations between `γ = E/m`, `β⃗ = p⃗/E` and `u = (γ−1)/β²`. -/
theorem boost_relations (E px py pz : ℝ) (hE : 0 < E) (hp : 0 < px ^ 2 + py ^ 2 + pz ^ 2)
    (hm : px ^ 2 + py ^ 2 + pz ^ 2 < E ^ 2) :
    let g := E / mass E px py pz
    let u := (g - 1) * E ^ 2 / (px ^ 2 + py ^ 2 + pz ^ 2)
    g ^ 2 * (1 - ((px / E) ^ 2 + (py / E) ^ 2 + (pz / E) ^ 2)) = 1
      ∧ u * ((px / E) ^ 2 + (py / E) ^ 2 + (pz / E) ^ 2) = g - 1
      ∧ u * (g + 1) = g ^ 2 := by
  have hm0 : 0 < mass E px py pz := sqrt_sub_pos hm
  have hm2 : mass E px py pz ^ 2 = E ^ 2 - (px ^ 2 + py ^ 2 + pz ^ 2) := sq_sqrt_sub hm
  generalize mass E px py pz = m at *
  intro g u
  refine ⟨?_, ?_, ?_⟩
  · simp only [g]; field_simp; exact hm2.symm
  · simp only [g, u]; field_simp
  · simp only [g, u]; field_simp; linear_combination -hm2

/-- **Lorentz condition** `Bᵀ η B = η` for the explicit matrix of `BoostMatrix(p)`,
for every time-like `p` with `E > 0` and `p⃗ ≠ 0`. -/
theorem boost_lorentz (E px py pz : ℝ) (hE : 0 < E) (hp : 0 < px ^ 2 + py ^ 2 + pz ^ 2)
    (hm : px ^ 2 + py ^ 2 + pz ^ 2 < E ^ 2) :
    (boostEx E px py pz)ᵀ * metricEx * boostEx E px py pz = metricEx := by
  obtain ⟨h1, h2, h3⟩ := boost_relations E px py pz hE hp hm
  rw [boostEx_abs E px py pz hE hp hm, metric_eq]
  exact absBoost_lorentz _ _ _ _ _ h1 h2 h3

/-- **Proper**: `det B = +1`. -/
theorem boost_det (E px py pz : ℝ) (hE : 0 < E) (hp : 0 < px ^ 2 + py ^ 2 + pz ^ 2)
    (hm : px ^ 2 + py ^ 2 + pz ^ 2 < E ^ 2) :
    (boostEx E px py pz).det = 1 := by
  obtain ⟨h1, h2, h3⟩ := boost_relations E px py pz hE hp hm
  rw [boostEx_abs E px py pz hE hp hm]
  exact absBoost_det _ _ _ _ _ h1 h2

/-- **Orthochronous**: `B₀₀ = γ ≥ 1`. -/
theorem boost_00_ge_one (E px py pz : ℝ) (hE : 0 < E) (hp : 0 < px ^ 2 + py ^ 2 + pz ^ 2)
    (hm : px ^ 2 + py ^ 2 + pz ^ 2 < E ^ 2) :
    1 ≤ boostEx E px py pz 0 0 := by
  have hm0 : 0 < mass E px py pz := sqrt_sub_pos hm
  rw [boostEx_abs E px py pz hE hp hm]
  show 1 ≤ E / mass E px py pz
  rw [one_le_div hm0]
  calc mass E px py pz ≤ Real.sqrt (E ^ 2) := Real.sqrt_le_sqrt (by linarith)
    _ = E := Real.sqrt_sq hE.le

/-- **Rest frame**: boosting `p` with its own boost matrix gives `(m, 0, 0, 0)`. -/
theorem boost_self (E px py pz : ℝ) (hE : 0 < E) (hp : 0 < px ^ 2 + py ^ 2 + pz ^ 2)
    (hm : px ^ 2 + py ^ 2 + pz ^ 2 < E ^ 2) :
    (boostEx E px py pz).mulVec ![E, px, py, pz] = ![mass E px py pz, 0, 0, 0] := by
  obtain ⟨h1, h2, h3⟩ := boost_relations E px py pz hE hp hm
  have hv : ![E, px, py, pz] = ![E, E * (px / E), E * (py / E), E * (pz / E)] := by
    congr <;> field_simp
  rw [boostEx_abs E px py pz hE hp hm, hv, absBoost_mulVec _ _ _ _ _ _ h1 h2, div_div_cancel₀ hE.ne']

/-- The explicit matrix of `BoostMatrix(NegativeMomentum(p))` is the boost matrix of the
space-inverted momentum `(E, −p⃗)` (all reals). -/
theorem boostNeg_eq (E px py pz : ℝ) :
    boostNegEx E px py pz = boostEx E (-px) (-py) (-pz) := by
  apply boostEx_ext (r := boostNegEx_rad E px py pz)
    (hr := by unfold boostNegEx_rad boostEx_rad; ring) <;> simp only [c08_entries] <;> ring

/-- **Inverse**: the boost of the space-inverted momentum is the inverse matrix. -/
theorem boost_neg_inverse (E px py pz : ℝ) (hE : 0 < E) (hp : 0 < px ^ 2 + py ^ 2 + pz ^ 2)
    (hm : px ^ 2 + py ^ 2 + pz ^ 2 < E ^ 2) :
    boostNegEx E px py pz * boostEx E px py pz = 1 := by
  obtain ⟨h1, h2, h3⟩ := boost_relations E px py pz hE hp hm
  have hp' : 0 < (-px) ^ 2 + (-py) ^ 2 + (-pz) ^ 2 := by simpa using hp
  have hm' : (-px) ^ 2 + (-py) ^ 2 + (-pz) ^ 2 < E ^ 2 := by simpa using hm
  have hmass : mass E (-px) (-py) (-pz) = mass E px py pz := by simp [mass]
  rw [boostNeg_eq, boostEx_abs E px py pz hE hp hm, boostEx_abs E (-px) (-py) (-pz) hE hp' hm', hmass]
  simp only [even_two, Even.neg_pow, neg_div]
  exact absBoost_neg_mul _ _ _ _ _ h1 h2 h3

/-- `β² < 1` puts `ComplexSqrt(1 − β²)` of `BoostZMatrix.as_explicit` on its real branch (the
branch the translator reads) and keeps `γ` finite. -/
theorem boostZ_radicand_pos (β : ℝ) (hβ : β ^ 2 < 1) : 0 < boostZEx_rad β := by
  unfold boostZEx_rad; linarith

theorem boostZ_relations (β : ℝ) (hβ : β ^ 2 < 1) :
    let g := (Real.sqrt (1 - β ^ 2))⁻¹
    g ^ 2 * (1 - (0 ^ 2 + 0 ^ 2 + β ^ 2)) = 1
      ∧ g ^ 2 / (g + 1) * (0 ^ 2 + 0 ^ 2 + β ^ 2) = g - 1
      ∧ g ^ 2 / (g + 1) * (g + 1) = g ^ 2 := by
  have hs0 : 0 < Real.sqrt (1 - β ^ 2) := sqrt_sub_pos hβ
  have hs2 : Real.sqrt (1 - β ^ 2) ^ 2 = 1 - β ^ 2 := sq_sqrt_sub hβ
  intro g
  have h1 : g ^ 2 * (1 - (0 ^ 2 + 0 ^ 2 + β ^ 2)) = 1 := by
    simp only [g]
    generalize Real.sqrt (1 - β ^ 2) = s at *
    field_simp
    linear_combination -hs2
  exact ⟨h1, u_relations g _ (inv_pos.mpr hs0) h1⟩

/-- `BoostZMatrix(β)` is the textbook boost with velocity `(0,0,β)`, `γ = 1/√(1−β²)`. -/
theorem boostZEx_abs (β : ℝ) (hβ : β ^ 2 < 1) :
    boostZEx β = absBoost (Real.sqrt (1 - β ^ 2))⁻¹ 0 0 β
        ((Real.sqrt (1 - β ^ 2))⁻¹ ^ 2 / ((Real.sqrt (1 - β ^ 2))⁻¹ + 1)) := by
  obtain ⟨-, h2, -⟩ := boostZ_relations β hβ
  have hrad : boostZEx_rad β = 1 - β ^ 2 := by unfold boostZEx_rad; ring
  unfold boostZEx absBoost
  -- only the 33 entry needs a relation: `γ = 1 + u β²`
  apply literal_ext <;> simp only [c08_entries, hrad] <;> first | ring1 | linear_combination -h2

/-- **Lorentz condition** for `BoostZMatrix(β)`, every `|β| < 1`. -/
theorem boostZ_lorentz (β : ℝ) (hβ : β ^ 2 < 1) :
    (boostZEx β)ᵀ * metricEx * boostZEx β = metricEx := by
  obtain ⟨h1, h2, h3⟩ := boostZ_relations β hβ
  rw [boostZEx_abs β hβ, metric_eq]
  exact absBoost_lorentz _ _ _ _ _ h1 h2 h3

theorem boostZ_det (β : ℝ) (hβ : β ^ 2 < 1) : (boostZEx β).det = 1 := by
  obtain ⟨h1, h2, h3⟩ := boostZ_relations β hβ
  rw [boostZEx_abs β hβ]
  exact absBoost_det _ _ _ _ _ h1 h2

theorem boostZ_00_ge_one (β : ℝ) (hβ : β ^ 2 < 1) : 1 ≤ boostZEx β 0 0 := by
  rw [boostZEx_abs β hβ]
  show 1 ≤ (Real.sqrt (1 - β ^ 2))⁻¹
  exact (one_le_inv₀ (sqrt_sub_pos hβ)).mpr (Real.sqrt_le_one.mpr (by linarith [sq_nonneg β]))

/-- **z-boost = general boost** for momenta along z (`p⃗ = (0,0,p_z)`, `p_z ≠ 0` because the
general boost divides by `|p⃗|²`). -/
theorem boostZ_eq_boost (E pz : ℝ) (hE : 0 < E) (hz : pz ≠ 0) (hm : pz ^ 2 < E ^ 2) :
    boostZEx (pz / E) = boostEx E 0 0 pz := by
  have hE0 : E ≠ 0 := hE.ne'
  apply boostEx_ext (r := boostZEx_rad (pz / E))
    (hr := by unfold boostZEx_rad boostEx_rad; field_simp; ring) <;> simp only [c08_entries] <;>
    first | ring1 | (field_simp; ring1)

theorem rotYEx_abs (a : ℝ) : rotYEx a = absRotY (Real.cos a) (Real.sin a) := by
  unfold absRotY
  exact (rotYEx_ext rfl rfl rfl rfl rfl).symm

theorem rotZEx_abs (a : ℝ) : rotZEx a = absRotZ (Real.cos a) (Real.sin a) := by
  unfold absRotZ
  exact (rotZEx_ext rfl rfl rfl rfl rfl).symm

theorem rotY_lorentz (a : ℝ) : (rotYEx a)ᵀ * metricEx * rotYEx a = metricEx := by
  rw [rotYEx_abs, metric_eq]; exact absRotY_lorentz _ _ (Real.cos_sq_add_sin_sq a)

theorem rotZ_lorentz (a : ℝ) : (rotZEx a)ᵀ * metricEx * rotZEx a = metricEx := by
  rw [rotZEx_abs, metric_eq]; exact absRotZ_lorentz _ _ (Real.cos_sq_add_sin_sq a)

theorem rotY_det (a : ℝ) : (rotYEx a).det = 1 := by
  rw [rotYEx_abs]; exact absRotY_det _ _ (Real.cos_sq_add_sin_sq a)

theorem rotZ_det (a : ℝ) : (rotZEx a).det = 1 := by
  rw [rotZEx_abs]; exact absRotZ_det _ _ (Real.cos_sq_add_sin_sq a)

theorem rot_00 (a : ℝ) : rotYEx a 0 0 = 1 ∧ rotZEx a 0 0 = 1 := by
  exact ⟨rfl, rfl⟩

/-- **Rotations compose additively**: `R_y(a) R_y(b) = R_y(a+b)`. -/
theorem rotY_add (a b : ℝ) : rotYEx a * rotYEx b = rotYEx (a + b) := by
  rw [rotYEx_abs, rotYEx_abs, rotYEx_abs, absRotY_mul, Real.cos_add, Real.sin_add]

theorem rotZ_add (a b : ℝ) : rotZEx a * rotZEx b = rotZEx (a + b) := by
  rw [rotZEx_abs, rotZEx_abs, rotZEx_abs, absRotZ_mul, Real.cos_add, Real.sin_add]

/-! ## The generated numpy code agrees with the explicit matrices

`Code0` = `lambdify(.., cse=False)`, `Code1` = `lambdify(.., cse=True)`. Equalities of functions on
all real arguments (Lean's `x/0 = 0` on both sides; on the physical domain nothing is divided by
zero). -/

theorem boostCode0_eq (E px py pz : ℝ) : boostCode0 E px py pz = boostEx E px py pz := by
  apply boostEx_ext (r := boostCode0_rad E px py pz)
    (hr := by unfold boostCode0_rad boostEx_rad; ring) <;> simp only [c08_entries] <;> ring

theorem boostCode1_eq (E px py pz : ℝ) : boostCode1 E px py pz = boostEx E px py pz := by
  apply boostEx_ext (r := boostCode1_rad E px py pz)
    (hr := by unfold boostCode1_rad boostEx_rad; ring) <;> simp only [c08_entries] <;> ring

theorem boostNegCode0_eq (E px py pz : ℝ) : boostNegCode0 E px py pz = boostNegEx E px py pz := by
  rw [boostNeg_eq]
  apply boostEx_ext (r := boostNegCode0_rad E px py pz)
    (hr := by unfold boostNegCode0_rad boostEx_rad; ring) <;> simp only [c08_entries] <;> ring

theorem boostNegCode1_eq (E px py pz : ℝ) : boostNegCode1 E px py pz = boostNegEx E px py pz := by
  rw [boostNeg_eq]
  apply boostEx_ext (r := boostNegCode1_rad E px py pz)
    (hr := by unfold boostNegCode1_rad boostEx_rad; ring) <;> simp only [c08_entries] <;> ring

theorem boostZCode0_eq (β : ℝ) : boostZCode0 β = boostZEx β := by
  apply boostZEx_ext rfl (r := boostZCode0_rad β)
    (hr := by unfold boostZCode0_rad boostZEx_rad; ring) <;> simp only [c08_entries] <;> ring

theorem boostZCode1_eq (β : ℝ) : boostZCode1 β = boostZEx β := by
  apply boostZEx_ext rfl (r := boostZCode1_rad β)
    (hr := by unfold boostZCode1_rad boostZEx_rad; ring) <;> simp only [c08_entries] <;> ring

theorem rotYCode0_eq (a : ℝ) : rotYCode0 a = rotYEx a := by
  apply rotYEx_ext rfl <;> simp only [c08_entries]
  ring

theorem rotYCode1_eq (a : ℝ) : rotYCode1 a = rotYEx a := by
  apply rotYEx_ext rfl <;> simp only [c08_entries]
  ring

theorem rotZCode0_eq (a : ℝ) : rotZCode0 a = rotZEx a := by
  apply rotZEx_ext rfl <;> simp only [c08_entries]
  ring

theorem rotZCode1_eq (a : ℝ) : rotZCode1 a = rotZEx a := by
  apply rotZEx_ext rfl <;> simp only [c08_entries]
  ring

theorem metricCode0_eq : metricCode0 = metricEx := by
  apply metricEx_ext <;> simp only [c08_entries] <;> ring

theorem metricCode1_eq : metricCode1 = metricEx := by
  apply metricEx_ext <;> simp only [c08_entries] <;> ring

/-- The matrix computed per event by the code generated from `BoostMatrix(p)` (cse off and on)
satisfies `Lᵀ η L = η`, `det L = 1`, `L₀₀ ≥ 1`, with `η` the generated `MinkowskiMetric` code. -/
theorem boostCode_proper (E px py pz : ℝ) (hE : 0 < E) (hp : 0 < px ^ 2 + py ^ 2 + pz ^ 2)
    (hm : px ^ 2 + py ^ 2 + pz ^ 2 < E ^ 2) :
    ((boostCode0 E px py pz)ᵀ * metricCode0 * boostCode0 E px py pz = metricCode0
        ∧ (boostCode0 E px py pz).det = 1 ∧ 1 ≤ boostCode0 E px py pz 0 0)
      ∧ ((boostCode1 E px py pz)ᵀ * metricCode1 * boostCode1 E px py pz = metricCode1
        ∧ (boostCode1 E px py pz).det = 1 ∧ 1 ≤ boostCode1 E px py pz 0 0) := by
  rw [boostCode0_eq, boostCode1_eq, metricCode0_eq, metricCode1_eq]
  exact ⟨⟨boost_lorentz E px py pz hE hp hm, boost_det E px py pz hE hp hm, boost_00_ge_one E px py pz hE hp hm⟩,
    ⟨boost_lorentz E px py pz hE hp hm, boost_det E px py pz hE hp hm, boost_00_ge_one E px py pz hE hp hm⟩⟩

/-- The code generated for `BoostMatrix(NegativeMomentum(p))` yields the inverse of the code
generated for `BoostMatrix(p)` (cse off and on). -/
theorem boostNegCode_inverse (E px py pz : ℝ) (hE : 0 < E) (hp : 0 < px ^ 2 + py ^ 2 + pz ^ 2)
    (hm : px ^ 2 + py ^ 2 + pz ^ 2 < E ^ 2) :
    boostNegCode0 E px py pz * boostCode0 E px py pz = 1
      ∧ boostNegCode1 E px py pz * boostCode1 E px py pz = 1 := by
  rw [boostNegCode0_eq, boostNegCode1_eq, boostCode0_eq, boostCode1_eq]
  exact ⟨boost_neg_inverse E px py pz hE hp hm, boost_neg_inverse E px py pz hE hp hm⟩

theorem boostZCode_proper (β : ℝ) (hβ : β ^ 2 < 1) :
    ((boostZCode0 β)ᵀ * metricCode0 * boostZCode0 β = metricCode0
        ∧ (boostZCode0 β).det = 1 ∧ 1 ≤ boostZCode0 β 0 0)
      ∧ ((boostZCode1 β)ᵀ * metricCode1 * boostZCode1 β = metricCode1
        ∧ (boostZCode1 β).det = 1 ∧ 1 ≤ boostZCode1 β 0 0) := by
  rw [boostZCode0_eq, boostZCode1_eq, metricCode0_eq, metricCode1_eq]
  exact ⟨⟨boostZ_lorentz β hβ, boostZ_det β hβ, boostZ_00_ge_one β hβ⟩,
    ⟨boostZ_lorentz β hβ, boostZ_det β hβ, boostZ_00_ge_one β hβ⟩⟩

theorem rotCode_proper (a : ℝ) :
    ((rotYCode0 a)ᵀ * metricCode0 * rotYCode0 a = metricCode0 ∧ (rotYCode0 a).det = 1)
      ∧ ((rotYCode1 a)ᵀ * metricCode1 * rotYCode1 a = metricCode1 ∧ (rotYCode1 a).det = 1)
      ∧ ((rotZCode0 a)ᵀ * metricCode0 * rotZCode0 a = metricCode0 ∧ (rotZCode0 a).det = 1)
      ∧ ((rotZCode1 a)ᵀ * metricCode1 * rotZCode1 a = metricCode1 ∧ (rotZCode1 a).det = 1) := by
  rw [rotYCode0_eq, rotYCode1_eq, rotZCode0_eq, rotZCode1_eq, metricCode0_eq, metricCode1_eq]
  exact ⟨⟨rotY_lorentz a, rotY_det a⟩, ⟨rotY_lorentz a, rotY_det a⟩,
    ⟨rotZ_lorentz a, rotZ_det a⟩, ⟨rotZ_lorentz a, rotZ_det a⟩⟩

/-! ## Compound arguments: the printed templates keep their argument holes atomic

Every `_numpycode` template of lorentz.py splices the PRINTED text of its arguments into a string.
That is only right if each hole ends up as an atom or parenthesised — otherwise an argument that
prints as a sum loses its parentheses (`-{beta}*{gamma}` with `beta = b1 - b2`). The families
below are regenerated from instances whose argument is a difference (`b1 - b2`), a negated quotient
(`-b1/b2`) and a power (`b1**2`) — one representative per precedence class of printed expressions —
and, for array arguments, a sum of arrays `p + q`. The generated code (cse off / on) equals the
explicit matrix AT the compound argument. -/

theorem boostZAddCode_eq (b1 b2 : ℝ) :
    boostZAddCode0 b1 b2 = boostZEx (b1 - b2) ∧ boostZAddCode1 b1 b2 = boostZEx (b1 - b2) := by
  constructor
  · apply boostZEx_ext rfl (r := boostZAddCode0_rad b1 b2)
      (hr := by unfold boostZAddCode0_rad boostZEx_rad; ring) <;> simp only [c08_entries] <;> ring
  · apply boostZEx_ext rfl (r := boostZAddCode1_rad b1 b2)
      (hr := by unfold boostZAddCode1_rad boostZEx_rad; ring) <;> simp only [c08_entries] <;> ring

theorem boostZMulCode_eq (b1 b2 : ℝ) :
    boostZMulCode0 b1 b2 = boostZEx (-b1 / b2) ∧ boostZMulCode1 b1 b2 = boostZEx (-b1 / b2) := by
  constructor
  · apply boostZEx_ext rfl (r := boostZMulCode0_rad b1 b2)
      (hr := by unfold boostZMulCode0_rad boostZEx_rad; ring) <;> simp only [c08_entries] <;> ring
  · apply boostZEx_ext rfl (r := boostZMulCode1_rad b1 b2)
      (hr := by unfold boostZMulCode1_rad boostZEx_rad; ring) <;> simp only [c08_entries] <;> ring

theorem boostZPowCode_eq (b1 b2 : ℝ) :
    boostZPowCode0 b1 b2 = boostZEx (b1 ^ 2) ∧ boostZPowCode1 b1 b2 = boostZEx (b1 ^ 2) := by
  constructor
  · apply boostZEx_ext rfl (r := boostZPowCode0_rad b1 b2)
      (hr := by unfold boostZPowCode0_rad boostZEx_rad; ring) <;> simp only [c08_entries] <;> ring
  · apply boostZEx_ext rfl (r := boostZPowCode1_rad b1 b2)
      (hr := by unfold boostZPowCode1_rad boostZEx_rad; ring) <;> simp only [c08_entries] <;> ring

theorem rotAddCode_eq (b1 b2 : ℝ) :
    (rotYAddCode0 b1 b2 = rotYEx (b1 - b2) ∧ rotYAddCode1 b1 b2 = rotYEx (b1 - b2))
      ∧ (rotZAddCode0 b1 b2 = rotZEx (b1 - b2) ∧ rotZAddCode1 b1 b2 = rotZEx (b1 - b2)) := by
  have h : b1 + (-1 : ℝ) * b2 = b1 - b2 := by ring
  refine ⟨⟨?_, ?_⟩, ⟨?_, ?_⟩⟩
  · apply rotYEx_ext h <;> simp only [c08_entries]
    ring
  · apply rotYEx_ext h <;> simp only [c08_entries]
    ring
  · apply rotZEx_ext h <;> simp only [c08_entries]
    ring
  · apply rotZEx_ext h <;> simp only [c08_entries]
    ring

theorem rotMulCode_eq (b1 b2 : ℝ) :
    (rotYMulCode0 b1 b2 = rotYEx (-b1 / b2) ∧ rotYMulCode1 b1 b2 = rotYEx (-b1 / b2))
      ∧ (rotZMulCode0 b1 b2 = rotZEx (-b1 / b2) ∧ rotZMulCode1 b1 b2 = rotZEx (-b1 / b2)) := by
  have h : -(b1 * b2⁻¹) = -b1 / b2 := by ring
  refine ⟨⟨?_, ?_⟩, ⟨?_, ?_⟩⟩
  · apply rotYEx_ext h <;> simp only [c08_entries, Real.cos_neg, Real.sin_neg] <;> ring
  · apply rotYEx_ext h <;> simp only [c08_entries, Real.cos_neg, Real.sin_neg] <;> ring
  · apply rotZEx_ext h <;> simp only [c08_entries, Real.cos_neg, Real.sin_neg] <;> ring
  · apply rotZEx_ext h <;> simp only [c08_entries, Real.cos_neg, Real.sin_neg] <;> ring

theorem rotPowCode_eq (b1 b2 : ℝ) :
    (rotYPowCode0 b1 b2 = rotYEx (b1 ^ 2) ∧ rotYPowCode1 b1 b2 = rotYEx (b1 ^ 2))
      ∧ (rotZPowCode0 b1 b2 = rotZEx (b1 ^ 2) ∧ rotZPowCode1 b1 b2 = rotZEx (b1 ^ 2)) :=
  ⟨⟨rotYCode0_eq _, rotYCode1_eq _⟩, rotZCode0_eq _, rotZCode1_eq _⟩

/-- `BoostMatrix(ArraySum(p, q))`: the code (`(p + q)[:, k]`, `sum((p + q)[:, 1:]**2, axis=1)`) is the
boost matrix of the summed momentum. -/
theorem boostSumCode_eq (E px py pz Eq qx qy qz : ℝ) :
    boostSumCode0 E px py pz Eq qx qy qz = boostEx (E + Eq) (px + qx) (py + qy) (pz + qz)
      ∧ boostSumCode1 E px py pz Eq qx qy qz = boostEx (E + Eq) (px + qx) (py + qy) (pz + qz) :=
  ⟨boostCode0_eq _ _ _ _, boostCode1_eq _ _ _ _⟩

theorem negMomSumCode_eq (E px py pz Eq qx qy qz : ℝ) :
    negMomSumCode0 E px py pz Eq qx qy qz = ![E + Eq, -(px + qx), -(py + qy), -(pz + qz)]
      ∧ negMomSumCode1 E px py pz Eq qx qy qz = ![E + Eq, -(px + qx), -(py + qy), -(pz + qz)] := by
  constructor
  · apply vec_literal_ext <;> simp only [c08_entries] <;> ring
  · apply vec_literal_ext <;> simp only [c08_entries] <;> ring

theorem metricSumCode_eq : metricSumCode0 = metricEx ∧ metricSumCode1 = metricEx :=
  ⟨metricCode0_eq, metricCode1_eq⟩

/-! ## Generated einsum code (ArrayMultiplication / MatrixMultiplication), n = 2 and 3 arrays -/

/-- The code generated for `NegativeMomentum(p)` (einsum of the metric with `p`) is `(E, −p⃗)`. -/
theorem negMomCode_eq (E px py pz : ℝ) :
    negMomCode0 E px py pz = ![E, -px, -py, -pz] ∧ negMomCode1 E px py pz = ![E, -px, -py, -pz] := by
  constructor
  · apply vec_literal_ext <;> simp only [c08_entries] <;> ring
  · apply vec_literal_ext <;> simp only [c08_entries] <;> ring

/-- The code generated for `ArrayMultiplication(BoostMatrix(p), p)` computes `B(p)·p` … -/
theorem boostSelfCode0_eq (E px py pz : ℝ) :
    boostSelfCode0 E px py pz = (boostEx E px py pz).mulVec ![E, px, py, pz] := by
  rw [← boostCode0_eq]
  exact (mulVec_literal ..).symm

theorem boostSelfCode1_eq (E px py pz : ℝ) :
    boostSelfCode1 E px py pz = (boostEx E px py pz).mulVec ![E, px, py, pz] := by
  rw [← boostCode1_eq]
  exact (mulVec_literal ..).symm

/-- … hence the generated code sends every time-like `p` to its rest frame `(m,0,0,0)`. -/
theorem boostSelfCode_rest (E px py pz : ℝ) (hE : 0 < E) (hp : 0 < px ^ 2 + py ^ 2 + pz ^ 2)
    (hm : px ^ 2 + py ^ 2 + pz ^ 2 < E ^ 2) :
    boostSelfCode0 E px py pz = ![mass E px py pz, 0, 0, 0]
      ∧ boostSelfCode1 E px py pz = ![mass E px py pz, 0, 0, 0] := by
  rw [boostSelfCode0_eq, boostSelfCode1_eq, boost_self E px py pz hE hp hm]
  exact ⟨rfl, rfl⟩

/-- The code generated for `MatrixMultiplication(R_y(a), R_y(b))` is the matrix product, hence
`R_y(a+b)`; likewise for `R_z`. -/
theorem rotYYCode_eq (a b : ℝ) :
    rotYYCode0 a b = rotYEx (a + b) ∧ rotYYCode1 a b = rotYEx (a + b) := by
  have h0 : rotYYCode0 a b = rotYCode0 a * rotYCode0 b := (mul_literal ..).symm
  have h1 : rotYYCode1 a b = rotYCode1 a * rotYCode1 b := (mul_literal ..).symm
  rw [h0, h1, rotYCode0_eq, rotYCode0_eq, rotYCode1_eq, rotYCode1_eq, rotY_add]
  exact ⟨rfl, rfl⟩

theorem rotZZCode_eq (a b : ℝ) :
    rotZZCode0 a b = rotZEx (a + b) ∧ rotZZCode1 a b = rotZEx (a + b) := by
  have h0 : rotZZCode0 a b = rotZCode0 a * rotZCode0 b := (mul_literal ..).symm
  have h1 : rotZZCode1 a b = rotZCode1 a * rotZCode1 b := (mul_literal ..).symm
  rw [h0, h1, rotZCode0_eq, rotZCode0_eq, rotZCode1_eq, rotZCode1_eq, rotZ_add]
  exact ⟨rfl, rfl⟩

/-- The code generated for `ArrayMultiplication(R_y(a), R_z(b), p)` (three arrays) computes
`R_y(a)·(R_z(b)·p)`. -/
theorem rotYZpCode_eq (a b E px py pz : ℝ) :
    rotYZpCode0 a b E px py pz = (rotYEx a * rotZEx b).mulVec ![E, px, py, pz]
      ∧ rotYZpCode1 a b E px py pz = (rotYEx a * rotZEx b).mulVec ![E, px, py, pz] := by
  unfold rotYEx rotZEx
  rw [mul_literal, mulVec_literal]
  constructor
  · apply vec_literal_ext <;> simp only [c08_entries] <;> ring
  · apply vec_literal_ext <;> simp only [c08_entries] <;> ring

/-! ## Wrapped momenta: nested space inversions, inverted sums, boosted momenta

`BoostMatrix.evaluate()`, `BoostMatrix.as_explicit()`, `NegativeMomentum.evaluate()` and the printers receive
the momentum as an expression TREE. Whatever they do with the shape of that tree (unwrap a
`NegativeMomentum`, distribute over an `ArraySum`, treat an already boosted momentum specially) is invisible
on a bare symbol and on a single inversion. The families below are regenerated from instances whose argument
is such a tree; every theorem says: explicit matrix and generated code (cse off / on) are the boost matrix
`boostEx` AT THE VALUE of the argument — equalities of functions on all reals. In the generated file repeated
subterms are named (`<family>_s<i>`, `<family>_v<k>_<i>`), never rewritten: the explicit matrix and the code without cse
unfold to `boostEx` resp. `boostCode0` at the named argument vector, so only that vector is evaluated; the cse code
reorders its subterms per family and is compared entry by entry (`boostCse_ext`). -/

/-- `BoostMatrix(NegativeMomentum(NegativeMomentum(p)))` — two space inversions cancel: the explicit matrix and
the generated code (cse off / on) are the boost matrix of `p` itself (all reals). -/
theorem boostNeg2_eq (E px py pz : ℝ) :
    boostNeg2Ex E px py pz = boostEx E px py pz
      ∧ boostNeg2Code0 E px py pz = boostEx E px py pz
      ∧ boostNeg2Code1 E px py pz = boostEx E px py pz := by
  refine ⟨?_, ?_, ?_⟩
  · apply boostEx_congr rfl <;> simp only [c08_entries, c08_vectors]
  · apply boostEx_congr (boostCode0_eq _ _ _ _) <;> simp only [c08_entries, c08_vectors]
  · apply boostCse_ext (by rfl) <;> simp only [c08_entries, c08_vectors] <;> ring

/-- Three space inversions are one (explicit matrix and the code generated with cse; without cse the printer
repeats the nested argument in every `len(..)` — 8 MB of source — so that variant is not regenerated). -/
theorem boostNeg3_eq (E px py pz : ℝ) :
    boostNeg3Ex E px py pz = boostEx E (-px) (-py) (-pz)
      ∧ boostNeg3Code1 E px py pz = boostEx E (-px) (-py) (-pz) := by
  constructor
  · apply boostEx_congr rfl <;> simp only [c08_entries, c08_vectors]
  · apply boostCse_ext (by rfl) <;> simp only [c08_entries, c08_vectors] <;> ring

/-- `BoostMatrix(NegativeMomentum(ArraySum(p, q)))` is the boost matrix of the inverted sum. -/
theorem boostNegSum_eq (E px py pz Eq qx qy qz : ℝ) :
    boostNegSumEx E px py pz Eq qx qy qz = boostEx (E + Eq) (-(px + qx)) (-(py + qy)) (-(pz + qz))
      ∧ boostNegSumCode0 E px py pz Eq qx qy qz = boostEx (E + Eq) (-(px + qx)) (-(py + qy)) (-(pz + qz))
      ∧ boostNegSumCode1 E px py pz Eq qx qy qz = boostEx (E + Eq) (-(px + qx)) (-(py + qy)) (-(pz + qz)) := by
  refine ⟨?_, ?_, ?_⟩
  · apply boostEx_congr rfl <;> simp only [c08_entries, c08_vectors]
  · apply boostEx_congr (boostCode0_eq _ _ _ _) <;> simp only [c08_entries, c08_vectors]
  · apply boostCse_ext (by rfl) <;> simp only [c08_entries, c08_vectors] <;> ring

/-- `BoostMatrix(ArraySum(NegativeMomentum(p), NegativeMomentum(q)))`: the sum of the inverted momenta is the
inverted sum. -/
theorem boostSumNeg_eq (E px py pz Eq qx qy qz : ℝ) :
    boostSumNegEx E px py pz Eq qx qy qz = boostEx (E + Eq) (-(px + qx)) (-(py + qy)) (-(pz + qz))
      ∧ boostSumNegCode0 E px py pz Eq qx qy qz = boostEx (E + Eq) (-(px + qx)) (-(py + qy)) (-(pz + qz))
      ∧ boostSumNegCode1 E px py pz Eq qx qy qz = boostEx (E + Eq) (-(px + qx)) (-(py + qy)) (-(pz + qz)) := by
  refine ⟨?_, ?_, ?_⟩
  · apply boostEx_congr rfl <;> simp only [c08_entries, c08_vectors] <;> ring
  · apply boostEx_congr (boostCode0_eq _ _ _ _) <;> simp only [c08_entries, c08_vectors] <;> ring
  · apply boostCse_ext (by rfl) <;> simp only [c08_entries, c08_vectors] <;> ring

/-- `BoostMatrix(ArraySum(p, NegativeMomentum(q)))`: only the second term is inverted. -/
theorem boostSumMix_eq (E px py pz Eq qx qy qz : ℝ) :
    boostSumMixEx E px py pz Eq qx qy qz = boostEx (E + Eq) (px - qx) (py - qy) (pz - qz)
      ∧ boostSumMixCode0 E px py pz Eq qx qy qz = boostEx (E + Eq) (px - qx) (py - qy) (pz - qz)
      ∧ boostSumMixCode1 E px py pz Eq qx qy qz = boostEx (E + Eq) (px - qx) (py - qy) (pz - qz) := by
  refine ⟨?_, ?_, ?_⟩
  · apply boostEx_congr rfl <;> simp only [c08_entries, c08_vectors] <;> ring
  · apply boostEx_congr (boostCode0_eq _ _ _ _) <;> simp only [c08_entries, c08_vectors] <;> ring
  · apply boostCse_ext (by rfl) <;> simp only [c08_entries, c08_vectors] <;> ring

/-- `BoostMatrix(NegativeMomentum(ArraySum(NegativeMomentum(p), q)))`: an inversion of a sum that contains an
inversion — `(E_p + E_q, p⃗ − q⃗)`. -/
theorem boostNegMix_eq (E px py pz Eq qx qy qz : ℝ) :
    boostNegMixEx E px py pz Eq qx qy qz = boostEx (E + Eq) (px - qx) (py - qy) (pz - qz)
      ∧ boostNegMixCode0 E px py pz Eq qx qy qz = boostEx (E + Eq) (px - qx) (py - qy) (pz - qz)
      ∧ boostNegMixCode1 E px py pz Eq qx qy qz = boostEx (E + Eq) (px - qx) (py - qy) (pz - qz) := by
  refine ⟨?_, ?_, ?_⟩
  · apply boostEx_congr rfl <;> simp only [c08_entries, c08_vectors] <;> ring
  · apply boostEx_congr (boostCode0_eq _ _ _ _) <;> simp only [c08_entries, c08_vectors] <;> ring
  · apply boostCse_ext (by rfl) <;> simp only [c08_entries, c08_vectors] <;> ring

/-- The generated code of the nested / summed space inversions themselves: `N(N(p)) = p`,
`N(N(N(p))) = (E, −p⃗)`. -/
theorem negMomNestedCode_eq (E px py pz : ℝ) :
    negMom2Code0 E px py pz = ![E, px, py, pz] ∧ negMom2Code1 E px py pz = ![E, px, py, pz]
      ∧ negMom3Code1 E px py pz = ![E, -px, -py, -pz] := by
  refine ⟨?_, ?_, ?_⟩
  · apply vec_literal_ext <;> simp only [c08_entries, c08_vectors]
  · apply vec_literal_ext <;> simp only [c08_entries, c08_vectors]
  · apply vec_literal_ext <;> simp only [c08_entries, c08_vectors]

theorem sumNegCode_eq (E px py pz Eq qx qy qz : ℝ) :
    sumNegCode0 E px py pz Eq qx qy qz = ![E + Eq, -(px + qx), -(py + qy), -(pz + qz)]
      ∧ sumNegCode1 E px py pz Eq qx qy qz = ![E + Eq, -(px + qx), -(py + qy), -(pz + qz)] := by
  constructor
  · apply vec_literal_ext <;> simp only [c08_entries, c08_vectors] <;> ring
  · apply vec_literal_ext <;> simp only [c08_entries, c08_vectors] <;> ring

/-- **Inversion commutes with the sum**: the code generated for `NegativeMomentum(ArraySum(p, q))` and for
`ArraySum(NegativeMomentum(p), NegativeMomentum(q))` compute the same vector. -/
theorem negMomSum_eq_sumNeg (E px py pz Eq qx qy qz : ℝ) :
    negMomSumCode0 E px py pz Eq qx qy qz = sumNegCode0 E px py pz Eq qx qy qz
      ∧ negMomSumCode1 E px py pz Eq qx qy qz = sumNegCode1 E px py pz Eq qx qy qz := by
  rw [(negMomSumCode_eq E px py pz Eq qx qy qz).1, (negMomSumCode_eq E px py pz Eq qx qy qz).2,
    (sumNegCode_eq E px py pz Eq qx qy qz).1, (sumNegCode_eq E px py pz Eq qx qy qz).2]
  exact ⟨rfl, rfl⟩

theorem negMixCode_eq (E px py pz Eq qx qy qz : ℝ) :
    negMixCode0 E px py pz Eq qx qy qz = ![E + Eq, px - qx, py - qy, pz - qz]
      ∧ negMixCode1 E px py pz Eq qx qy qz = ![E + Eq, px - qx, py - qy, pz - qz] := by
  constructor
  · apply vec_literal_ext <;> simp only [c08_entries, c08_vectors] <;> ring
  · apply vec_literal_ext <;> simp only [c08_entries, c08_vectors] <;> ring

/-- `B(p) · B(η p) = 1`: the boost of `p` is the inverse of the boost of the inverted momentum as well. -/
theorem boost_inverted_inverse (E px py pz : ℝ) (hE : 0 < E) (hp : 0 < px ^ 2 + py ^ 2 + pz ^ 2)
    (hm : px ^ 2 + py ^ 2 + pz ^ 2 < E ^ 2) :
    boostEx E px py pz * boostEx E (-px) (-py) (-pz) = 1 := by
  have hp' : 0 < (-px) ^ 2 + (-py) ^ 2 + (-pz) ^ 2 := by simpa using hp
  have hm' : (-px) ^ 2 + (-py) ^ 2 + (-pz) ^ 2 < E ^ 2 := by simpa using hm
  have h := boost_neg_inverse E (-px) (-py) (-pz) hE hp' hm'
  rw [boostNeg_eq] at h
  simpa only [neg_neg] using h

/-- **The inverse-boost statement for `q = NegativeMomentum(p)`**: the code generated for
`BoostMatrix(NegativeMomentum(q))` (two inversions) yields the inverse of the code generated for
`BoostMatrix(q)` (one inversion), cse off and on. -/
theorem boostNeg2Code_inverse (E px py pz : ℝ) (hE : 0 < E) (hp : 0 < px ^ 2 + py ^ 2 + pz ^ 2)
    (hm : px ^ 2 + py ^ 2 + pz ^ 2 < E ^ 2) :
    boostNeg2Code0 E px py pz * boostNegCode0 E px py pz = 1
      ∧ boostNeg2Code1 E px py pz * boostNegCode1 E px py pz = 1 := by
  rw [(boostNeg2_eq E px py pz).2.1, (boostNeg2_eq E px py pz).2.2, boostNegCode0_eq, boostNegCode1_eq,
    boostNeg_eq]
  exact ⟨boost_inverted_inverse E px py pz hE hp hm, boost_inverted_inverse E px py pz hE hp hm⟩

/-- The code generated for `BoostMatrix(NegativeMomentum(NegativeMomentum(p)))` sends `p` to its rest frame and
is a proper orthochronous Lorentz matrix. -/
theorem boostNeg2Code_proper (E px py pz : ℝ) (hE : 0 < E) (hp : 0 < px ^ 2 + py ^ 2 + pz ^ 2)
    (hm : px ^ 2 + py ^ 2 + pz ^ 2 < E ^ 2) :
    ((boostNeg2Code0 E px py pz).mulVec ![E, px, py, pz] = ![mass E px py pz, 0, 0, 0]
        ∧ (boostNeg2Code0 E px py pz)ᵀ * metricEx * boostNeg2Code0 E px py pz = metricEx
        ∧ (boostNeg2Code0 E px py pz).det = 1 ∧ 1 ≤ boostNeg2Code0 E px py pz 0 0)
      ∧ ((boostNeg2Code1 E px py pz).mulVec ![E, px, py, pz] = ![mass E px py pz, 0, 0, 0]
        ∧ (boostNeg2Code1 E px py pz)ᵀ * metricEx * boostNeg2Code1 E px py pz = metricEx
        ∧ (boostNeg2Code1 E px py pz).det = 1 ∧ 1 ≤ boostNeg2Code1 E px py pz 0 0) := by
  rw [(boostNeg2_eq E px py pz).2.1, (boostNeg2_eq E px py pz).2.2]
  exact ⟨⟨boost_self E px py pz hE hp hm, boost_lorentz E px py pz hE hp hm, boost_det E px py pz hE hp hm,
      boost_00_ge_one E px py pz hE hp hm⟩,
    ⟨boost_self E px py pz hE hp hm, boost_lorentz E px py pz hE hp hm, boost_det E px py pz hE hp hm,
      boost_00_ge_one E px py pz hE hp hm⟩⟩

/-- The ONE function generated for `MatrixMultiplication(BoostMatrix(NegativeMomentum(p)), BoostMatrix(p))`
is the product of the two explicit boost matrices (all reals) … -/
theorem invPairCode_eq (E px py pz : ℝ) :
    invPairCode0 E px py pz = boostEx E (-px) (-py) (-pz) * boostEx E px py pz
      ∧ invPairCode1 E px py pz = boostEx E (-px) (-py) (-pz) * boostEx E px py pz := by
  constructor
  · rw [show invPairCode0 E px py pz = _ * _ from (mul_literal ..).symm]
    congr 1
    · apply boostEx_congr (boostCode0_eq _ _ _ _) <;> simp only [c08_entries, c08_vectors]
    · exact boostCode0_eq _ _ _ _
  · rw [show invPairCode1 E px py pz = _ * _ from (mul_literal ..).symm]
    congr 1
    · apply boostCse_ext (by rfl) <;> simp only [c08_entries, c08_vectors] <;> ring
    · apply boostCse_ext (by rfl) <;> simp only [c08_entries, c08_vectors] <;> ring

/-- … and the same for the already inverted momentum `q = NegativeMomentum(p)`:
`MatrixMultiplication(BoostMatrix(NegativeMomentum(q)), BoostMatrix(q))`. -/
theorem invPairNegCode_eq (E px py pz : ℝ) :
    invPairNegCode0 E px py pz = boostEx E px py pz * boostEx E (-px) (-py) (-pz)
      ∧ invPairNegCode1 E px py pz = boostEx E px py pz * boostEx E (-px) (-py) (-pz) := by
  constructor
  · rw [show invPairNegCode0 E px py pz = _ * _ from (mul_literal ..).symm]
    congr 1
    · apply boostEx_congr (boostCode0_eq _ _ _ _) <;> simp only [c08_entries, c08_vectors]
    · apply boostEx_congr (boostCode0_eq _ _ _ _) <;> simp only [c08_entries, c08_vectors]
  · rw [show invPairNegCode1 E px py pz = _ * _ from (mul_literal ..).symm]
    congr 1
    · apply boostCse_ext (by rfl) <;> simp only [c08_entries, c08_vectors] <;> ring
    · apply boostCse_ext (by rfl) <;> simp only [c08_entries, c08_vectors] <;> ring

/-- Hence both generated products are the unit matrix for every time-like `p` with `E > 0`, `p⃗ ≠ 0`. -/
theorem invPairCode_one (E px py pz : ℝ) (hE : 0 < E) (hp : 0 < px ^ 2 + py ^ 2 + pz ^ 2)
    (hm : px ^ 2 + py ^ 2 + pz ^ 2 < E ^ 2) :
    (invPairCode0 E px py pz = 1 ∧ invPairCode1 E px py pz = 1)
      ∧ (invPairNegCode0 E px py pz = 1 ∧ invPairNegCode1 E px py pz = 1) := by
  have h := boost_neg_inverse E px py pz hE hp hm
  rw [boostNeg_eq] at h
  rw [(invPairCode_eq E px py pz).1, (invPairCode_eq E px py pz).2, (invPairNegCode_eq E px py pz).1,
    (invPairNegCode_eq E px py pz).2]
  exact ⟨⟨h, h⟩, boost_inverted_inverse E px py pz hE hp hm, boost_inverted_inverse E px py pz hE hp hm⟩

/-! ### A momentum boosted by another boost (what `compute_boost_chain` builds) -/

/-- component `i` of `B(q)·p`: the momentum `p` boosted with the explicit boost matrix of `q` -/
noncomputable def boostedBy (Eq qx qy qz E px py pz : ℝ) (i : Fin 4) : ℝ :=
  (boostEx Eq qx qy qz).mulVec ![E, px, py, pz] i

/-! `BoostMatrix(ArrayMultiplication(BoostMatrix(q), p))`: explicit matrix and generated code (cse off / on)
are the boost matrix of the boosted momentum `B(q)·p` (all reals). The named vector `…_v0_i` of each family
is the matrix-times-vector result inside the generated code resp. the explicit matrix. -/

theorem boostChainEx_eq (E px py pz Eq qx qy qz : ℝ) :
    boostChainEx E px py pz Eq qx qy qz
      = boostEx (boostedBy Eq qx qy qz E px py pz 0) (boostedBy Eq qx qy qz E px py pz 1)
          (boostedBy Eq qx qy qz E px py pz 2) (boostedBy Eq qx qy qz E px py pz 3) := by
  have hB : ![_, _, _, _] = (boostEx Eq qx qy qz).mulVec ![E, px, py, pz] := (mulVec_literal ..).symm
  exact boostEx_congr rfl (congrFun hB 0) (congrFun hB 1) (congrFun hB 2) (congrFun hB 3)

theorem boostChainCode0_eq (E px py pz Eq qx qy qz : ℝ) :
    boostChainCode0 E px py pz Eq qx qy qz
      = boostEx (boostedBy Eq qx qy qz E px py pz 0) (boostedBy Eq qx qy qz E px py pz 1)
          (boostedBy Eq qx qy qz E px py pz 2) (boostedBy Eq qx qy qz E px py pz 3) := by
  have hB : ![_, _, _, _] = (boostCode0 Eq qx qy qz).mulVec ![E, px, py, pz] := (mulVec_literal ..).symm
  rw [boostCode0_eq] at hB
  exact boostEx_congr (boostCode0_eq _ _ _ _) (congrFun hB 0) (congrFun hB 1) (congrFun hB 2) (congrFun hB 3)

theorem boostChainCode1_eq (E px py pz Eq qx qy qz : ℝ) :
    boostChainCode1 E px py pz Eq qx qy qz
      = boostEx (boostedBy Eq qx qy qz E px py pz 0) (boostedBy Eq qx qy qz E px py pz 1)
          (boostedBy Eq qx qy qz E px py pz 2) (boostedBy Eq qx qy qz E px py pz 3) := by
  have hB : ![_, _, _, _] = (boostCode1 Eq qx qy qz).mulVec ![E, px, py, pz] := (mulVec_literal ..).symm
  rw [boostCode1_eq] at hB
  apply boostCse_ext (by rfl)
  case h0 => exact congrFun hB 0
  case h1 => exact congrFun hB 1
  case h2 => exact congrFun hB 2
  case h3 => exact congrFun hB 3
  all_goals simp only [c08_entries]; ring

/-! ## The einsum subscripts generated for ANY number of arrays

`Model/C08Einsum.lean` models `_create_einsum_subscripts` of both classes line by line (tied to the
source by exact string comparison for n = 0 … 24 on every run) and gives numpy's explicit-mode
einsum semantics for one event. The alphabet of the source ends at `z`: `n ≤ 18` arrays for
`ArrayMultiplication`, `n ≤ 17` for `MatrixMultiplication`; beyond that the generated string has
fewer operand groups than arrays (numpy raises) — see the two `_limit` theorems. -/

section Einsum
open Ampverif.Model.C08Einsum

/-- **ArrayMultiplication, all n**: for `n` arrays (`n−1` matrices and a vector), any dimension
`d` and any commutative semiring, the generated subscripts denote `M₁·(M₂·(…(M_{n−1}·v)))`. -/
theorem einsum_arrayMultiplication {α : Type} [CommSemiring α] (d n : Nat) (h1 : 1 ≤ n)
    (h18 : n ≤ 18) (Ms : List (List Nat → α)) (v : List Nat → α) (hlen : Ms.length + 1 = n)
    (a : Nat) :
    einsum d (subsA n) (Ms ++ [v]) [a] = chainVec d Ms v a := by
  open Ampverif.Lemmas.C08Einsum in
  obtain ⟨rest, hl, hnd, hrl⟩ := letters_spec n h1 h18
  have : subsA n = ⟨groupsA ('i' :: rest), ['i']⟩ := by simp [subsA, hl]
  rw [this]
  exact einsum_groupsA d Ms v 'i' rest hnd (by omega) a

/-- **MatrixMultiplication, all n**: the generated subscripts denote the matrix product
`M₁·M₂·…·M_n`. -/
theorem einsum_matrixMultiplication {α : Type} [CommSemiring α] (d n : Nat) (h1 : 1 ≤ n)
    (h17 : n ≤ 17) (Ms : List (List Nat → α)) (hlen : Ms.length = n) (a b : Nat) :
    einsum d (subsM n) Ms [a, b] = chainMat d Ms a b := by
  open Ampverif.Lemmas.C08Einsum in
  obtain ⟨rest, hl, hnd, hrl⟩ := letters_spec (n + 1) (by omega) (by omega)
  have hne : rest ≠ [] := by
    intro h; subst h; simp at hrl; omega
  have hlast : ('i' :: rest).getLast?.getD 'i' = rest.getLast hne := by
    rw [List.getLast?_eq_some_getLast (List.cons_ne_nil _ _)]
    simp [List.getLast_cons hne]
  have : subsM n = ⟨groupsM ('i' :: rest), ['i', rest.getLast hne]⟩ := by
    simp only [subsM, hl, hlast]
  rw [this]
  exact einsum_groupsM d Ms 'i' rest hne hnd (by omega) a b

/-- One index group per array up to the alphabet limit … -/
theorem einsum_group_count (n : Nat) :
    (n ≤ 18 → (subsA n).operands.length = n) ∧ (n ≤ 17 → (subsM n).operands.length = n) := by
  simp only [subsA, subsM, Ampverif.Lemmas.C08Einsum.groupsA_length,
    Ampverif.Lemmas.C08Einsum.groupsM_length, Ampverif.Lemmas.C08Einsum.letters_length]
  omega

/-- … and too few beyond it (19 arrays get 18 groups: numpy rejects the call). -/
theorem einsum_arrayMultiplication_limit : (subsA 19).operands.length = 18 := by
  simp only [subsA, Ampverif.Lemmas.C08Einsum.groupsA_length, Ampverif.Lemmas.C08Einsum.letters_length]
  rfl

theorem einsum_matrixMultiplication_limit : (subsM 18).operands.length = 17 := by
  simp only [subsM, Ampverif.Lemmas.C08Einsum.groupsM_length, Ampverif.Lemmas.C08Einsum.letters_length]
  rfl

/-- The strings for the array counts that occur in ampform's own expressions. -/
theorem einsum_strings :
    createA 2 = "...ij,...j->...i" ∧ createA 3 = "...ij,...jk,...k->...i"
      ∧ createA 4 = "...ij,...jk,...kl,...l->...i" ∧ createM 2 = "...ij,...jk->...ik" := by
  decide

/-- `chainVec` with one matrix is Mathlib's `Matrix.mulVec` (d = 4). -/
theorem chainVec_eq_mulVec (M : Matrix (Fin 4) (Fin 4) ℝ) (v : Fin 4 → ℝ) (a : Fin 4) :
    chainVec 4 [fun idx => M (Fin.ofNat 4 (idx.getD 0 0)) (Fin.ofNat 4 (idx.getD 1 0))]
        (fun idx => v (Fin.ofNat 4 (idx.getD 0 0))) a.val
      = (M.mulVec v) a := by
  fin_cases a <;>
    simp [chainVec, sumRange, List.range, List.range.loop, Matrix.mulVec, dotProduct,
      Fin.sum_univ_four, Fin.ofNat] <;> ring

end Einsum

/-! ## Non-vacuity: the hypotheses are satisfiable, on non-trivial momenta -/

example : (0 : ℝ) < 5 ∧ (0 : ℝ) < 1 ^ 2 + 2 ^ 2 + (-3) ^ 2 ∧ (1 : ℝ) ^ 2 + 2 ^ 2 + (-3) ^ 2 < 5 ^ 2 := by
  norm_num

example : (boostEx 5 1 2 (-3)).det = 1 := boost_det 5 1 2 (-3) (by norm_num) (by norm_num) (by norm_num)

/-- the inverse-boost statement for an already inverted momentum, at a concrete non-trivial momentum -/
example : boostNeg2Code0 5 1 2 (-3) * boostNegCode0 5 1 2 (-3) = 1 :=
  (boostNeg2Code_inverse 5 1 2 (-3) (by norm_num) (by norm_num) (by norm_num)).1

example : ((3 : ℝ) / 5) ^ 2 < 1 := by norm_num

example : (boostZEx (3 / 5)).det = 1 := boostZ_det (3 / 5) (by norm_num)

/-- a concrete instance of the general-n einsum theorem: four arrays over ℤ, dimension 3 -/
example (M1 M2 M3 v : List Nat → ℤ) (a : Nat) :
    Ampverif.Model.C08Einsum.einsum 3 (Ampverif.Model.C08Einsum.subsA 4) ([M1, M2, M3] ++ [v]) [a]
      = Ampverif.Model.C08Einsum.chainVec 3 [M1, M2, M3] v a :=
  einsum_arrayMultiplication 3 4 (by norm_num) (by norm_num) [M1, M2, M3] v rfl a

end Ampverif.Props.C08
