/-
C09, three and four poles (thorough tier) — the full `formulate(n, n_R)` of both K-matrix classes for
n ∈ {1,2}, n_R ∈ {3,4} (`Ampverif.Gen.C09P34.*`, regenerated from the working tree) is the symbolic
matrix expression of `Ampverif.Gen.C09` composed with the regenerated parametrisation, hence unitary
and symmetric for real parameters (relativistic: under the guard that the phase-space factors at
`s` and at every pole mass are positive).
-/
import Ampverif.Gen.C09P34
import Ampverif.Props.C09

set_option linter.unusedVariables false
set_option linter.unusedSectionVars false

namespace Ampverif.Props.C09P34
open Ampverif.Gen.C09P34 Ampverif.Lemmas.C09 Matrix
open Ampverif.Gen.C09 (nrT1_00 nrT1_den1 nrT2_00 nrT2_01 nrT2_10 nrT2_11 nrT2_den1 nrT2_den2
  relT1_00 relTh1_00 relT1_den1 relT2_00 relT2_01 relT2_10 relT2_11 relTh2_00 relTh2_01 relTh2_10
  relTh2_11 relT2_den1)
open Ampverif.Props.C09 (nrT1M nrT2M relT1M relT2M nrT1M_unitary_symmetric nrT2M_unitary_symmetric
  relT1M_unitary_symmetric relT2M_unitary_symmetric)

section NR13
variable (s m_1 m_2 m_3 Gamma_1_0 Gamma_2_0 Gamma_3_0 gamma_1_0 gamma_2_0 gamma_3_0 : ℝ)

local notation "K00" => nrK13_00 s m_1 m_2 m_3 Gamma_1_0 Gamma_2_0 Gamma_3_0 gamma_1_0 gamma_2_0 gamma_3_0
local notation "F00" => nrForm13_00 s m_1 m_2 m_3 Gamma_1_0 Gamma_2_0 Gamma_3_0 gamma_1_0 gamma_2_0 gamma_3_0

theorem nrK13_real (hGamma_1_0 : 0 ≤ Gamma_1_0) (hGamma_2_0 : 0 ≤ Gamma_2_0) (hGamma_3_0 : 0 ≤ Gamma_3_0) :
    IsRe K00 :=
  (isRe_nrDiag.add isRe_nrDiag).add isRe_nrDiag

/-- `formulate(1, 3)` is the symbolic matrix expression with the parametrisation substituted. -/
theorem nrForm13_eq :
    F00 = nrT1_00 K00 := rfl

/-- **`formulate(1, 3)`, non-relativistic: unitary and symmetric** for real parameters. -/
theorem nrForm13_unitary_symmetric (hGamma_1_0 : 0 ≤ Gamma_1_0) (hGamma_2_0 : 0 ≤ Gamma_2_0) (hGamma_3_0 : 0 ≤ Gamma_3_0) :
    (1 + (2 * Complex.I) • (!![F00] : Matrix (Fin 1) (Fin 1) ℂ))ᴴ * (1 + (2 * Complex.I) • (!![F00] : Matrix (Fin 1) (Fin 1) ℂ)) = 1
      ∧ (!![F00] : Matrix (Fin 1) (Fin 1) ℂ)ᵀ = (!![F00] : Matrix (Fin 1) (Fin 1) ℂ) := by
  rw [nrForm13_eq s m_1 m_2 m_3 Gamma_1_0 Gamma_2_0 Gamma_3_0 gamma_1_0 gamma_2_0 gamma_3_0]
  exact nrT1M_unitary_symmetric !![K00] (herm1 (nrK13_real s m_1 m_2 m_3 Gamma_1_0 Gamma_2_0 Gamma_3_0 gamma_1_0 gamma_2_0 gamma_3_0 hGamma_1_0 hGamma_2_0 hGamma_3_0)).1

end NR13

section NR14
variable (s m_1 m_2 m_3 m_4 Gamma_1_0 Gamma_2_0 Gamma_3_0 Gamma_4_0 gamma_1_0 gamma_2_0 gamma_3_0 gamma_4_0 : ℝ)

local notation "K00" => nrK14_00 s m_1 m_2 m_3 m_4 Gamma_1_0 Gamma_2_0 Gamma_3_0 Gamma_4_0 gamma_1_0 gamma_2_0 gamma_3_0 gamma_4_0
local notation "F00" => nrForm14_00 s m_1 m_2 m_3 m_4 Gamma_1_0 Gamma_2_0 Gamma_3_0 Gamma_4_0 gamma_1_0 gamma_2_0 gamma_3_0 gamma_4_0

theorem nrK14_real (hGamma_1_0 : 0 ≤ Gamma_1_0) (hGamma_2_0 : 0 ≤ Gamma_2_0) (hGamma_3_0 : 0 ≤ Gamma_3_0) (hGamma_4_0 : 0 ≤ Gamma_4_0) :
    IsRe K00 :=
  ((isRe_nrDiag.add isRe_nrDiag).add isRe_nrDiag).add isRe_nrDiag

/-- `formulate(1, 4)` is the symbolic matrix expression with the parametrisation substituted. -/
theorem nrForm14_eq :
    F00 = nrT1_00 K00 := rfl

/-- **`formulate(1, 4)`, non-relativistic: unitary and symmetric** for real parameters. -/
theorem nrForm14_unitary_symmetric (hGamma_1_0 : 0 ≤ Gamma_1_0) (hGamma_2_0 : 0 ≤ Gamma_2_0) (hGamma_3_0 : 0 ≤ Gamma_3_0) (hGamma_4_0 : 0 ≤ Gamma_4_0) :
    (1 + (2 * Complex.I) • (!![F00] : Matrix (Fin 1) (Fin 1) ℂ))ᴴ * (1 + (2 * Complex.I) • (!![F00] : Matrix (Fin 1) (Fin 1) ℂ)) = 1
      ∧ (!![F00] : Matrix (Fin 1) (Fin 1) ℂ)ᵀ = (!![F00] : Matrix (Fin 1) (Fin 1) ℂ) := by
  rw [nrForm14_eq s m_1 m_2 m_3 m_4 Gamma_1_0 Gamma_2_0 Gamma_3_0 Gamma_4_0 gamma_1_0 gamma_2_0 gamma_3_0 gamma_4_0]
  exact nrT1M_unitary_symmetric !![K00] (herm1 (nrK14_real s m_1 m_2 m_3 m_4 Gamma_1_0 Gamma_2_0 Gamma_3_0 Gamma_4_0 gamma_1_0 gamma_2_0 gamma_3_0 gamma_4_0 hGamma_1_0 hGamma_2_0 hGamma_3_0 hGamma_4_0)).1

end NR14

section NR23
variable (s m_1 m_2 m_3 Gamma_1_0 Gamma_1_1 Gamma_2_0 Gamma_2_1 Gamma_3_0 Gamma_3_1 gamma_1_0 gamma_1_1 gamma_2_0 gamma_2_1 gamma_3_0 gamma_3_1 : ℝ)

local notation "K00" => nrK23_00 s m_1 m_2 m_3 Gamma_1_0 Gamma_1_1 Gamma_2_0 Gamma_2_1 Gamma_3_0 Gamma_3_1 gamma_1_0 gamma_1_1 gamma_2_0 gamma_2_1 gamma_3_0 gamma_3_1
local notation "K01" => nrK23_01 s m_1 m_2 m_3 Gamma_1_0 Gamma_1_1 Gamma_2_0 Gamma_2_1 Gamma_3_0 Gamma_3_1 gamma_1_0 gamma_1_1 gamma_2_0 gamma_2_1 gamma_3_0 gamma_3_1
local notation "K10" => nrK23_10 s m_1 m_2 m_3 Gamma_1_0 Gamma_1_1 Gamma_2_0 Gamma_2_1 Gamma_3_0 Gamma_3_1 gamma_1_0 gamma_1_1 gamma_2_0 gamma_2_1 gamma_3_0 gamma_3_1
local notation "K11" => nrK23_11 s m_1 m_2 m_3 Gamma_1_0 Gamma_1_1 Gamma_2_0 Gamma_2_1 Gamma_3_0 Gamma_3_1 gamma_1_0 gamma_1_1 gamma_2_0 gamma_2_1 gamma_3_0 gamma_3_1
local notation "F00" => nrForm23_00 s m_1 m_2 m_3 Gamma_1_0 Gamma_1_1 Gamma_2_0 Gamma_2_1 Gamma_3_0 Gamma_3_1 gamma_1_0 gamma_1_1 gamma_2_0 gamma_2_1 gamma_3_0 gamma_3_1
local notation "F01" => nrForm23_01 s m_1 m_2 m_3 Gamma_1_0 Gamma_1_1 Gamma_2_0 Gamma_2_1 Gamma_3_0 Gamma_3_1 gamma_1_0 gamma_1_1 gamma_2_0 gamma_2_1 gamma_3_0 gamma_3_1
local notation "F10" => nrForm23_10 s m_1 m_2 m_3 Gamma_1_0 Gamma_1_1 Gamma_2_0 Gamma_2_1 Gamma_3_0 Gamma_3_1 gamma_1_0 gamma_1_1 gamma_2_0 gamma_2_1 gamma_3_0 gamma_3_1
local notation "F11" => nrForm23_11 s m_1 m_2 m_3 Gamma_1_0 Gamma_1_1 Gamma_2_0 Gamma_2_1 Gamma_3_0 Gamma_3_1 gamma_1_0 gamma_1_1 gamma_2_0 gamma_2_1 gamma_3_0 gamma_3_1

theorem nrK23_symm : K01 = K10 := rfl

theorem nrK23_real (hGamma_1_0 : 0 ≤ Gamma_1_0) (hGamma_1_1 : 0 ≤ Gamma_1_1) (hGamma_2_0 : 0 ≤ Gamma_2_0) (hGamma_2_1 : 0 ≤ Gamma_2_1) (hGamma_3_0 : 0 ≤ Gamma_3_0) (hGamma_3_1 : 0 ≤ Gamma_3_1) :
    IsRe K00 ∧ IsRe K01 ∧ IsRe K10 ∧ IsRe K11 := by
  have h01 : IsRe K01 :=
    ((isRe_nrOff hGamma_1_0 hGamma_1_1).add
      (isRe_nrOff hGamma_2_0 hGamma_2_1)).add
      (isRe_nrOff hGamma_3_0 hGamma_3_1)
  exact ⟨(isRe_nrDiag.add isRe_nrDiag).add isRe_nrDiag, h01, h01, (isRe_nrDiag.add isRe_nrDiag).add isRe_nrDiag⟩

/-- `formulate(2, 3)` is the symbolic matrix expression with the parametrisation substituted. -/
theorem nrForm23_eq :
    F00 = nrT2_00 K00 K01 K10 K11 ∧ F01 = nrT2_01 K00 K01 K10 K11 ∧ F10 = nrT2_10 K00 K01 K10 K11 ∧ F11 = nrT2_11 K00 K01 K10 K11 :=
  nrForm2_shape K00 K01 K10 K11 rfl

/-- **`formulate(2, 3)`, non-relativistic: unitary and symmetric** for real parameters. -/
theorem nrForm23_unitary_symmetric (hGamma_1_0 : 0 ≤ Gamma_1_0) (hGamma_1_1 : 0 ≤ Gamma_1_1) (hGamma_2_0 : 0 ≤ Gamma_2_0) (hGamma_2_1 : 0 ≤ Gamma_2_1) (hGamma_3_0 : 0 ≤ Gamma_3_0) (hGamma_3_1 : 0 ≤ Gamma_3_1) :
    (1 + (2 * Complex.I) • (!![F00, F01; F10, F11] : Matrix (Fin 2) (Fin 2) ℂ))ᴴ * (1 + (2 * Complex.I) • (!![F00, F01; F10, F11] : Matrix (Fin 2) (Fin 2) ℂ)) = 1
      ∧ (!![F00, F01; F10, F11] : Matrix (Fin 2) (Fin 2) ℂ)ᵀ = (!![F00, F01; F10, F11] : Matrix (Fin 2) (Fin 2) ℂ) := by
  exact unitary_symmetric_of_entries
    (nrK23_real s m_1 m_2 m_3 Gamma_1_0 Gamma_1_1 Gamma_2_0 Gamma_2_1 Gamma_3_0 Gamma_3_1 gamma_1_0 gamma_1_1 gamma_2_0 gamma_2_1 gamma_3_0 gamma_3_1 hGamma_1_0 hGamma_1_1 hGamma_2_0 hGamma_2_1 hGamma_3_0 hGamma_3_1)
    (rfl : K01 = K10)
    (nrForm23_eq s m_1 m_2 m_3 Gamma_1_0 Gamma_1_1 Gamma_2_0 Gamma_2_1 Gamma_3_0 Gamma_3_1 gamma_1_0 gamma_1_1 gamma_2_0 gamma_2_1 gamma_3_0 gamma_3_1)
    (nrT2M_unitary_symmetric !![K00, K01; K10, K11])

end NR23

section NR24
variable (s m_1 m_2 m_3 m_4 Gamma_1_0 Gamma_1_1 Gamma_2_0 Gamma_2_1 Gamma_3_0 Gamma_3_1 Gamma_4_0 Gamma_4_1 gamma_1_0 gamma_1_1 gamma_2_0 gamma_2_1 gamma_3_0 gamma_3_1 gamma_4_0 gamma_4_1 : ℝ)

local notation "K00" => nrK24_00 s m_1 m_2 m_3 m_4 Gamma_1_0 Gamma_1_1 Gamma_2_0 Gamma_2_1 Gamma_3_0 Gamma_3_1 Gamma_4_0 Gamma_4_1 gamma_1_0 gamma_1_1 gamma_2_0 gamma_2_1 gamma_3_0 gamma_3_1 gamma_4_0 gamma_4_1
local notation "K01" => nrK24_01 s m_1 m_2 m_3 m_4 Gamma_1_0 Gamma_1_1 Gamma_2_0 Gamma_2_1 Gamma_3_0 Gamma_3_1 Gamma_4_0 Gamma_4_1 gamma_1_0 gamma_1_1 gamma_2_0 gamma_2_1 gamma_3_0 gamma_3_1 gamma_4_0 gamma_4_1
local notation "K10" => nrK24_10 s m_1 m_2 m_3 m_4 Gamma_1_0 Gamma_1_1 Gamma_2_0 Gamma_2_1 Gamma_3_0 Gamma_3_1 Gamma_4_0 Gamma_4_1 gamma_1_0 gamma_1_1 gamma_2_0 gamma_2_1 gamma_3_0 gamma_3_1 gamma_4_0 gamma_4_1
local notation "K11" => nrK24_11 s m_1 m_2 m_3 m_4 Gamma_1_0 Gamma_1_1 Gamma_2_0 Gamma_2_1 Gamma_3_0 Gamma_3_1 Gamma_4_0 Gamma_4_1 gamma_1_0 gamma_1_1 gamma_2_0 gamma_2_1 gamma_3_0 gamma_3_1 gamma_4_0 gamma_4_1
local notation "F00" => nrForm24_00 s m_1 m_2 m_3 m_4 Gamma_1_0 Gamma_1_1 Gamma_2_0 Gamma_2_1 Gamma_3_0 Gamma_3_1 Gamma_4_0 Gamma_4_1 gamma_1_0 gamma_1_1 gamma_2_0 gamma_2_1 gamma_3_0 gamma_3_1 gamma_4_0 gamma_4_1
local notation "F01" => nrForm24_01 s m_1 m_2 m_3 m_4 Gamma_1_0 Gamma_1_1 Gamma_2_0 Gamma_2_1 Gamma_3_0 Gamma_3_1 Gamma_4_0 Gamma_4_1 gamma_1_0 gamma_1_1 gamma_2_0 gamma_2_1 gamma_3_0 gamma_3_1 gamma_4_0 gamma_4_1
local notation "F10" => nrForm24_10 s m_1 m_2 m_3 m_4 Gamma_1_0 Gamma_1_1 Gamma_2_0 Gamma_2_1 Gamma_3_0 Gamma_3_1 Gamma_4_0 Gamma_4_1 gamma_1_0 gamma_1_1 gamma_2_0 gamma_2_1 gamma_3_0 gamma_3_1 gamma_4_0 gamma_4_1
local notation "F11" => nrForm24_11 s m_1 m_2 m_3 m_4 Gamma_1_0 Gamma_1_1 Gamma_2_0 Gamma_2_1 Gamma_3_0 Gamma_3_1 Gamma_4_0 Gamma_4_1 gamma_1_0 gamma_1_1 gamma_2_0 gamma_2_1 gamma_3_0 gamma_3_1 gamma_4_0 gamma_4_1

theorem nrK24_symm : K01 = K10 := rfl

theorem nrK24_real (hGamma_1_0 : 0 ≤ Gamma_1_0) (hGamma_1_1 : 0 ≤ Gamma_1_1) (hGamma_2_0 : 0 ≤ Gamma_2_0) (hGamma_2_1 : 0 ≤ Gamma_2_1) (hGamma_3_0 : 0 ≤ Gamma_3_0) (hGamma_3_1 : 0 ≤ Gamma_3_1) (hGamma_4_0 : 0 ≤ Gamma_4_0) (hGamma_4_1 : 0 ≤ Gamma_4_1) :
    IsRe K00 ∧ IsRe K01 ∧ IsRe K10 ∧ IsRe K11 := by
  have h01 : IsRe K01 :=
    (((isRe_nrOff hGamma_1_0 hGamma_1_1).add
      (isRe_nrOff hGamma_2_0 hGamma_2_1)).add
      (isRe_nrOff hGamma_3_0 hGamma_3_1)).add
      (isRe_nrOff hGamma_4_0 hGamma_4_1)
  exact ⟨((isRe_nrDiag.add isRe_nrDiag).add isRe_nrDiag).add isRe_nrDiag, h01, h01, ((isRe_nrDiag.add isRe_nrDiag).add isRe_nrDiag).add isRe_nrDiag⟩

/-- `formulate(2, 4)` is the symbolic matrix expression with the parametrisation substituted. -/
theorem nrForm24_eq :
    F00 = nrT2_00 K00 K01 K10 K11 ∧ F01 = nrT2_01 K00 K01 K10 K11 ∧ F10 = nrT2_10 K00 K01 K10 K11 ∧ F11 = nrT2_11 K00 K01 K10 K11 :=
  nrForm2_shape K00 K01 K10 K11 rfl

/-- **`formulate(2, 4)`, non-relativistic: unitary and symmetric** for real parameters. -/
theorem nrForm24_unitary_symmetric (hGamma_1_0 : 0 ≤ Gamma_1_0) (hGamma_1_1 : 0 ≤ Gamma_1_1) (hGamma_2_0 : 0 ≤ Gamma_2_0) (hGamma_2_1 : 0 ≤ Gamma_2_1) (hGamma_3_0 : 0 ≤ Gamma_3_0) (hGamma_3_1 : 0 ≤ Gamma_3_1) (hGamma_4_0 : 0 ≤ Gamma_4_0) (hGamma_4_1 : 0 ≤ Gamma_4_1) :
    (1 + (2 * Complex.I) • (!![F00, F01; F10, F11] : Matrix (Fin 2) (Fin 2) ℂ))ᴴ * (1 + (2 * Complex.I) • (!![F00, F01; F10, F11] : Matrix (Fin 2) (Fin 2) ℂ)) = 1
      ∧ (!![F00, F01; F10, F11] : Matrix (Fin 2) (Fin 2) ℂ)ᵀ = (!![F00, F01; F10, F11] : Matrix (Fin 2) (Fin 2) ℂ) := by
  exact unitary_symmetric_of_entries
    (nrK24_real s m_1 m_2 m_3 m_4 Gamma_1_0 Gamma_1_1 Gamma_2_0 Gamma_2_1 Gamma_3_0 Gamma_3_1 Gamma_4_0 Gamma_4_1 gamma_1_0 gamma_1_1 gamma_2_0 gamma_2_1 gamma_3_0 gamma_3_1 gamma_4_0 gamma_4_1 hGamma_1_0 hGamma_1_1 hGamma_2_0 hGamma_2_1 hGamma_3_0 hGamma_3_1 hGamma_4_0 hGamma_4_1)
    (rfl : K01 = K10)
    (nrForm24_eq s m_1 m_2 m_3 m_4 Gamma_1_0 Gamma_1_1 Gamma_2_0 Gamma_2_1 Gamma_3_0 Gamma_3_1 Gamma_4_0 Gamma_4_1 gamma_1_0 gamma_1_1 gamma_2_0 gamma_2_1 gamma_3_0 gamma_3_1 gamma_4_0 gamma_4_1)
    (nrT2M_unitary_symmetric !![K00, K01; K10, K11])

end NR24

section REL13
variable (s m_1 m_2 m_3 Gamma_1_0 Gamma_2_0 Gamma_3_0 gamma_1_0 gamma_2_0 gamma_3_0 rho0 rhoR_1_0 rhoR_2_0 rhoR_3_0 ff_0 ff0_1_0 ff0_2_0 ff0_3_0 : ℝ)

local notation "K00" => relK13_00 s m_1 m_2 m_3 Gamma_1_0 Gamma_2_0 Gamma_3_0 gamma_1_0 gamma_2_0 gamma_3_0 (rho0 : ℂ) (rhoR_1_0 : ℂ) (rhoR_2_0 : ℂ) (rhoR_3_0 : ℂ) (ff_0 : ℂ) (ff0_1_0 : ℂ) (ff0_2_0 : ℂ) (ff0_3_0 : ℂ)
local notation "F00" => relForm13_00 s m_1 m_2 m_3 Gamma_1_0 Gamma_2_0 Gamma_3_0 gamma_1_0 gamma_2_0 gamma_3_0 (rho0 : ℂ) (rhoR_1_0 : ℂ) (rhoR_2_0 : ℂ) (rhoR_3_0 : ℂ) (ff_0 : ℂ) (ff0_1_0 : ℂ) (ff0_2_0 : ℂ) (ff0_3_0 : ℂ)
local notation "H00" => relFormHat13_00 s m_1 m_2 m_3 Gamma_1_0 Gamma_2_0 Gamma_3_0 gamma_1_0 gamma_2_0 gamma_3_0 (rho0 : ℂ) (rhoR_1_0 : ℂ) (rhoR_2_0 : ℂ) (rhoR_3_0 : ℂ) (ff_0 : ℂ) (ff0_1_0 : ℂ) (ff0_2_0 : ℂ) (ff0_3_0 : ℂ)

theorem relK13_real (hGamma_1_0 : 0 ≤ Gamma_1_0) (hGamma_2_0 : 0 ≤ Gamma_2_0) (hGamma_3_0 : 0 ≤ Gamma_3_0) (hrho0 : 0 < rho0) (hrhoR_1_0 : 0 < rhoR_1_0) (hrhoR_2_0 : 0 < rhoR_2_0) (hrhoR_3_0 : 0 < rhoR_3_0) :
    IsRe K00 :=
  (isRe_relDiag.add isRe_relDiag).add isRe_relDiag

/-- `formulate(1, 3)` is the symbolic matrix expression with the parametrisation substituted. -/
theorem relForm13_eq :
    F00 = relT1_00 (rho0 : ℂ) K00 :=
  relForm1_shape (rho0 : ℂ) K00

/-- `formulate(1, 3, return_t_hat=True)` is the symbolic matrix expression with the parametrisation substituted. -/
theorem relFormHat13_eq :
    H00 = relTh1_00 (rho0 : ℂ) K00 := rfl

/-- **`formulate(1, 3)`, relativistic: unitary and symmetric** for real parameters, under the guard that all phase-space factors (at `s` and at every pole mass) are real and positive. -/
theorem relForm13_unitary_symmetric (hGamma_1_0 : 0 ≤ Gamma_1_0) (hGamma_2_0 : 0 ≤ Gamma_2_0) (hGamma_3_0 : 0 ≤ Gamma_3_0) (hrho0 : 0 < rho0) (hrhoR_1_0 : 0 < rhoR_1_0) (hrhoR_2_0 : 0 < rhoR_2_0) (hrhoR_3_0 : 0 < rhoR_3_0) :
    (1 + (2 * Complex.I) • (!![F00] : Matrix (Fin 1) (Fin 1) ℂ))ᴴ * (1 + (2 * Complex.I) • (!![F00] : Matrix (Fin 1) (Fin 1) ℂ)) = 1
      ∧ (!![F00] : Matrix (Fin 1) (Fin 1) ℂ)ᵀ = (!![F00] : Matrix (Fin 1) (Fin 1) ℂ) := by
  rw [relForm13_eq s m_1 m_2 m_3 Gamma_1_0 Gamma_2_0 Gamma_3_0 gamma_1_0 gamma_2_0 gamma_3_0 rho0 rhoR_1_0 rhoR_2_0 rhoR_3_0 ff_0 ff0_1_0 ff0_2_0 ff0_3_0]
  exact relT1M_unitary_symmetric ![rho0] (Fin.forall_fin_one.2 hrho0) !![K00]
    (herm1 (relK13_real s m_1 m_2 m_3 Gamma_1_0 Gamma_2_0 Gamma_3_0 gamma_1_0 gamma_2_0 gamma_3_0 rho0 rhoR_1_0 rhoR_2_0 rhoR_3_0 ff_0 ff0_1_0 ff0_2_0 ff0_3_0 hGamma_1_0 hGamma_2_0 hGamma_3_0 hrho0 hrhoR_1_0 hrhoR_2_0 hrhoR_3_0)).1

end REL13

section REL14
variable (s m_1 m_2 m_3 m_4 Gamma_1_0 Gamma_2_0 Gamma_3_0 Gamma_4_0 gamma_1_0 gamma_2_0 gamma_3_0 gamma_4_0 rho0 rhoR_1_0 rhoR_2_0 rhoR_3_0 rhoR_4_0 ff_0 ff0_1_0 ff0_2_0 ff0_3_0 ff0_4_0 : ℝ)

local notation "K00" => relK14_00 s m_1 m_2 m_3 m_4 Gamma_1_0 Gamma_2_0 Gamma_3_0 Gamma_4_0 gamma_1_0 gamma_2_0 gamma_3_0 gamma_4_0 (rho0 : ℂ) (rhoR_1_0 : ℂ) (rhoR_2_0 : ℂ) (rhoR_3_0 : ℂ) (rhoR_4_0 : ℂ) (ff_0 : ℂ) (ff0_1_0 : ℂ) (ff0_2_0 : ℂ) (ff0_3_0 : ℂ) (ff0_4_0 : ℂ)
local notation "F00" => relForm14_00 s m_1 m_2 m_3 m_4 Gamma_1_0 Gamma_2_0 Gamma_3_0 Gamma_4_0 gamma_1_0 gamma_2_0 gamma_3_0 gamma_4_0 (rho0 : ℂ) (rhoR_1_0 : ℂ) (rhoR_2_0 : ℂ) (rhoR_3_0 : ℂ) (rhoR_4_0 : ℂ) (ff_0 : ℂ) (ff0_1_0 : ℂ) (ff0_2_0 : ℂ) (ff0_3_0 : ℂ) (ff0_4_0 : ℂ)
local notation "H00" => relFormHat14_00 s m_1 m_2 m_3 m_4 Gamma_1_0 Gamma_2_0 Gamma_3_0 Gamma_4_0 gamma_1_0 gamma_2_0 gamma_3_0 gamma_4_0 (rho0 : ℂ) (rhoR_1_0 : ℂ) (rhoR_2_0 : ℂ) (rhoR_3_0 : ℂ) (rhoR_4_0 : ℂ) (ff_0 : ℂ) (ff0_1_0 : ℂ) (ff0_2_0 : ℂ) (ff0_3_0 : ℂ) (ff0_4_0 : ℂ)

theorem relK14_real (hGamma_1_0 : 0 ≤ Gamma_1_0) (hGamma_2_0 : 0 ≤ Gamma_2_0) (hGamma_3_0 : 0 ≤ Gamma_3_0) (hGamma_4_0 : 0 ≤ Gamma_4_0) (hrho0 : 0 < rho0) (hrhoR_1_0 : 0 < rhoR_1_0) (hrhoR_2_0 : 0 < rhoR_2_0) (hrhoR_3_0 : 0 < rhoR_3_0) (hrhoR_4_0 : 0 < rhoR_4_0) :
    IsRe K00 :=
  ((isRe_relDiag.add isRe_relDiag).add isRe_relDiag).add isRe_relDiag

/-- `formulate(1, 4)` is the symbolic matrix expression with the parametrisation substituted. -/
theorem relForm14_eq :
    F00 = relT1_00 (rho0 : ℂ) K00 :=
  relForm1_shape (rho0 : ℂ) K00

/-- `formulate(1, 4, return_t_hat=True)` is the symbolic matrix expression with the parametrisation substituted. -/
theorem relFormHat14_eq :
    H00 = relTh1_00 (rho0 : ℂ) K00 := rfl

/-- **`formulate(1, 4)`, relativistic: unitary and symmetric** for real parameters, under the guard that all phase-space factors (at `s` and at every pole mass) are real and positive. -/
theorem relForm14_unitary_symmetric (hGamma_1_0 : 0 ≤ Gamma_1_0) (hGamma_2_0 : 0 ≤ Gamma_2_0) (hGamma_3_0 : 0 ≤ Gamma_3_0) (hGamma_4_0 : 0 ≤ Gamma_4_0) (hrho0 : 0 < rho0) (hrhoR_1_0 : 0 < rhoR_1_0) (hrhoR_2_0 : 0 < rhoR_2_0) (hrhoR_3_0 : 0 < rhoR_3_0) (hrhoR_4_0 : 0 < rhoR_4_0) :
    (1 + (2 * Complex.I) • (!![F00] : Matrix (Fin 1) (Fin 1) ℂ))ᴴ * (1 + (2 * Complex.I) • (!![F00] : Matrix (Fin 1) (Fin 1) ℂ)) = 1
      ∧ (!![F00] : Matrix (Fin 1) (Fin 1) ℂ)ᵀ = (!![F00] : Matrix (Fin 1) (Fin 1) ℂ) := by
  rw [relForm14_eq s m_1 m_2 m_3 m_4 Gamma_1_0 Gamma_2_0 Gamma_3_0 Gamma_4_0 gamma_1_0 gamma_2_0 gamma_3_0 gamma_4_0 rho0 rhoR_1_0 rhoR_2_0 rhoR_3_0 rhoR_4_0 ff_0 ff0_1_0 ff0_2_0 ff0_3_0 ff0_4_0]
  exact relT1M_unitary_symmetric ![rho0] (Fin.forall_fin_one.2 hrho0) !![K00]
    (herm1 (relK14_real s m_1 m_2 m_3 m_4 Gamma_1_0 Gamma_2_0 Gamma_3_0 Gamma_4_0 gamma_1_0 gamma_2_0 gamma_3_0 gamma_4_0 rho0 rhoR_1_0 rhoR_2_0 rhoR_3_0 rhoR_4_0 ff_0 ff0_1_0 ff0_2_0 ff0_3_0 ff0_4_0 hGamma_1_0 hGamma_2_0 hGamma_3_0 hGamma_4_0 hrho0 hrhoR_1_0 hrhoR_2_0 hrhoR_3_0 hrhoR_4_0)).1

end REL14

section REL23
variable (s m_1 m_2 m_3 Gamma_1_0 Gamma_1_1 Gamma_2_0 Gamma_2_1 Gamma_3_0 Gamma_3_1 gamma_1_0 gamma_1_1 gamma_2_0 gamma_2_1 gamma_3_0 gamma_3_1 rho0 rho1 rhoR_1_0 rhoR_1_1 rhoR_2_0 rhoR_2_1 rhoR_3_0 rhoR_3_1 ff_0 ff_1 ff0_1_0 ff0_1_1 ff0_2_0 ff0_2_1 ff0_3_0 ff0_3_1 : ℝ)

local notation "K00" => relK23_00 s m_1 m_2 m_3 Gamma_1_0 Gamma_1_1 Gamma_2_0 Gamma_2_1 Gamma_3_0 Gamma_3_1 gamma_1_0 gamma_1_1 gamma_2_0 gamma_2_1 gamma_3_0 gamma_3_1 (rho0 : ℂ) (rho1 : ℂ) (rhoR_1_0 : ℂ) (rhoR_1_1 : ℂ) (rhoR_2_0 : ℂ) (rhoR_2_1 : ℂ) (rhoR_3_0 : ℂ) (rhoR_3_1 : ℂ) (ff_0 : ℂ) (ff_1 : ℂ) (ff0_1_0 : ℂ) (ff0_1_1 : ℂ) (ff0_2_0 : ℂ) (ff0_2_1 : ℂ) (ff0_3_0 : ℂ) (ff0_3_1 : ℂ)
local notation "K01" => relK23_01 s m_1 m_2 m_3 Gamma_1_0 Gamma_1_1 Gamma_2_0 Gamma_2_1 Gamma_3_0 Gamma_3_1 gamma_1_0 gamma_1_1 gamma_2_0 gamma_2_1 gamma_3_0 gamma_3_1 (rho0 : ℂ) (rho1 : ℂ) (rhoR_1_0 : ℂ) (rhoR_1_1 : ℂ) (rhoR_2_0 : ℂ) (rhoR_2_1 : ℂ) (rhoR_3_0 : ℂ) (rhoR_3_1 : ℂ) (ff_0 : ℂ) (ff_1 : ℂ) (ff0_1_0 : ℂ) (ff0_1_1 : ℂ) (ff0_2_0 : ℂ) (ff0_2_1 : ℂ) (ff0_3_0 : ℂ) (ff0_3_1 : ℂ)
local notation "K10" => relK23_10 s m_1 m_2 m_3 Gamma_1_0 Gamma_1_1 Gamma_2_0 Gamma_2_1 Gamma_3_0 Gamma_3_1 gamma_1_0 gamma_1_1 gamma_2_0 gamma_2_1 gamma_3_0 gamma_3_1 (rho0 : ℂ) (rho1 : ℂ) (rhoR_1_0 : ℂ) (rhoR_1_1 : ℂ) (rhoR_2_0 : ℂ) (rhoR_2_1 : ℂ) (rhoR_3_0 : ℂ) (rhoR_3_1 : ℂ) (ff_0 : ℂ) (ff_1 : ℂ) (ff0_1_0 : ℂ) (ff0_1_1 : ℂ) (ff0_2_0 : ℂ) (ff0_2_1 : ℂ) (ff0_3_0 : ℂ) (ff0_3_1 : ℂ)
local notation "K11" => relK23_11 s m_1 m_2 m_3 Gamma_1_0 Gamma_1_1 Gamma_2_0 Gamma_2_1 Gamma_3_0 Gamma_3_1 gamma_1_0 gamma_1_1 gamma_2_0 gamma_2_1 gamma_3_0 gamma_3_1 (rho0 : ℂ) (rho1 : ℂ) (rhoR_1_0 : ℂ) (rhoR_1_1 : ℂ) (rhoR_2_0 : ℂ) (rhoR_2_1 : ℂ) (rhoR_3_0 : ℂ) (rhoR_3_1 : ℂ) (ff_0 : ℂ) (ff_1 : ℂ) (ff0_1_0 : ℂ) (ff0_1_1 : ℂ) (ff0_2_0 : ℂ) (ff0_2_1 : ℂ) (ff0_3_0 : ℂ) (ff0_3_1 : ℂ)
local notation "F00" => relForm23_00 s m_1 m_2 m_3 Gamma_1_0 Gamma_1_1 Gamma_2_0 Gamma_2_1 Gamma_3_0 Gamma_3_1 gamma_1_0 gamma_1_1 gamma_2_0 gamma_2_1 gamma_3_0 gamma_3_1 (rho0 : ℂ) (rho1 : ℂ) (rhoR_1_0 : ℂ) (rhoR_1_1 : ℂ) (rhoR_2_0 : ℂ) (rhoR_2_1 : ℂ) (rhoR_3_0 : ℂ) (rhoR_3_1 : ℂ) (ff_0 : ℂ) (ff_1 : ℂ) (ff0_1_0 : ℂ) (ff0_1_1 : ℂ) (ff0_2_0 : ℂ) (ff0_2_1 : ℂ) (ff0_3_0 : ℂ) (ff0_3_1 : ℂ)
local notation "F01" => relForm23_01 s m_1 m_2 m_3 Gamma_1_0 Gamma_1_1 Gamma_2_0 Gamma_2_1 Gamma_3_0 Gamma_3_1 gamma_1_0 gamma_1_1 gamma_2_0 gamma_2_1 gamma_3_0 gamma_3_1 (rho0 : ℂ) (rho1 : ℂ) (rhoR_1_0 : ℂ) (rhoR_1_1 : ℂ) (rhoR_2_0 : ℂ) (rhoR_2_1 : ℂ) (rhoR_3_0 : ℂ) (rhoR_3_1 : ℂ) (ff_0 : ℂ) (ff_1 : ℂ) (ff0_1_0 : ℂ) (ff0_1_1 : ℂ) (ff0_2_0 : ℂ) (ff0_2_1 : ℂ) (ff0_3_0 : ℂ) (ff0_3_1 : ℂ)
local notation "F10" => relForm23_10 s m_1 m_2 m_3 Gamma_1_0 Gamma_1_1 Gamma_2_0 Gamma_2_1 Gamma_3_0 Gamma_3_1 gamma_1_0 gamma_1_1 gamma_2_0 gamma_2_1 gamma_3_0 gamma_3_1 (rho0 : ℂ) (rho1 : ℂ) (rhoR_1_0 : ℂ) (rhoR_1_1 : ℂ) (rhoR_2_0 : ℂ) (rhoR_2_1 : ℂ) (rhoR_3_0 : ℂ) (rhoR_3_1 : ℂ) (ff_0 : ℂ) (ff_1 : ℂ) (ff0_1_0 : ℂ) (ff0_1_1 : ℂ) (ff0_2_0 : ℂ) (ff0_2_1 : ℂ) (ff0_3_0 : ℂ) (ff0_3_1 : ℂ)
local notation "F11" => relForm23_11 s m_1 m_2 m_3 Gamma_1_0 Gamma_1_1 Gamma_2_0 Gamma_2_1 Gamma_3_0 Gamma_3_1 gamma_1_0 gamma_1_1 gamma_2_0 gamma_2_1 gamma_3_0 gamma_3_1 (rho0 : ℂ) (rho1 : ℂ) (rhoR_1_0 : ℂ) (rhoR_1_1 : ℂ) (rhoR_2_0 : ℂ) (rhoR_2_1 : ℂ) (rhoR_3_0 : ℂ) (rhoR_3_1 : ℂ) (ff_0 : ℂ) (ff_1 : ℂ) (ff0_1_0 : ℂ) (ff0_1_1 : ℂ) (ff0_2_0 : ℂ) (ff0_2_1 : ℂ) (ff0_3_0 : ℂ) (ff0_3_1 : ℂ)
local notation "H00" => relFormHat23_00 s m_1 m_2 m_3 Gamma_1_0 Gamma_1_1 Gamma_2_0 Gamma_2_1 Gamma_3_0 Gamma_3_1 gamma_1_0 gamma_1_1 gamma_2_0 gamma_2_1 gamma_3_0 gamma_3_1 (rho0 : ℂ) (rho1 : ℂ) (rhoR_1_0 : ℂ) (rhoR_1_1 : ℂ) (rhoR_2_0 : ℂ) (rhoR_2_1 : ℂ) (rhoR_3_0 : ℂ) (rhoR_3_1 : ℂ) (ff_0 : ℂ) (ff_1 : ℂ) (ff0_1_0 : ℂ) (ff0_1_1 : ℂ) (ff0_2_0 : ℂ) (ff0_2_1 : ℂ) (ff0_3_0 : ℂ) (ff0_3_1 : ℂ)
local notation "H01" => relFormHat23_01 s m_1 m_2 m_3 Gamma_1_0 Gamma_1_1 Gamma_2_0 Gamma_2_1 Gamma_3_0 Gamma_3_1 gamma_1_0 gamma_1_1 gamma_2_0 gamma_2_1 gamma_3_0 gamma_3_1 (rho0 : ℂ) (rho1 : ℂ) (rhoR_1_0 : ℂ) (rhoR_1_1 : ℂ) (rhoR_2_0 : ℂ) (rhoR_2_1 : ℂ) (rhoR_3_0 : ℂ) (rhoR_3_1 : ℂ) (ff_0 : ℂ) (ff_1 : ℂ) (ff0_1_0 : ℂ) (ff0_1_1 : ℂ) (ff0_2_0 : ℂ) (ff0_2_1 : ℂ) (ff0_3_0 : ℂ) (ff0_3_1 : ℂ)
local notation "H10" => relFormHat23_10 s m_1 m_2 m_3 Gamma_1_0 Gamma_1_1 Gamma_2_0 Gamma_2_1 Gamma_3_0 Gamma_3_1 gamma_1_0 gamma_1_1 gamma_2_0 gamma_2_1 gamma_3_0 gamma_3_1 (rho0 : ℂ) (rho1 : ℂ) (rhoR_1_0 : ℂ) (rhoR_1_1 : ℂ) (rhoR_2_0 : ℂ) (rhoR_2_1 : ℂ) (rhoR_3_0 : ℂ) (rhoR_3_1 : ℂ) (ff_0 : ℂ) (ff_1 : ℂ) (ff0_1_0 : ℂ) (ff0_1_1 : ℂ) (ff0_2_0 : ℂ) (ff0_2_1 : ℂ) (ff0_3_0 : ℂ) (ff0_3_1 : ℂ)
local notation "H11" => relFormHat23_11 s m_1 m_2 m_3 Gamma_1_0 Gamma_1_1 Gamma_2_0 Gamma_2_1 Gamma_3_0 Gamma_3_1 gamma_1_0 gamma_1_1 gamma_2_0 gamma_2_1 gamma_3_0 gamma_3_1 (rho0 : ℂ) (rho1 : ℂ) (rhoR_1_0 : ℂ) (rhoR_1_1 : ℂ) (rhoR_2_0 : ℂ) (rhoR_2_1 : ℂ) (rhoR_3_0 : ℂ) (rhoR_3_1 : ℂ) (ff_0 : ℂ) (ff_1 : ℂ) (ff0_1_0 : ℂ) (ff0_1_1 : ℂ) (ff0_2_0 : ℂ) (ff0_2_1 : ℂ) (ff0_3_0 : ℂ) (ff0_3_1 : ℂ)

theorem relK23_symm : K01 = K10 := rfl

theorem relK23_real (hGamma_1_0 : 0 ≤ Gamma_1_0) (hGamma_1_1 : 0 ≤ Gamma_1_1) (hGamma_2_0 : 0 ≤ Gamma_2_0) (hGamma_2_1 : 0 ≤ Gamma_2_1) (hGamma_3_0 : 0 ≤ Gamma_3_0) (hGamma_3_1 : 0 ≤ Gamma_3_1) (hrho0 : 0 < rho0) (hrho1 : 0 < rho1) (hrhoR_1_0 : 0 < rhoR_1_0) (hrhoR_1_1 : 0 < rhoR_1_1) (hrhoR_2_0 : 0 < rhoR_2_0) (hrhoR_2_1 : 0 < rhoR_2_1) (hrhoR_3_0 : 0 < rhoR_3_0) (hrhoR_3_1 : 0 < rhoR_3_1) :
    IsRe K00 ∧ IsRe K01 ∧ IsRe K10 ∧ IsRe K11 := by
  have h01 : IsRe K01 :=
    ((isRe_relOff hGamma_1_0 hrho0 hrhoR_1_0 hGamma_1_1 hrho1 hrhoR_1_1).add
      (isRe_relOff hGamma_2_0 hrho0 hrhoR_2_0 hGamma_2_1 hrho1 hrhoR_2_1)).add
      (isRe_relOff hGamma_3_0 hrho0 hrhoR_3_0 hGamma_3_1 hrho1 hrhoR_3_1)
  exact ⟨(isRe_relDiag.add isRe_relDiag).add isRe_relDiag, h01, h01, (isRe_relDiag.add isRe_relDiag).add isRe_relDiag⟩

/-- `formulate(2, 3)` is the symbolic matrix expression with the parametrisation substituted. -/
theorem relForm23_eq :
    F00 = relT2_00 (rho0 : ℂ) (rho1 : ℂ) K00 K01 K10 K11 ∧ F01 = relT2_01 (rho0 : ℂ) (rho1 : ℂ) K00 K01 K10 K11 ∧ F10 = relT2_10 (rho0 : ℂ) (rho1 : ℂ) K00 K01 K10 K11 ∧ F11 = relT2_11 (rho0 : ℂ) (rho1 : ℂ) K00 K01 K10 K11 :=
  relForm2_shape (rho0 : ℂ) (rho1 : ℂ) K00 K01 K10 K11 rfl

/-- `formulate(2, 3, return_t_hat=True)` is the symbolic matrix expression with the parametrisation substituted. -/
theorem relFormHat23_eq :
    H00 = relTh2_00 (rho0 : ℂ) (rho1 : ℂ) K00 K01 K10 K11 ∧ H01 = relTh2_01 (rho0 : ℂ) (rho1 : ℂ) K00 K01 K10 K11 ∧ H10 = relTh2_10 (rho0 : ℂ) (rho1 : ℂ) K00 K01 K10 K11 ∧ H11 = relTh2_11 (rho0 : ℂ) (rho1 : ℂ) K00 K01 K10 K11 :=
  relFormHat2_shape (rho0 : ℂ) (rho1 : ℂ) K00 K01 K10 K11 rfl

/-- **`formulate(2, 3)`, relativistic: unitary and symmetric** for real parameters, under the guard that all phase-space factors (at `s` and at every pole mass) are real and positive. -/
theorem relForm23_unitary_symmetric (hGamma_1_0 : 0 ≤ Gamma_1_0) (hGamma_1_1 : 0 ≤ Gamma_1_1) (hGamma_2_0 : 0 ≤ Gamma_2_0) (hGamma_2_1 : 0 ≤ Gamma_2_1) (hGamma_3_0 : 0 ≤ Gamma_3_0) (hGamma_3_1 : 0 ≤ Gamma_3_1) (hrho0 : 0 < rho0) (hrho1 : 0 < rho1) (hrhoR_1_0 : 0 < rhoR_1_0) (hrhoR_1_1 : 0 < rhoR_1_1) (hrhoR_2_0 : 0 < rhoR_2_0) (hrhoR_2_1 : 0 < rhoR_2_1) (hrhoR_3_0 : 0 < rhoR_3_0) (hrhoR_3_1 : 0 < rhoR_3_1) :
    (1 + (2 * Complex.I) • (!![F00, F01; F10, F11] : Matrix (Fin 2) (Fin 2) ℂ))ᴴ * (1 + (2 * Complex.I) • (!![F00, F01; F10, F11] : Matrix (Fin 2) (Fin 2) ℂ)) = 1
      ∧ (!![F00, F01; F10, F11] : Matrix (Fin 2) (Fin 2) ℂ)ᵀ = (!![F00, F01; F10, F11] : Matrix (Fin 2) (Fin 2) ℂ) := by
  exact unitary_symmetric_of_entries
    (relK23_real s m_1 m_2 m_3 Gamma_1_0 Gamma_1_1 Gamma_2_0 Gamma_2_1 Gamma_3_0 Gamma_3_1 gamma_1_0 gamma_1_1 gamma_2_0 gamma_2_1 gamma_3_0 gamma_3_1 rho0 rho1 rhoR_1_0 rhoR_1_1 rhoR_2_0 rhoR_2_1 rhoR_3_0 rhoR_3_1 ff_0 ff_1 ff0_1_0 ff0_1_1 ff0_2_0 ff0_2_1 ff0_3_0 ff0_3_1 hGamma_1_0 hGamma_1_1 hGamma_2_0 hGamma_2_1 hGamma_3_0 hGamma_3_1 hrho0 hrho1 hrhoR_1_0 hrhoR_1_1 hrhoR_2_0 hrhoR_2_1 hrhoR_3_0 hrhoR_3_1)
    (rfl : K01 = K10)
    (relForm23_eq s m_1 m_2 m_3 Gamma_1_0 Gamma_1_1 Gamma_2_0 Gamma_2_1 Gamma_3_0 Gamma_3_1 gamma_1_0 gamma_1_1 gamma_2_0 gamma_2_1 gamma_3_0 gamma_3_1 rho0 rho1 rhoR_1_0 rhoR_1_1 rhoR_2_0 rhoR_2_1 rhoR_3_0 rhoR_3_1 ff_0 ff_1 ff0_1_0 ff0_1_1 ff0_2_0 ff0_2_1 ff0_3_0 ff0_3_1)
    (relT2M_unitary_symmetric ![rho0, rho1] (Fin.forall_fin_two.2 ⟨hrho0, hrho1⟩)
      !![K00, K01; K10, K11])

end REL23

section REL24
variable (s m_1 m_2 m_3 m_4 Gamma_1_0 Gamma_1_1 Gamma_2_0 Gamma_2_1 Gamma_3_0 Gamma_3_1 Gamma_4_0 Gamma_4_1 gamma_1_0 gamma_1_1 gamma_2_0 gamma_2_1 gamma_3_0 gamma_3_1 gamma_4_0 gamma_4_1 rho0 rho1 rhoR_1_0 rhoR_1_1 rhoR_2_0 rhoR_2_1 rhoR_3_0 rhoR_3_1 rhoR_4_0 rhoR_4_1 ff_0 ff_1 ff0_1_0 ff0_1_1 ff0_2_0 ff0_2_1 ff0_3_0 ff0_3_1 ff0_4_0 ff0_4_1 : ℝ)

local notation "K00" => relK24_00 s m_1 m_2 m_3 m_4 Gamma_1_0 Gamma_1_1 Gamma_2_0 Gamma_2_1 Gamma_3_0 Gamma_3_1 Gamma_4_0 Gamma_4_1 gamma_1_0 gamma_1_1 gamma_2_0 gamma_2_1 gamma_3_0 gamma_3_1 gamma_4_0 gamma_4_1 (rho0 : ℂ) (rho1 : ℂ) (rhoR_1_0 : ℂ) (rhoR_1_1 : ℂ) (rhoR_2_0 : ℂ) (rhoR_2_1 : ℂ) (rhoR_3_0 : ℂ) (rhoR_3_1 : ℂ) (rhoR_4_0 : ℂ) (rhoR_4_1 : ℂ) (ff_0 : ℂ) (ff_1 : ℂ) (ff0_1_0 : ℂ) (ff0_1_1 : ℂ) (ff0_2_0 : ℂ) (ff0_2_1 : ℂ) (ff0_3_0 : ℂ) (ff0_3_1 : ℂ) (ff0_4_0 : ℂ) (ff0_4_1 : ℂ)
local notation "K01" => relK24_01 s m_1 m_2 m_3 m_4 Gamma_1_0 Gamma_1_1 Gamma_2_0 Gamma_2_1 Gamma_3_0 Gamma_3_1 Gamma_4_0 Gamma_4_1 gamma_1_0 gamma_1_1 gamma_2_0 gamma_2_1 gamma_3_0 gamma_3_1 gamma_4_0 gamma_4_1 (rho0 : ℂ) (rho1 : ℂ) (rhoR_1_0 : ℂ) (rhoR_1_1 : ℂ) (rhoR_2_0 : ℂ) (rhoR_2_1 : ℂ) (rhoR_3_0 : ℂ) (rhoR_3_1 : ℂ) (rhoR_4_0 : ℂ) (rhoR_4_1 : ℂ) (ff_0 : ℂ) (ff_1 : ℂ) (ff0_1_0 : ℂ) (ff0_1_1 : ℂ) (ff0_2_0 : ℂ) (ff0_2_1 : ℂ) (ff0_3_0 : ℂ) (ff0_3_1 : ℂ) (ff0_4_0 : ℂ) (ff0_4_1 : ℂ)
local notation "K10" => relK24_10 s m_1 m_2 m_3 m_4 Gamma_1_0 Gamma_1_1 Gamma_2_0 Gamma_2_1 Gamma_3_0 Gamma_3_1 Gamma_4_0 Gamma_4_1 gamma_1_0 gamma_1_1 gamma_2_0 gamma_2_1 gamma_3_0 gamma_3_1 gamma_4_0 gamma_4_1 (rho0 : ℂ) (rho1 : ℂ) (rhoR_1_0 : ℂ) (rhoR_1_1 : ℂ) (rhoR_2_0 : ℂ) (rhoR_2_1 : ℂ) (rhoR_3_0 : ℂ) (rhoR_3_1 : ℂ) (rhoR_4_0 : ℂ) (rhoR_4_1 : ℂ) (ff_0 : ℂ) (ff_1 : ℂ) (ff0_1_0 : ℂ) (ff0_1_1 : ℂ) (ff0_2_0 : ℂ) (ff0_2_1 : ℂ) (ff0_3_0 : ℂ) (ff0_3_1 : ℂ) (ff0_4_0 : ℂ) (ff0_4_1 : ℂ)
local notation "K11" => relK24_11 s m_1 m_2 m_3 m_4 Gamma_1_0 Gamma_1_1 Gamma_2_0 Gamma_2_1 Gamma_3_0 Gamma_3_1 Gamma_4_0 Gamma_4_1 gamma_1_0 gamma_1_1 gamma_2_0 gamma_2_1 gamma_3_0 gamma_3_1 gamma_4_0 gamma_4_1 (rho0 : ℂ) (rho1 : ℂ) (rhoR_1_0 : ℂ) (rhoR_1_1 : ℂ) (rhoR_2_0 : ℂ) (rhoR_2_1 : ℂ) (rhoR_3_0 : ℂ) (rhoR_3_1 : ℂ) (rhoR_4_0 : ℂ) (rhoR_4_1 : ℂ) (ff_0 : ℂ) (ff_1 : ℂ) (ff0_1_0 : ℂ) (ff0_1_1 : ℂ) (ff0_2_0 : ℂ) (ff0_2_1 : ℂ) (ff0_3_0 : ℂ) (ff0_3_1 : ℂ) (ff0_4_0 : ℂ) (ff0_4_1 : ℂ)
local notation "F00" => relForm24_00 s m_1 m_2 m_3 m_4 Gamma_1_0 Gamma_1_1 Gamma_2_0 Gamma_2_1 Gamma_3_0 Gamma_3_1 Gamma_4_0 Gamma_4_1 gamma_1_0 gamma_1_1 gamma_2_0 gamma_2_1 gamma_3_0 gamma_3_1 gamma_4_0 gamma_4_1 (rho0 : ℂ) (rho1 : ℂ) (rhoR_1_0 : ℂ) (rhoR_1_1 : ℂ) (rhoR_2_0 : ℂ) (rhoR_2_1 : ℂ) (rhoR_3_0 : ℂ) (rhoR_3_1 : ℂ) (rhoR_4_0 : ℂ) (rhoR_4_1 : ℂ) (ff_0 : ℂ) (ff_1 : ℂ) (ff0_1_0 : ℂ) (ff0_1_1 : ℂ) (ff0_2_0 : ℂ) (ff0_2_1 : ℂ) (ff0_3_0 : ℂ) (ff0_3_1 : ℂ) (ff0_4_0 : ℂ) (ff0_4_1 : ℂ)
local notation "F01" => relForm24_01 s m_1 m_2 m_3 m_4 Gamma_1_0 Gamma_1_1 Gamma_2_0 Gamma_2_1 Gamma_3_0 Gamma_3_1 Gamma_4_0 Gamma_4_1 gamma_1_0 gamma_1_1 gamma_2_0 gamma_2_1 gamma_3_0 gamma_3_1 gamma_4_0 gamma_4_1 (rho0 : ℂ) (rho1 : ℂ) (rhoR_1_0 : ℂ) (rhoR_1_1 : ℂ) (rhoR_2_0 : ℂ) (rhoR_2_1 : ℂ) (rhoR_3_0 : ℂ) (rhoR_3_1 : ℂ) (rhoR_4_0 : ℂ) (rhoR_4_1 : ℂ) (ff_0 : ℂ) (ff_1 : ℂ) (ff0_1_0 : ℂ) (ff0_1_1 : ℂ) (ff0_2_0 : ℂ) (ff0_2_1 : ℂ) (ff0_3_0 : ℂ) (ff0_3_1 : ℂ) (ff0_4_0 : ℂ) (ff0_4_1 : ℂ)
local notation "F10" => relForm24_10 s m_1 m_2 m_3 m_4 Gamma_1_0 Gamma_1_1 Gamma_2_0 Gamma_2_1 Gamma_3_0 Gamma_3_1 Gamma_4_0 Gamma_4_1 gamma_1_0 gamma_1_1 gamma_2_0 gamma_2_1 gamma_3_0 gamma_3_1 gamma_4_0 gamma_4_1 (rho0 : ℂ) (rho1 : ℂ) (rhoR_1_0 : ℂ) (rhoR_1_1 : ℂ) (rhoR_2_0 : ℂ) (rhoR_2_1 : ℂ) (rhoR_3_0 : ℂ) (rhoR_3_1 : ℂ) (rhoR_4_0 : ℂ) (rhoR_4_1 : ℂ) (ff_0 : ℂ) (ff_1 : ℂ) (ff0_1_0 : ℂ) (ff0_1_1 : ℂ) (ff0_2_0 : ℂ) (ff0_2_1 : ℂ) (ff0_3_0 : ℂ) (ff0_3_1 : ℂ) (ff0_4_0 : ℂ) (ff0_4_1 : ℂ)
local notation "F11" => relForm24_11 s m_1 m_2 m_3 m_4 Gamma_1_0 Gamma_1_1 Gamma_2_0 Gamma_2_1 Gamma_3_0 Gamma_3_1 Gamma_4_0 Gamma_4_1 gamma_1_0 gamma_1_1 gamma_2_0 gamma_2_1 gamma_3_0 gamma_3_1 gamma_4_0 gamma_4_1 (rho0 : ℂ) (rho1 : ℂ) (rhoR_1_0 : ℂ) (rhoR_1_1 : ℂ) (rhoR_2_0 : ℂ) (rhoR_2_1 : ℂ) (rhoR_3_0 : ℂ) (rhoR_3_1 : ℂ) (rhoR_4_0 : ℂ) (rhoR_4_1 : ℂ) (ff_0 : ℂ) (ff_1 : ℂ) (ff0_1_0 : ℂ) (ff0_1_1 : ℂ) (ff0_2_0 : ℂ) (ff0_2_1 : ℂ) (ff0_3_0 : ℂ) (ff0_3_1 : ℂ) (ff0_4_0 : ℂ) (ff0_4_1 : ℂ)
local notation "H00" => relFormHat24_00 s m_1 m_2 m_3 m_4 Gamma_1_0 Gamma_1_1 Gamma_2_0 Gamma_2_1 Gamma_3_0 Gamma_3_1 Gamma_4_0 Gamma_4_1 gamma_1_0 gamma_1_1 gamma_2_0 gamma_2_1 gamma_3_0 gamma_3_1 gamma_4_0 gamma_4_1 (rho0 : ℂ) (rho1 : ℂ) (rhoR_1_0 : ℂ) (rhoR_1_1 : ℂ) (rhoR_2_0 : ℂ) (rhoR_2_1 : ℂ) (rhoR_3_0 : ℂ) (rhoR_3_1 : ℂ) (rhoR_4_0 : ℂ) (rhoR_4_1 : ℂ) (ff_0 : ℂ) (ff_1 : ℂ) (ff0_1_0 : ℂ) (ff0_1_1 : ℂ) (ff0_2_0 : ℂ) (ff0_2_1 : ℂ) (ff0_3_0 : ℂ) (ff0_3_1 : ℂ) (ff0_4_0 : ℂ) (ff0_4_1 : ℂ)
local notation "H01" => relFormHat24_01 s m_1 m_2 m_3 m_4 Gamma_1_0 Gamma_1_1 Gamma_2_0 Gamma_2_1 Gamma_3_0 Gamma_3_1 Gamma_4_0 Gamma_4_1 gamma_1_0 gamma_1_1 gamma_2_0 gamma_2_1 gamma_3_0 gamma_3_1 gamma_4_0 gamma_4_1 (rho0 : ℂ) (rho1 : ℂ) (rhoR_1_0 : ℂ) (rhoR_1_1 : ℂ) (rhoR_2_0 : ℂ) (rhoR_2_1 : ℂ) (rhoR_3_0 : ℂ) (rhoR_3_1 : ℂ) (rhoR_4_0 : ℂ) (rhoR_4_1 : ℂ) (ff_0 : ℂ) (ff_1 : ℂ) (ff0_1_0 : ℂ) (ff0_1_1 : ℂ) (ff0_2_0 : ℂ) (ff0_2_1 : ℂ) (ff0_3_0 : ℂ) (ff0_3_1 : ℂ) (ff0_4_0 : ℂ) (ff0_4_1 : ℂ)
local notation "H10" => relFormHat24_10 s m_1 m_2 m_3 m_4 Gamma_1_0 Gamma_1_1 Gamma_2_0 Gamma_2_1 Gamma_3_0 Gamma_3_1 Gamma_4_0 Gamma_4_1 gamma_1_0 gamma_1_1 gamma_2_0 gamma_2_1 gamma_3_0 gamma_3_1 gamma_4_0 gamma_4_1 (rho0 : ℂ) (rho1 : ℂ) (rhoR_1_0 : ℂ) (rhoR_1_1 : ℂ) (rhoR_2_0 : ℂ) (rhoR_2_1 : ℂ) (rhoR_3_0 : ℂ) (rhoR_3_1 : ℂ) (rhoR_4_0 : ℂ) (rhoR_4_1 : ℂ) (ff_0 : ℂ) (ff_1 : ℂ) (ff0_1_0 : ℂ) (ff0_1_1 : ℂ) (ff0_2_0 : ℂ) (ff0_2_1 : ℂ) (ff0_3_0 : ℂ) (ff0_3_1 : ℂ) (ff0_4_0 : ℂ) (ff0_4_1 : ℂ)
local notation "H11" => relFormHat24_11 s m_1 m_2 m_3 m_4 Gamma_1_0 Gamma_1_1 Gamma_2_0 Gamma_2_1 Gamma_3_0 Gamma_3_1 Gamma_4_0 Gamma_4_1 gamma_1_0 gamma_1_1 gamma_2_0 gamma_2_1 gamma_3_0 gamma_3_1 gamma_4_0 gamma_4_1 (rho0 : ℂ) (rho1 : ℂ) (rhoR_1_0 : ℂ) (rhoR_1_1 : ℂ) (rhoR_2_0 : ℂ) (rhoR_2_1 : ℂ) (rhoR_3_0 : ℂ) (rhoR_3_1 : ℂ) (rhoR_4_0 : ℂ) (rhoR_4_1 : ℂ) (ff_0 : ℂ) (ff_1 : ℂ) (ff0_1_0 : ℂ) (ff0_1_1 : ℂ) (ff0_2_0 : ℂ) (ff0_2_1 : ℂ) (ff0_3_0 : ℂ) (ff0_3_1 : ℂ) (ff0_4_0 : ℂ) (ff0_4_1 : ℂ)

theorem relK24_symm : K01 = K10 := rfl

theorem relK24_real (hGamma_1_0 : 0 ≤ Gamma_1_0) (hGamma_1_1 : 0 ≤ Gamma_1_1) (hGamma_2_0 : 0 ≤ Gamma_2_0) (hGamma_2_1 : 0 ≤ Gamma_2_1) (hGamma_3_0 : 0 ≤ Gamma_3_0) (hGamma_3_1 : 0 ≤ Gamma_3_1) (hGamma_4_0 : 0 ≤ Gamma_4_0) (hGamma_4_1 : 0 ≤ Gamma_4_1) (hrho0 : 0 < rho0) (hrho1 : 0 < rho1) (hrhoR_1_0 : 0 < rhoR_1_0) (hrhoR_1_1 : 0 < rhoR_1_1) (hrhoR_2_0 : 0 < rhoR_2_0) (hrhoR_2_1 : 0 < rhoR_2_1) (hrhoR_3_0 : 0 < rhoR_3_0) (hrhoR_3_1 : 0 < rhoR_3_1) (hrhoR_4_0 : 0 < rhoR_4_0) (hrhoR_4_1 : 0 < rhoR_4_1) :
    IsRe K00 ∧ IsRe K01 ∧ IsRe K10 ∧ IsRe K11 := by
  have h01 : IsRe K01 :=
    (((isRe_relOff hGamma_1_0 hrho0 hrhoR_1_0 hGamma_1_1 hrho1 hrhoR_1_1).add
      (isRe_relOff hGamma_2_0 hrho0 hrhoR_2_0 hGamma_2_1 hrho1 hrhoR_2_1)).add
      (isRe_relOff hGamma_3_0 hrho0 hrhoR_3_0 hGamma_3_1 hrho1 hrhoR_3_1)).add
      (isRe_relOff hGamma_4_0 hrho0 hrhoR_4_0 hGamma_4_1 hrho1 hrhoR_4_1)
  exact ⟨((isRe_relDiag.add isRe_relDiag).add isRe_relDiag).add isRe_relDiag, h01, h01, ((isRe_relDiag.add isRe_relDiag).add isRe_relDiag).add isRe_relDiag⟩

/-- `formulate(2, 4)` is the symbolic matrix expression with the parametrisation substituted. -/
theorem relForm24_eq :
    F00 = relT2_00 (rho0 : ℂ) (rho1 : ℂ) K00 K01 K10 K11 ∧ F01 = relT2_01 (rho0 : ℂ) (rho1 : ℂ) K00 K01 K10 K11 ∧ F10 = relT2_10 (rho0 : ℂ) (rho1 : ℂ) K00 K01 K10 K11 ∧ F11 = relT2_11 (rho0 : ℂ) (rho1 : ℂ) K00 K01 K10 K11 :=
  relForm2_shape (rho0 : ℂ) (rho1 : ℂ) K00 K01 K10 K11 rfl

/-- `formulate(2, 4, return_t_hat=True)` is the symbolic matrix expression with the parametrisation substituted. -/
theorem relFormHat24_eq :
    H00 = relTh2_00 (rho0 : ℂ) (rho1 : ℂ) K00 K01 K10 K11 ∧ H01 = relTh2_01 (rho0 : ℂ) (rho1 : ℂ) K00 K01 K10 K11 ∧ H10 = relTh2_10 (rho0 : ℂ) (rho1 : ℂ) K00 K01 K10 K11 ∧ H11 = relTh2_11 (rho0 : ℂ) (rho1 : ℂ) K00 K01 K10 K11 :=
  relFormHat2_shape (rho0 : ℂ) (rho1 : ℂ) K00 K01 K10 K11 rfl

/-- **`formulate(2, 4)`, relativistic: unitary and symmetric** for real parameters, under the guard that all phase-space factors (at `s` and at every pole mass) are real and positive. -/
theorem relForm24_unitary_symmetric (hGamma_1_0 : 0 ≤ Gamma_1_0) (hGamma_1_1 : 0 ≤ Gamma_1_1) (hGamma_2_0 : 0 ≤ Gamma_2_0) (hGamma_2_1 : 0 ≤ Gamma_2_1) (hGamma_3_0 : 0 ≤ Gamma_3_0) (hGamma_3_1 : 0 ≤ Gamma_3_1) (hGamma_4_0 : 0 ≤ Gamma_4_0) (hGamma_4_1 : 0 ≤ Gamma_4_1) (hrho0 : 0 < rho0) (hrho1 : 0 < rho1) (hrhoR_1_0 : 0 < rhoR_1_0) (hrhoR_1_1 : 0 < rhoR_1_1) (hrhoR_2_0 : 0 < rhoR_2_0) (hrhoR_2_1 : 0 < rhoR_2_1) (hrhoR_3_0 : 0 < rhoR_3_0) (hrhoR_3_1 : 0 < rhoR_3_1) (hrhoR_4_0 : 0 < rhoR_4_0) (hrhoR_4_1 : 0 < rhoR_4_1) :
    (1 + (2 * Complex.I) • (!![F00, F01; F10, F11] : Matrix (Fin 2) (Fin 2) ℂ))ᴴ * (1 + (2 * Complex.I) • (!![F00, F01; F10, F11] : Matrix (Fin 2) (Fin 2) ℂ)) = 1
      ∧ (!![F00, F01; F10, F11] : Matrix (Fin 2) (Fin 2) ℂ)ᵀ = (!![F00, F01; F10, F11] : Matrix (Fin 2) (Fin 2) ℂ) := by
  exact unitary_symmetric_of_entries
    (relK24_real s m_1 m_2 m_3 m_4 Gamma_1_0 Gamma_1_1 Gamma_2_0 Gamma_2_1 Gamma_3_0 Gamma_3_1 Gamma_4_0 Gamma_4_1 gamma_1_0 gamma_1_1 gamma_2_0 gamma_2_1 gamma_3_0 gamma_3_1 gamma_4_0 gamma_4_1 rho0 rho1 rhoR_1_0 rhoR_1_1 rhoR_2_0 rhoR_2_1 rhoR_3_0 rhoR_3_1 rhoR_4_0 rhoR_4_1 ff_0 ff_1 ff0_1_0 ff0_1_1 ff0_2_0 ff0_2_1 ff0_3_0 ff0_3_1 ff0_4_0 ff0_4_1 hGamma_1_0 hGamma_1_1 hGamma_2_0 hGamma_2_1 hGamma_3_0 hGamma_3_1 hGamma_4_0 hGamma_4_1 hrho0 hrho1 hrhoR_1_0 hrhoR_1_1 hrhoR_2_0 hrhoR_2_1 hrhoR_3_0 hrhoR_3_1 hrhoR_4_0 hrhoR_4_1)
    (rfl : K01 = K10)
    (relForm24_eq s m_1 m_2 m_3 m_4 Gamma_1_0 Gamma_1_1 Gamma_2_0 Gamma_2_1 Gamma_3_0 Gamma_3_1 Gamma_4_0 Gamma_4_1 gamma_1_0 gamma_1_1 gamma_2_0 gamma_2_1 gamma_3_0 gamma_3_1 gamma_4_0 gamma_4_1 rho0 rho1 rhoR_1_0 rhoR_1_1 rhoR_2_0 rhoR_2_1 rhoR_3_0 rhoR_3_1 rhoR_4_0 rhoR_4_1 ff_0 ff_1 ff0_1_0 ff0_1_1 ff0_2_0 ff0_2_1 ff0_3_0 ff0_3_1 ff0_4_0 ff0_4_1)
    (relT2M_unitary_symmetric ![rho0, rho1] (Fin.forall_fin_two.2 ⟨hrho0, hrho1⟩)
      !![K00, K01; K10, K11])

end REL24

end Ampverif.Props.C09P34
