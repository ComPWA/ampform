/-
C01 — every symbol of a model is defined: parameter xor kinematic variable.

Theorems about the executable builder model `Ampverif.Model.C01` (Model/C01Builder.lean), which is
tied to /repo on every run by the T2 correspondence of tools/props/C01.py (same reactions and
configurations through the real `HelicityAmplitudeBuilder` and through this model).
-/
import Ampverif.Lemmas.C01Align
import Ampverif.Lemmas.C01Examples

namespace Ampverif.Props.C01
open Ampverif.Model.C01

/-- With the zero definitions of fix e6c0bd9 (`ZeroMode.refs`): for EVERY reaction, configuration and
alignment, every amplitude symbol of the unfolded intensity is a key of `model.amplitudes`. -/
theorem C01_refs_defined (v : Variant) (hz : v.zeroDefs = .refs) (r : Reaction) (cfg : Config) :
    ∀ k ∈ (result v r cfg).refs, dictHas k (result v r cfg).defs = true := by
  intro k hk
  rw [result_defs]
  simp only [zeroDefsOf, hz]
  exact addMissing_has _ _ _ hk

/-- consequently the model never reports an undefined amplitude symbol -/
theorem C01_no_undefined (v : Variant) (hz : v.zeroDefs = .refs) (r : Reaction) (cfg : Config) :
    undefinedRefs v r cfg = [] := by
  show (result v r cfg).refs.filter (fun k => !dictHas k (result v r cfg).defs) = []
  rw [List.filter_eq_nil_iff]
  intro k hk
  simp [C01_refs_defined v hz r cfg k hk]

/-- With only the zero definitions of fix 5659807 (`ZeroMode.product`) the statement holds for
`NoAlignment` and `DalitzPlotDecomposition` (they sum over the observed projections) … -/
theorem C01_refs_defined_product (v : Variant) (hz : v.zeroDefs = .product) (r : Reaction) (cfg : Config)
    (hal : cfg.align ≠ .axis) :
    ∀ k ∈ (result v r cfg).refs, dictHas k (result v r cfg).defs = true := by
  intro k hk
  rw [result_defs]
  rw [result_refs, refs_of_not_axis v r cfg hal] at hk
  simp only [zeroDefsOf, hz]
  exact addMissing_has _ _ _ hk

/-- the full statement, for all three alignments (proved below as `C01_xor`) -/
def C01_xor_statement : Prop :=
  ∀ (v : Variant), v.sound → ∀ (r : Reaction) (cfg : Config),
    (∀ t ∈ registeredTopos v r cfg, t.wf = true) → errorOf v r cfg = none →
    ∀ s ∈ freeSyms v r cfg,
      (s ∈ params v r cfg ∧ s ∉ kinvars v r cfg) ∨ (s ∉ params v r cfg ∧ s ∈ kinvars v r cfg)

/-- **C01 (NoAlignment).** When the topologies of the combinatorics chains are registered (fix 2671c82)
every free symbol of `model.expression` is in exactly one of `parameter_defaults` /
`kinematic_variables` — for every reaction over well-formed isobar trees, every stable-id set,
scalar-initial-mass flag, coupling / naming flags and every dynamics assignment. The proof goes through
the name classes (`C_{ H_{ m_{ \Gamma_{ d_{ c_{` vs `phi_ theta_ m_<digit>`), which are disjoint for ANY
particle names (the braces make the hypothesis "names are not digit strings" unnecessary). -/
theorem C01_xor_partial (v : Variant) (hreg : v.regCombTopos = true) (r : Reaction) (cfg : Config)
    (hal : cfg.align = .none) (hwf : ∀ t ∈ registeredTopos v r cfg, t.wf = true) :
    ∀ s ∈ freeSyms v r cfg,
      (s ∈ params v r cfg ∧ s ∉ kinvars v r cfg) ∨ (s ∉ params v r cfg ∧ s ∈ kinvars v r cfg) :=
  xor_of_dpd_ok v hreg r cfg hwf (fun ref h => by rw [hal] at h; cases h)

/-- **C01 (all alignments).** For the sound variant, every reaction over well-formed isobar trees and every
configuration on which `formulate()` succeeds (NoAlignment, AxisAngleAlignment, DalitzPlotDecomposition with
any reference subsystem; any stable ids, scalar initial mass, couplings, naming flags, dynamics by name, permuted
topologies): every free symbol of `model.expression` is a key of exactly one of `parameter_defaults` /
`kinematic_variables`. -/
theorem C01_xor : C01_xor_statement :=
  fun v hsound r cfg hwf herr =>
    xor_of_dpd_ok v hsound.2 r cfg hwf (dpd_ok_of_noerror v r cfg herr)

/-- every non-four-momentum symbol that the definition of a kinematic variable mentions is a parameter
(all three alignments; for DPD these are the stable final-state masses and the scalar initial mass that
survive the back-substitution loop of `formulate`) -/
theorem C01_kin_closed (v : Variant) (r : Reaction) (cfg : Config) :
    ∀ kd ∈ kinvarsDeps v r cfg, ∀ m ∈ kd.2, m ∈ params v r cfg := by
  intro kd hkd m hm
  simp only [kinvarsDeps, params, result] at hkd ⊢
  cases hal : cfg.align with
  | none =>
    simp only [hal, List.mem_map] at hkd
    obtain ⟨_, _, rfl⟩ := hkd
    cases hm
  | axis =>
    simp only [hal, List.mem_append, List.mem_map] at hkd
    rcases hkd with ⟨_, _, rfl⟩ | ⟨_, _, rfl⟩ <;> cases hm
  | dpd ref =>
    simp only [hal, List.mem_append, List.mem_map] at hkd
    rcases hkd with (⟨_, _, rfl⟩ | ⟨_, _, rfl⟩) | ⟨z, hz, rfl⟩
    · cases hm
    · cases hm
    · -- a mass of a zeta expression that is neither registered nor re-added
      simp only [zetaDeps, List.mem_filter, Bool.and_eq_true, Bool.not_eq_true', decide_eq_true_eq] at hm
      obtain ⟨hmz, hnot, hkeep⟩ := hm
      simp only [List.mem_append, alignParams, dpdParamMasses, hal]
      by_cases h0 : m = mN 0
      · right
        simp only [h0, if_true, Bool.not_eq_false'] at hkeep
        simp only [List.mem_filter, dpdRemaining, mem_dedup, List.mem_flatMap]
        refine ⟨⟨⟨z, hz, hmz⟩, ?_⟩, by simp [h0, hkeep]⟩
        simp only [decide_eq_true_eq]
        simpa using hnot
      · left; right
        simp only [h0, if_false, Bool.not_eq_false', decide_eq_true_eq] at hkeep
        simp only [movedMasses, List.mem_append]
        left
        exact hkeep

/-- every library builder (and the custom builder of the harness) only mentions its own parameters —
which are in the parameter name class — and symbols of the variable set of its own node -/
theorem C01_builder_contract (k : Kind) (p : Particle) (vs : VarSet) :
    (∀ n ∈ k.params p, isParamName n = true) ∧
    (∀ s ∈ k.vars vs, s ∈ [vs.inv, vs.m1, vs.m2, vs.phi, vs.theta]) :=
  ⟨kind_params_class k p, kind_vars_contract k vs⟩

/-- the two name classes are disjoint, whatever the particle names are -/
theorem C01_classes_disjoint (n : Name) : ¬ (isParamName n = true ∧ isKinName n = true) :=
  classes_disjoint n

open Examples

/-- before fix 5659807 (no zero definitions): eta_c -> Lambda Lambda~ has amplitude symbols without definition -/
theorem C01_witness_missing :
    ¬ (∀ k ∈ (result ⟨.none, true, true, true⟩ etaC cfgDefault).refs,
        dictHas k (result ⟨.none, true, true, true⟩ etaC cfgDefault).defs = true) := by
  decide +kernel

/-- the undefined symbols are exactly A[0,-1/2,+1/2] and A[0,+1/2,-1/2] -/
theorem C01_witness_missing_which :
    undefinedRefs ⟨.none, true, true, true⟩ etaC cfgDefault = [(n!"A^", [0, -1, 1]), (n!"A^", [0, 1, -1])] := by
  decide +kernel

/-- before fix e6c0bd9 (zero definitions only for the observed product): AxisAngleAlignment on
J/psi -> gamma pi0 pi0 with the photon helicity restricted to -1 refers to undefined amplitudes -/
theorem C01_witness_axis_partial :
    ¬ (∀ k ∈ (result ⟨.product, true, true, true⟩ jpsiPartial cfgAxis).refs,
        dictHas k (result ⟨.product, true, true, true⟩ jpsiPartial cfgAxis).defs = true) := by
  decide +kernel

/-- before fix 2671c82 (combinatorics topologies not registered): J/psi -> pi0 pi0 gamma via omega has free
symbols that are neither parameter nor kinematic variable -/
theorem C01_witness_unregistered :
    ¬ (∀ s ∈ freeSyms ⟨.refs, false, true, true⟩ omega cfgDefault,
        (s ∈ params ⟨.refs, false, true, true⟩ omega cfgDefault ∧ s ∉ kinvars ⟨.refs, false, true, true⟩ omega cfgDefault)
        ∨ (s ∉ params ⟨.refs, false, true, true⟩ omega cfgDefault ∧ s ∈ kinvars ⟨.refs, false, true, true⟩ omega cfgDefault)) := by
  -- the helicity angle of the swapped chain's topology (02)1
  intro h
  exact absurd (h n!"phi_02" (by decide +kernel)) (by decide +kernel)

/-- the hypotheses of `C01_xor_partial` hold on the omega reaction (two chains, two topologies, a
Breit-Wigner on the resonance, stable final states, scalar initial mass) and its conclusion is about
a non-empty symbol set -/
example : (∀ t ∈ registeredTopos vSound omega cfgRich, t.wf = true) := by decide +kernel
example : (freeSyms vSound omega cfgRich).length ≠ 0 ∧ (params vSound omega cfgRich).length ≠ 0
    ∧ (kinvars vSound omega cfgRich).length ≠ 0 := by decide +kernel
example := C01_xor_partial vSound rfl omega cfgRich rfl (by decide +kernel)
/-- with the sound variant the eta_c witness has all four amplitude symbols defined, two of them as zero -/
example : ((result vSound etaC cfgDefault).defs.filter (fun kv => kv.2.zero)).length = 2
    ∧ (result vSound etaC cfgDefault).refs.length = 4 := by decide +kernel
/-- the axis-angle witness is repaired by the sound variant -/
example : undefinedRefs vSound jpsiPartial cfgAxis = [] := C01_no_undefined vSound rfl _ _
/-- the hypotheses of the full theorem hold on a DPD configuration with stable masses and scalar initial mass -/
example : vSound.sound ∧ (∀ t ∈ registeredTopos vSound dpdR cfgDpd, t.wf = true) ∧ errorOf vSound dpdR cfgDpd = none
    ∧ (freeSyms vSound dpdR cfgDpd).length ≠ 0 := by decide +kernel
/-- … and on the axis-angle witness reaction -/
example : (∀ t ∈ registeredTopos vSound jpsiPartial cfgAxis, t.wf = true) ∧ errorOf vSound jpsiPartial cfgAxis = none := by
  decide +kernel
/-- DPD: a kinematic variable that depends on parameters exists (so `C01_kin_closed` is not vacuous) -/
example : ∃ kd ∈ kinvarsDeps vSound dpdR cfgDpd, kd.2 ≠ [] := by decide +kernel

end Ampverif.Props.C01
