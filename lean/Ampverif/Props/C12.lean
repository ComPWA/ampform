/-
C12 — lineshape normalisations hold and builder API equals function API.

All theorems are about `Ampverif.Gen.C12.*`, REGENERATED from `ampform/dynamics/{__init__,
form_factor,builder,phasespace}.py` on every run. `EnergyDependentWidth`, the Breit–Wigner
functions and the four builder flag combinations are translated with the phase-space factor
`rho` and the form factor `ff` as ARBITRARY function parameters; the concrete instances
(`EDW_PhaseSpaceFactor`, …) plug in the regenerated classes. The Blatt–Weisskopf clauses are
table-bounded: `L = 0..10` (`bwTable`, regenerated; generic table theorems in
`Lemmas/C12Table.lean`; `|h_L(x)|²` for the regenerated Hankel functions in `Lemmas/C12Hankel.lean`).
-/
import Ampverif.Lemmas.C12Hankel
import Ampverif.Model.C12Builder
import Ampverif.Lemmas.MemoRun
import Ampverif.Lemmas.C11Branch
import Mathlib.Tactic.IntervalCases
import Mathlib.Tactic.Positivity

namespace Ampverif.Props.C12
open Ampverif.Gen.C12 Ampverif.Lemmas.C12 Ampverif.C12Builder Ampverif.Lemmas.C11

/-- The width has the PDG form `Γ₀ (F(s)/F(m₀²))² ρ(s)/ρ(m₀²)` for any `ff`, `rho`. -/
theorem width_form (ff : ℝ → ℝ → ℝ → ℕ → ℝ → ℂ) (rho : ℝ → ℝ → ℝ → ℂ)
    (s m0 Gamma0 m1 m2 : ℝ) (L : ℕ) (d : ℝ) :
    EnergyDependentWidth ff rho s m0 Gamma0 m1 m2 L d
      = (Gamma0 : ℂ) * (ff s m1 m2 L d / ff (m0 ^ 2) m1 m2 L d) ^ 2
          * (rho s m1 m2 / rho (m0 ^ 2) m1 m2) := by
  unfold EnergyDependentWidth
  ring

/-- `Γ(m₀²) = Γ₀` for ANY phase-space factor `rho` and ANY form factor `ff` that do not vanish at
the pole. -/
theorem width_at_pole (ff : ℝ → ℝ → ℝ → ℕ → ℝ → ℂ) (rho : ℝ → ℝ → ℝ → ℂ)
    (m0 Gamma0 m1 m2 : ℝ) (L : ℕ) (d : ℝ)
    (hrho : rho (m0 ^ 2) m1 m2 ≠ 0) (hff : ff (m0 ^ 2) m1 m2 L d ≠ 0) :
    EnergyDependentWidth ff rho (m0 ^ 2) m0 Gamma0 m1 m2 L d = (Gamma0 : ℂ) := by
  unfold EnergyDependentWidth
  field_simp

theorem width_at_pole_PhaseSpaceFactor (m0 Gamma0 m1 m2 : ℝ) (L : ℕ) (d : ℝ)
    (hrho : PhaseSpaceFactor (m0 ^ 2) m1 m2 ≠ 0) (hff : FormFactor (m0 ^ 2) m1 m2 L d ≠ 0) :
    EDW_PhaseSpaceFactor (m0 ^ 2) m0 Gamma0 m1 m2 L d = (Gamma0 : ℂ) :=
  width_at_pole _ _ m0 Gamma0 m1 m2 L d hrho hff

theorem width_at_pole_PhaseSpaceFactorAbs (m0 Gamma0 m1 m2 : ℝ) (L : ℕ) (d : ℝ)
    (hrho : PhaseSpaceFactorAbs (m0 ^ 2) m1 m2 ≠ 0) (hff : FormFactor (m0 ^ 2) m1 m2 L d ≠ 0) :
    EDW_PhaseSpaceFactorAbs (m0 ^ 2) m0 Gamma0 m1 m2 L d = (Gamma0 : ℂ) :=
  width_at_pole _ _ m0 Gamma0 m1 m2 L d (by exact_mod_cast hrho) hff

theorem width_at_pole_PhaseSpaceFactorComplex (m0 Gamma0 m1 m2 : ℝ) (L : ℕ) (d : ℝ)
    (hrho : PhaseSpaceFactorComplex (m0 ^ 2) m1 m2 ≠ 0) (hff : FormFactor (m0 ^ 2) m1 m2 L d ≠ 0) :
    EDW_PhaseSpaceFactorComplex (m0 ^ 2) m0 Gamma0 m1 m2 L d = (Gamma0 : ℂ) :=
  width_at_pole _ _ m0 Gamma0 m1 m2 L d hrho hff

theorem width_at_pole_PhaseSpaceFactorSWave (m0 Gamma0 m1 m2 : ℝ) (L : ℕ) (d : ℝ)
    (hrho : PhaseSpaceFactorSWave (m0 ^ 2) m1 m2 ≠ 0) (hff : FormFactor (m0 ^ 2) m1 m2 L d ≠ 0) :
    EDW_PhaseSpaceFactorSWave (m0 ^ 2) m0 Gamma0 m1 m2 L d = (Gamma0 : ℂ) :=
  width_at_pole _ _ m0 Gamma0 m1 m2 L d hrho hff

theorem width_at_pole_EqualMassPhaseSpaceFactor (m0 Gamma0 m1 m2 : ℝ) (L : ℕ) (d : ℝ)
    (hrho : EqualMassPhaseSpaceFactor (m0 ^ 2) m1 m2 ≠ 0) (hff : FormFactor (m0 ^ 2) m1 m2 L d ≠ 0) :
    EDW_EqualMassPhaseSpaceFactor (m0 ^ 2) m0 Gamma0 m1 m2 L d = (Gamma0 : ℂ) :=
  width_at_pole _ _ m0 Gamma0 m1 m2 L d hrho hff

/-- `RelativisticBreitWignerBuilder()` = `relativistic_breit_wigner(m², m_R, Γ_R)`. -/
theorem builder_plain_eq_function (ff : ℝ → ℝ → ℝ → ℕ → ℝ → ℂ) (rho : ℝ → ℝ → ℝ → ℂ)
    (m m_a m_b : ℝ) (L : ℕ) (m_R Gamma_R d_R : ℝ) :
    builder_ff0_edw0 ff rho m m_a m_b L m_R Gamma_R d_R
      = relativisticBreitWigner (m ^ 2) m_R Gamma_R := by
  unfold builder_ff0_edw0 relativisticBreitWigner
  push_cast; ring

/-- `RelativisticBreitWignerBuilder(form_factor=True, energy_dependent_width=True, phsp_factor=ρ)`
= `relativistic_breit_wigner_with_ff(m², m_R, Γ_R, m_a, m_b, L, d_R, ρ)`. -/
theorem builder_full_eq_function (ff : ℝ → ℝ → ℝ → ℕ → ℝ → ℂ) (rho : ℝ → ℝ → ℝ → ℂ)
    (m m_a m_b : ℝ) (L : ℕ) (m_R Gamma_R d_R : ℝ) :
    builder_ff1_edw1 ff rho m m_a m_b L m_R Gamma_R d_R
      = relativisticBreitWignerWithFF ff rho (m ^ 2) m_R Gamma_R m_a m_b L d_R := by
  unfold builder_ff1_edw1 relativisticBreitWignerWithFF
  push_cast; ring

/-- `form_factor=True` only: form factor × simple Breit–Wigner. -/
theorem builder_ff_only (ff : ℝ → ℝ → ℝ → ℕ → ℝ → ℂ) (rho : ℝ → ℝ → ℝ → ℂ)
    (m m_a m_b : ℝ) (L : ℕ) (m_R Gamma_R d_R : ℝ) :
    builder_ff1_edw0 ff rho m m_a m_b L m_R Gamma_R d_R
      = ff (m ^ 2) m_a m_b L d_R * relativisticBreitWigner (m ^ 2) m_R Gamma_R := by
  unfold builder_ff1_edw0 relativisticBreitWigner
  push_cast; ring

/-- `energy_dependent_width=True` only: Breit–Wigner with the energy-dependent width of the
resonance (`m_R`, `Γ_R`, decay masses `m_a`, `m_b`, `L`, `d_R`, the phase-space factor passed in). -/
theorem builder_edw_only (ff : ℝ → ℝ → ℝ → ℕ → ℝ → ℂ) (rho : ℝ → ℝ → ℝ → ℂ)
    (m m_a m_b : ℝ) (L : ℕ) (m_R Gamma_R d_R : ℝ) :
    builder_ff0_edw1 ff rho m m_a m_b L m_R Gamma_R d_R
      = (m_R : ℂ) * (Gamma_R : ℂ)
          / ((m_R : ℂ) ^ 2 - (m : ℂ) ^ 2
              - EnergyDependentWidth ff rho (m ^ 2) m_R Gamma_R m_a m_b L d_R * (m_R : ℂ) * Complex.I) := by
  unfold builder_ff0_edw1
  push_cast; ring

/-- With the energy-dependent width the full lineshape is the form factor times the
`energy_dependent_width`-only lineshape. -/
theorem builder_full_eq_ff_mul (ff : ℝ → ℝ → ℝ → ℕ → ℝ → ℂ) (rho : ℝ → ℝ → ℝ → ℂ)
    (m m_a m_b : ℝ) (L : ℕ) (m_R Gamma_R d_R : ℝ) :
    builder_ff1_edw1 ff rho m m_a m_b L m_R Gamma_R d_R
      = ff (m ^ 2) m_a m_b L d_R * builder_ff0_edw1 ff rho m m_a m_b L m_R Gamma_R d_R := by
  unfold builder_ff1_edw1 builder_ff0_edw1
  ring

/-- At the pole `m = m_R` the full Breit–Wigner is `i·F(m_R²)` (for `ρ`, `F` non-vanishing there
and `m_R Γ_R ≠ 0`): the normalisation of the width makes the lineshape purely imaginary × form factor. -/
theorem builder_full_at_pole (ff : ℝ → ℝ → ℝ → ℕ → ℝ → ℂ) (rho : ℝ → ℝ → ℝ → ℂ)
    (m_a m_b : ℝ) (L : ℕ) (m_R Gamma_R d_R : ℝ)
    (hrho : rho (m_R ^ 2) m_a m_b ≠ 0) (hff : ff (m_R ^ 2) m_a m_b L d_R ≠ 0)
    (hm : m_R ≠ 0) (hG : Gamma_R ≠ 0) :
    builder_ff1_edw1 ff rho m_R m_a m_b L m_R Gamma_R d_R
      = Complex.I * ff (m_R ^ 2) m_a m_b L d_R := by
  unfold builder_ff1_edw1
  rw [width_at_pole ff rho m_R Gamma_R m_a m_b L d_R hrho hff]
  have h1 : (m_R : ℂ) ≠ 0 := by exact_mod_cast hm
  have h2 : (Gamma_R : ℂ) ≠ 0 := by exact_mod_cast hG
  have hI : Complex.I ≠ 0 := Complex.I_ne_zero
  push_cast
  have : ((m_R : ℂ) ^ 2 + -1 * (m_R : ℂ) ^ 2 + -1 * Complex.I * (m_R : ℂ) * (Gamma_R : ℂ))
      = -(Complex.I * (m_R : ℂ) * (Gamma_R : ℂ)) := by ring
  rw [this]
  generalize ff (m_R ^ 2) m_a m_b L d_R = f
  field_simp
  linear_combination (-f) * Complex.I_sq

/-! ### Histories of calls on one builder object (`Model/C12Builder.lean`)

The builder is a configuration `(form_factor, energy_dependent_width, phsp_factor)`; `Out` names
which of the regenerated lineshapes above a call returns. The model is tied to the real class on
every run by the history correspondence (`tools/corr/C12_history.py`: the same call sequences —
mixing pools with `L = None`, `0`, `1`, `2`, several resonances, fresh and module-level builder
objects — are run on the real code and on the model's driver and compared line by line). -/

/-- On the clean tree's builder a call never changes the builder's state. -/
theorem builder_call_state (c : Config) (a : Args) : (call Variant.soundV c a).2 = c := by
  unfold call
  split
  · rfl
  · dsimp only
    split <;> rfl

/-- **Purity of `__call__`**: for every configuration and every history of calls on ONE builder
object, the outputs are exactly what a FRESH builder of that configuration returns for each call,
and the builder's attributes are unchanged at the end. -/
theorem builder_history_pure (c : Config) (hist : List Args) :
    run Variant.soundV c hist = (fresh Variant.soundV c hist, c) :=
  Prod.ext_iff.2 <| Lemmas.MemoRun.run_eq_map (call Variant.soundV) (run Variant.soundV) (fun _ => rfl)
    (fun _ _ _ => rfl) (· = c) (fun a => (call Variant.soundV c a).1)
    hist (fun c' h a _ => by subst h; exact ⟨rfl, builder_call_state _ a⟩) c rfl

/-- …so the output of call `k` depends only on `(configuration, arguments of call k)`. -/
theorem builder_call_k (c : Config) (hist : List Args) (k : Nat) (hk : k < hist.length) :
    (run Variant.soundV c hist).1[k]? = some (call Variant.soundV c hist[k]).1 := by
  rw [builder_history_pure]
  simp [fresh, hk]

/-- What a call without angular momentum does (recorded as a fact about the real code by
`tools/corr/C12_history.py` on every run):
the plain builder returns the plain Breit–Wigner, every other flag combination raises. -/
theorem builder_call_none (c : Config) (res pool : Nat) :
    (call Variant.soundV c ⟨res, none, pool⟩).1
      = if c.ff || c.edw then Out.valueError else Out.plain res pool := by
  unfold call; simp; split <;> simp_all

/-- With a defined `L` the four flag combinations are the four regenerated lineshapes. -/
theorem builder_call_some (v : Variant) (c : Config) (res pool l : Nat) :
    call v c ⟨res, some l, pool⟩ = (formulate c res pool l, c) := rfl

/-- Witness for the defect class "a call stores a fallback on the instance": one call with
`L = none` followed by a call with `L = 1` on a full builder gives the plain Breit–Wigner, which a
fresh builder does not. (Replayable on the real code: see the purity oracle of C12.) -/
theorem builder_sticky_witness :
    (run Variant.stickyV ⟨true, true, 0⟩ [⟨0, none, 0⟩, ⟨1, some 1, 0⟩]).1
      ≠ fresh Variant.soundV ⟨true, true, 0⟩ [⟨0, none, 0⟩, ⟨1, some 1, 0⟩] := by decide

example : run Variant.soundV ⟨true, true, 4⟩ [⟨0, none, 0⟩, ⟨1, some 2, 1⟩]
    = ([Out.valueError, Out.full 1 1 2 4], ⟨true, true, 4⟩) := by decide

/-! ### Blatt–Weisskopf factors: regenerated table (L = 0..10) and generic table theorems

`bwTable` is regenerated from `_get_polynomial_blatt_weisskopf(L)`; `BWEntry.WF` is decidable
(`Lemmas/C12Table.lean`). The statements below are for EVERY `L` in the table and every real `z ≥ 0`;
angular momenta beyond the table are outside the property's quantifier (L ≤ 10). -/

/-- Every regenerated entry is well-formed: `c > 0`, `L+1` non-negative coefficients, positive
constant term, monic, `Σ aₖ = c`. -/
theorem bwTable_wf : ∀ e ∈ bwTable, e.wf = true := by decide +kernel

/-- The entry at position `L` is the one for angular momentum `L`. -/
theorem bwTable_index : ∀ i : Fin bwTable.length, (bwTable.get i).L = i := by decide

theorem bwTable_WF (L : ℕ) (hL : L < bwTable.length) : (bwTable[L]).WF :=
  (BWEntry.wf_iff _).mp (bwTable_wf _ (List.getElem_mem hL))

/-- The polynomial path of `BlattWeisskopfSquared(z, L)` is the table entry, for every `L` of the table. -/
theorem bw_eq_table (L : ℕ) (hL : L < bwTable.length) (z : ℝ) :
    BlattWeisskopfSquared z L = (bwTable[L]).eval z := by
  have hlen : bwTable.length = 11 := rfl
  rw [hlen] at hL
  interval_cases L
  all_goals
    simp only [BlattWeisskopfSquared, bwTable, List.getElem_cons_succ, List.getElem_cons_zero,
      BWEntry.eval, polyEval,
      BlattWeisskopfSquared_0, BlattWeisskopfSquared_1, BlattWeisskopfSquared_2, BlattWeisskopfSquared_3, BlattWeisskopfSquared_4, BlattWeisskopfSquared_5,
      BlattWeisskopfSquared_6, BlattWeisskopfSquared_7, BlattWeisskopfSquared_8, BlattWeisskopfSquared_9, BlattWeisskopfSquared_10,
      bwEntry_0, bwEntry_1, bwEntry_2, bwEntry_3, bwEntry_4, bwEntry_5, bwEntry_6, bwEntry_7, bwEntry_8, bwEntry_9, bwEntry_10]
    push_cast
    ring

/-- `B_L²(1) = 1`. -/
theorem bw_normalised (L : ℕ) (hL : L < bwTable.length) : BlattWeisskopfSquared 1 L = 1 := by
  rw [bw_eq_table L hL]; exact BWEntry.eval_one (bwTable_WF L hL)

/-- Threshold behaviour: `B_L²(z) = z^L · (c_L / P_L(z))` with `c_L > 0` and `P_L(0) > 0`
(so `B_L²(z)/z^L → c_L/P_L(0) > 0` as `z → 0`). -/
theorem bw_threshold (L : ℕ) (hL : L < bwTable.length) (z : ℝ) :
    BlattWeisskopfSquared z L
        = z ^ L * (((bwTable[L]).c : ℝ) / polyEval (bwTable[L]).den z)
      ∧ (0 : ℝ) < ((bwTable[L]).c : ℝ) ∧ 0 < polyEval (bwTable[L]).den 0 := by
  have hwf := bwTable_WF L hL
  have hidx : (bwTable[L]).L = L := bwTable_index ⟨L, hL⟩
  refine ⟨?_, by exact_mod_cast hwf.c_pos, BWEntry.den_zero_pos hwf⟩
  rw [bw_eq_table L hL, BWEntry.eval_threshold, hidx]

/-- Boundedness: `0 ≤ B_L²(z) ≤ c_L` for `z ≥ 0`. -/
theorem bw_bounded (L : ℕ) (hL : L < bwTable.length) (z : ℝ) (hz : 0 ≤ z) :
    0 ≤ BlattWeisskopfSquared z L ∧ BlattWeisskopfSquared z L ≤ ((bwTable[L]).c : ℝ) := by
  have hwf := bwTable_WF L hL
  rw [bw_eq_table L hL]
  exact ⟨BWEntry.eval_nonneg hwf hz, BWEntry.eval_le hwf hz⟩

/-! ### Polynomial path = Hankel definition `|h_L(1)|² / (|h_L(√z)|² z)` for `z > 0`, per L

The hypothesis `0 < z` is necessary: see `bw_paths_differ_below_zero` (known finding). -/

theorem bw_hankel_0 (z : ℝ) (hz : 0 < z) : BlattWeisskopfHankel_0 z = BlattWeisskopfSquared_0 z :=
  hankel_eq_table bwEntry_0 (bwTable_WF 0 (by decide)) (bw_eq_table 0 (by decide)) (fun _ => rfl) hankel_norm_0 z hz

theorem bw_hankel_1 (z : ℝ) (hz : 0 < z) : BlattWeisskopfHankel_1 z = BlattWeisskopfSquared_1 z :=
  hankel_eq_table bwEntry_1 (bwTable_WF 1 (by decide)) (bw_eq_table 1 (by decide)) (fun _ => rfl) hankel_norm_1 z hz

theorem bw_hankel_2 (z : ℝ) (hz : 0 < z) : BlattWeisskopfHankel_2 z = BlattWeisskopfSquared_2 z :=
  hankel_eq_table bwEntry_2 (bwTable_WF 2 (by decide)) (bw_eq_table 2 (by decide)) (fun _ => rfl) hankel_norm_2 z hz

theorem bw_hankel_3 (z : ℝ) (hz : 0 < z) : BlattWeisskopfHankel_3 z = BlattWeisskopfSquared_3 z :=
  hankel_eq_table bwEntry_3 (bwTable_WF 3 (by decide)) (bw_eq_table 3 (by decide)) (fun _ => rfl) hankel_norm_3 z hz

theorem bw_hankel_4 (z : ℝ) (hz : 0 < z) : BlattWeisskopfHankel_4 z = BlattWeisskopfSquared_4 z :=
  hankel_eq_table bwEntry_4 (bwTable_WF 4 (by decide)) (bw_eq_table 4 (by decide)) (fun _ => rfl) hankel_norm_4 z hz

theorem bw_hankel_5 (z : ℝ) (hz : 0 < z) : BlattWeisskopfHankel_5 z = BlattWeisskopfSquared_5 z :=
  hankel_eq_table bwEntry_5 (bwTable_WF 5 (by decide)) (bw_eq_table 5 (by decide)) (fun _ => rfl) hankel_norm_5 z hz

theorem bw_hankel_6 (z : ℝ) (hz : 0 < z) : BlattWeisskopfHankel_6 z = BlattWeisskopfSquared_6 z :=
  hankel_eq_table bwEntry_6 (bwTable_WF 6 (by decide)) (bw_eq_table 6 (by decide)) (fun _ => rfl) hankel_norm_6 z hz

theorem bw_hankel_7 (z : ℝ) (hz : 0 < z) : BlattWeisskopfHankel_7 z = BlattWeisskopfSquared_7 z :=
  hankel_eq_table bwEntry_7 (bwTable_WF 7 (by decide)) (bw_eq_table 7 (by decide)) (fun _ => rfl) hankel_norm_7 z hz

theorem bw_hankel_8 (z : ℝ) (hz : 0 < z) : BlattWeisskopfHankel_8 z = BlattWeisskopfSquared_8 z :=
  hankel_eq_table bwEntry_8 (bwTable_WF 8 (by decide)) (bw_eq_table 8 (by decide)) (fun _ => rfl) hankel_norm_8 z hz

theorem bw_hankel_9 (z : ℝ) (hz : 0 < z) : BlattWeisskopfHankel_9 z = BlattWeisskopfSquared_9 z :=
  hankel_eq_table bwEntry_9 (bwTable_WF 9 (by decide)) (bw_eq_table 9 (by decide)) (fun _ => rfl) hankel_norm_9 z hz

theorem bw_hankel_10 (z : ℝ) (hz : 0 < z) : BlattWeisskopfHankel_10 z = BlattWeisskopfSquared_10 z :=
  hankel_eq_table bwEntry_10 (bwTable_WF 10 (by decide)) (bw_eq_table 10 (by decide)) (fun _ => rfl) hankel_norm_10 z hz

/-- …hence for the dispatcher: for every `L` of the table and `z > 0`, `BlattWeisskopfSquared(z, L)`
equals the Hankel expression built from the regenerated `SphericalHankel1_L`. -/
theorem bw_hankel_all (z : ℝ) (hz : 0 < z) :
    BlattWeisskopfSquared z 0 = BlattWeisskopfHankel_0 z ∧
    BlattWeisskopfSquared z 1 = BlattWeisskopfHankel_1 z ∧
    BlattWeisskopfSquared z 2 = BlattWeisskopfHankel_2 z ∧
    BlattWeisskopfSquared z 3 = BlattWeisskopfHankel_3 z ∧
    BlattWeisskopfSquared z 4 = BlattWeisskopfHankel_4 z ∧
    BlattWeisskopfSquared z 5 = BlattWeisskopfHankel_5 z ∧
    BlattWeisskopfSquared z 6 = BlattWeisskopfHankel_6 z ∧
    BlattWeisskopfSquared z 7 = BlattWeisskopfHankel_7 z ∧
    BlattWeisskopfSquared z 8 = BlattWeisskopfHankel_8 z ∧
    BlattWeisskopfSquared z 9 = BlattWeisskopfHankel_9 z ∧
    BlattWeisskopfSquared z 10 = BlattWeisskopfHankel_10 z :=
  ⟨(bw_hankel_0 z hz).symm, (bw_hankel_1 z hz).symm, (bw_hankel_2 z hz).symm, (bw_hankel_3 z hz).symm, (bw_hankel_4 z hz).symm, (bw_hankel_5 z hz).symm, (bw_hankel_6 z hz).symm, (bw_hankel_7 z hz).symm, (bw_hankel_8 z hz).symm, (bw_hankel_9 z hz).symm, (bw_hankel_10 z hz).symm⟩

/-- `bw_hankel_L` needs `z > 0`: for EVERY `z < 0` the defining Hankel expression with the principal
`sqrt z` (what a symbolic `L` gives after `L := 0`) is NEGATIVE, while the cached polynomial path is `1`.
(`known_findings.json`: "symbolic-L Hankel path vs integer-L polynomial path, z <= 0".) -/
theorem bw_paths_differ_below_zero (z : ℝ) (hz : z < 0) :
    BlattWeisskopfHankelC_0 z < 0 ∧ BlattWeisskopfSquared_0 z = 1 := by
  refine ⟨?_, by unfold BlattWeisskopfSquared_0; rfl⟩
  have hroot : (((z : ℝ) : ℂ) ^ ((1 : ℂ) / 2)) ≠ 0 := by
    rw [csqrt_ofReal_of_neg hz]
    have : Real.sqrt (-z) ≠ 0 := (Real.sqrt_pos.mpr (by linarith)).ne'
    simp [Complex.I_ne_zero, this]
  have hne : ∀ w : ℂ, w ≠ 0 → 0 < ‖SphericalHankel1C_0 w‖ ^ 2 := by
    intro w hw
    have : SphericalHankel1C_0 w ≠ 0 := by
      unfold SphericalHankel1C_0
      simp [Complex.I_ne_zero, hw, Complex.exp_ne_zero]
    positivity
  unfold BlattWeisskopfHankelC_0
  have h1 := hne (((1 : ℝ) : ℝ) : ℂ) (by simp)
  have h2 := hne _ hroot
  exact mul_neg_of_neg_of_pos (mul_neg_of_neg_of_pos (inv_lt_zero.mpr hz) h1) (inv_pos.mpr h2)

example : BlattWeisskopfHankelC_0 (-1) ≠ BlattWeisskopfSquared_0 (-1) := by
  obtain ⟨h1, h2⟩ := bw_paths_differ_below_zero (-1) (by norm_num)
  rw [h2]; linarith

/-- the hypotheses of `width_at_pole_*` hold at a concrete point (`m₀ = 2`, `m₁ = m₂ = ½`, `L = 0`) -/
example (Gamma0 : ℝ) : EDW_PhaseSpaceFactorAbs (2 ^ 2) 2 Gamma0 (1 / 2) (1 / 2) 0 1 = (Gamma0 : ℂ) := by
  apply width_at_pole_PhaseSpaceFactorAbs
  · have h : BreakupMomentumSquared (2 ^ 2) (1 / 2) (1 / 2) = 3 / 4 := by
      unfold BreakupMomentumSquared; norm_num
    unfold PhaseSpaceFactorAbs
    rw [h]
    positivity
  · unfold FormFactor BlattWeisskopfSquared BlattWeisskopfSquared_0
    simp

example : BlattWeisskopfSquared 1 2 = 1 := bw_normalised 2 (by decide)

/-- the bound of `bw_bounded` spelled out for `L = 2`: `0 ≤ 13z²/(z²+3z+9) ≤ 13` -/
example (z : ℝ) (hz : 0 ≤ z) : 0 ≤ BlattWeisskopfSquared z 2 ∧ BlattWeisskopfSquared z 2 ≤ 13 := by
  have h := bw_bounded 2 (by decide) z hz
  have hc : (((bwTable[2]).c : ℚ) : ℝ) = 13 := by
    show ((bwEntry_2.c : ℚ) : ℝ) = 13
    unfold bwEntry_2; norm_num
  rwa [hc] at h

/-- generic `ff`, `rho`: constant functions satisfy the hypotheses of `width_at_pole` -/
example (m0 Gamma0 m1 m2 d : ℝ) (L : ℕ) :
    EnergyDependentWidth (fun _ _ _ _ _ => 1) (fun _ _ _ => 1) (m0 ^ 2) m0 Gamma0 m1 m2 L d = (Gamma0 : ℂ) :=
  width_at_pole _ _ m0 Gamma0 m1 m2 L d one_ne_zero one_ne_zero

end Ampverif.Props.C12
