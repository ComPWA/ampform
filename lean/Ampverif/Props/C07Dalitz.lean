/-
C07 (Dalitz link) — in a three-body decay given in the rest frame of the decaying particle, the
polar helicity angle the library computes THROUGH ITS OWN CHAIN of matrices equals the closed-form
`formulate_scattering_angle` it provides, for all six ordered pairs.

`Ampverif.Gen.C07.hel*` are REGENERATED on every run from the real kinematic variable
`theta_0^01 = Theta(BoostZMatrix(β)·RotationYMatrix(−Θ)·RotationZMatrix(−Φ)·p0)` (frame `p0 + p1`)
of the three-body topology 2 (01): `rzCos … frGammaBeta` are the non-trivial entries of the
library's explicit matrices, `rz* ry* hel*` the vector after each matrix, `helCosArg` the argument
of `acos` in `Theta`, `helTheta` the angle itself. `Ampverif.Gen.C19.*` are the
regenerated `formulate_scattering_angle` expressions; `Props/C19.lean` shows that their arccos
arguments are the covariant cosines used here (`theta_cos_covariant`, `theta_sum_pi`).

Guards (each is a genuine singularity of the generated code, listed in the evidence):
the isobar is time-like with positive energy, it moves in the decay frame and not along the z axis
(`pt > 0`: the library's own `cos(atan2(y,x)) = x/√(x²+y²)` is 0/0 there), total energy positive.
-/
import Ampverif.Gen.C07
import Ampverif.Lemmas.C07Chain
import Ampverif.Props.C19
import Mathlib.Analysis.SpecialFunctions.Trigonometric.Inverse
import Mathlib.Tactic.IntervalCases

namespace Ampverif.Props.C07
open Ampverif.Gen.C07 Ampverif.Lemmas.C07 Ampverif.Lemmas.C19

/-- The regenerated matrix entries and intermediate vectors satisfy the constraints of
`ChainData`: `RotZ(−Φ)` then `RotY(−Θ)` turn the frame's flight direction onto +z (`cφ·pt = X`, …),
`BoostZ(β)` is the boost with `γ = E/m`, `γβ = |p⃗|/m`. -/
theorem chain_is_helicity_frame (E0 x0 y0 z0 E1 x1 y1 z1 : ℝ)
    (hpt : 0 < (x0 + x1) ^ 2 + (y0 + y1) ^ 2) (hE : 0 < E0 + E1)
    (htl : (x0 + x1) ^ 2 + (y0 + y1) ^ 2 + (z0 + z1) ^ 2 < (E0 + E1) ^ 2) :
    ChainData (E0 + E1) (x0 + x1) (y0 + y1) (z0 + z1) E0 x0 y0 z0
      (rzCos E0 x0 y0 z0 E1 x1 y1 z1) (rzSin E0 x0 y0 z0 E1 x1 y1 z1)
      (ryCos E0 x0 y0 z0 E1 x1 y1 z1) (rySin E0 x0 y0 z0 E1 x1 y1 z1)
      (frGamma E0 x0 y0 z0 E1 x1 y1 z1) (frGammaBeta E0 x0 y0 z0 E1 x1 y1 z1)
      (Real.sqrt ((x0 + x1) ^ 2 + (y0 + y1) ^ 2 + (z0 + z1) ^ 2))
      (Real.sqrt ((x0 + x1) ^ 2 + (y0 + y1) ^ 2))
      (Real.sqrt ((E0 + E1) ^ 2 - ((x0 + x1) ^ 2 + (y0 + y1) ^ 2 + (z0 + z1) ^ 2)))
      (helX E0 x0 y0 z0 E1 x1 y1 z1) (helY E0 x0 y0 z0 E1 x1 y1 z1) (helZ E0 x0 y0 z0 E1 x1 y1 z1)
      (ryZ E0 x0 y0 z0 E1 x1 y1 z1) := by
  set X := x0 + x1 with hX
  set Y := y0 + y1 with hY
  set Z := z0 + z1 with hZ
  set E := E0 + E1 with hEdef
  have hS : 0 < X ^ 2 + Y ^ 2 + Z ^ 2 := by positivity
  have hM : 0 < E ^ 2 - (X ^ 2 + Y ^ 2 + Z ^ 2) := by linarith
  set n := Real.sqrt (X ^ 2 + Y ^ 2 + Z ^ 2) with hn
  set pt := Real.sqrt (X ^ 2 + Y ^ 2) with hptd
  set m := Real.sqrt (E ^ 2 - (X ^ 2 + Y ^ 2 + Z ^ 2)) with hm
  have n0 : 0 < n := Real.sqrt_pos.2 hS
  have pt0 : 0 < pt := Real.sqrt_pos.2 hpt
  have m0 : 0 < m := Real.sqrt_pos.2 hM
  have nsq : n ^ 2 = X ^ 2 + Y ^ 2 + Z ^ 2 := Real.sq_sqrt hS.le
  have ptsq : pt ^ 2 = X ^ 2 + Y ^ 2 := Real.sq_sqrt hpt.le
  have msq : m ^ 2 = E ^ 2 - (X ^ 2 + Y ^ 2 + Z ^ 2) := Real.sq_sqrt hM.le
  have sqrt_of_sq : ∀ {r a : ℝ}, 0 ≤ a → r = a ^ 2 → Real.sqrt r = a := by
    intro r a ha hr; rw [hr, Real.sqrt_sq ha]
  -- the radicand `1 − |p⃗|²/E²` of `frGamma` and `frGammaBeta`
  have hs : Real.sqrt (1 + -1 * (E ^ 2)⁻¹ * (X ^ 2 + Y ^ 2 + Z ^ 2)) = m / E :=
    sqrt_of_sq (div_nonneg m0.le hE.le) (by rw [div_pow, msq]; field_simp; ring)
  refine
    { hn := nsq, hn0 := n0, hpt := ptsq, hpt0 := pt0, hm := by rw [msq, nsq], hm0 := m0,
      h1 := ?_, h2 := ?_, h3 := ?_, h4 := ?_, hγ := ?_, hgb := ?_,
      hqx := ?_, hqy := ?_, hv2z := ?_, hqz := ?_ }
  · unfold rzCos; rw [← hX, ← hY, ← hptd]; field_simp
  · unfold rzSin; rw [← hX, ← hY, ← hptd]; field_simp
  · unfold ryCos; rw [← hX, ← hY, ← hZ, ← hn]; field_simp
  · unfold rySin; rw [← hX, ← hY, ← hZ]
    generalize hR : Real.sqrt _ = s
    have hs : s = pt / n := by
      rw [← hR]
      exact sqrt_of_sq (div_nonneg pt0.le n0.le) (by rw [div_pow, ptsq, nsq]; field_simp; ring)
    rw [hs]; field_simp
  · unfold frGamma; rw [← hX, ← hY, ← hZ, ← hEdef, hs]; field_simp
  · unfold frGammaBeta; rw [← hX, ← hY, ← hZ, ← hEdef, ← hn, hs]; field_simp
  · unfold helX ryX rzX rzZ; ring
  · unfold helY ryY rzY; ring
  · unfold ryZ rzX rzZ; ring
  · unfold helZ ryE rzE; ring

/-- **Library chain ⇒ covariant cosine.** For ANY three four-vectors `pa pb pc` whose sum is at
rest: the regenerated arccos argument of the polar helicity angle of `pa` in the frame of
`pa + pb` is minus the covariant cosine between `pa` and the spectator `pc` seen from `pa + pb`. -/
theorem C07_dalitz_chain (pa pb pc : V4)
    (hx : pa.x + pb.x + pc.x = 0) (hy : pa.y + pb.y + pc.y = 0) (hz : pa.z + pb.z + pc.z = 0)
    (hM : 0 < pa.E + pb.E + pc.E)
    (hpt : 0 < (pa.x + pb.x) ^ 2 + (pa.y + pb.y) ^ 2) (hE : 0 < pa.E + pb.E)
    (htl : (pa.x + pb.x) ^ 2 + (pa.y + pb.y) ^ 2 + (pa.z + pb.z) ^ 2 < (pa.E + pb.E) ^ 2) :
    helCosArg pa.E pa.x pa.y pa.z pb.E pb.x pb.y pb.z = -V4.covCos (pa + pb) pa pc := by
  have d := chain_is_helicity_frame pa.E pa.x pa.y pa.z pb.E pb.x pb.y pb.z hpt hE htl
  have key := d.cos_eq_neg_covCos (Ek := pc.E) (by linarith)
  have e1 : (pa + pb : V4) = ⟨pa.E + pb.E, pa.x + pb.x, pa.y + pb.y, pa.z + pb.z⟩ := rfl
  have e2 : pc = ⟨pc.E, -(pa.x + pb.x), -(pa.y + pb.y), -(pa.z + pb.z)⟩ := by
    cases pc with | mk e x y z =>
    simp only at hx hy hz
    congr 1 <;> linarith
  unfold helCosArg
  rw [key, e1]
  conv_rhs => rw [e2]

/-- **The chain lands in the rest frame of the subsystem.** Applied to the subsystem's own
momentum (`p1 = 0`, frame `= p0`) the regenerated chain gives `(m; 0, 0, 0)` with `m` its invariant
mass: the frame reached is the rest frame, and by `chain_is_helicity_frame` its z axis is the
flight direction. -/
theorem C07_chain_rest_frame (E0 x0 y0 z0 : ℝ)
    (hpt : 0 < x0 ^ 2 + y0 ^ 2) (hE : 0 < E0) (htl : x0 ^ 2 + y0 ^ 2 + z0 ^ 2 < E0 ^ 2) :
    helE E0 x0 y0 z0 0 0 0 0 = Real.sqrt (E0 ^ 2 - (x0 ^ 2 + y0 ^ 2 + z0 ^ 2)) ∧
    helX E0 x0 y0 z0 0 0 0 0 = 0 ∧ helY E0 x0 y0 z0 0 0 0 0 = 0 ∧ helZ E0 x0 y0 z0 0 0 0 0 = 0 := by
  have d := chain_is_helicity_frame E0 x0 y0 z0 0 0 0 0 (by simpa using hpt) (by simpa using hE)
    (by simpa using htl)
  simp only [add_zero] at d
  obtain ⟨hx, hy, hz, hv⟩ := d.frame_to_rest
  refine ⟨?_, hx, hy, hz⟩
  have hm0 := d.hm0
  have e : Real.sqrt (E0 ^ 2 - (x0 ^ 2 + y0 ^ 2 + z0 ^ 2)) * helE E0 x0 y0 z0 0 0 0 0
      = Real.sqrt (E0 ^ 2 - (x0 ^ 2 + y0 ^ 2 + z0 ^ 2)) * Real.sqrt (E0 ^ 2 - (x0 ^ 2 + y0 ^ 2 + z0 ^ 2)) := by
    unfold helE ryE rzE
    rw [hv]
    linear_combination E0 * d.hγ - Real.sqrt (x0 ^ 2 + y0 ^ 2 + z0 ^ 2) * d.hgb - d.hm
  exact mul_left_cancel₀ hm0.ne' e

/-- the guards of `C07_dalitz_chain` are satisfiable -/
example : ∃ pa pb pc : V4,
    pa.x + pb.x + pc.x = 0 ∧ pa.y + pb.y + pc.y = 0 ∧ pa.z + pb.z + pc.z = 0 ∧
    0 < pa.E + pb.E + pc.E ∧ 0 < (pa.x + pb.x) ^ 2 + (pa.y + pb.y) ^ 2 ∧ 0 < pa.E + pb.E ∧
    (pa.x + pb.x) ^ 2 + (pa.y + pb.y) ^ 2 + (pa.z + pb.z) ^ 2 < (pa.E + pb.E) ^ 2 :=
  ⟨⟨2, 1, 0, 0⟩, ⟨2, 0, 1, 0⟩, ⟨3, -1, -1, 0⟩, by norm_num⟩

open Ampverif.Gen.C19 Ampverif.Props.C19 in
/-- **`C07_dalitz`.** Event `p₁ p₂ p₃` of a three-body decay in the rest frame of the decaying
particle, the library's seven mass symbols being its invariant masses. For every ordered pair
`i ≠ j ∈ {1,2,3}` (all six), under the guards for the isobar `(ij)`:

* the regenerated arccos argument of `formulate_scattering_angle(i, j)` IS the regenerated arccos
  argument of the polar helicity angle of particle `i` obtained through the library's own chain
  `Theta(BoostZ(β)·RotY(−Θ)·RotZ(−Φ)·p_i)` with frame `p_i + p_j`;
* hence `θ_ij` is that helicity angle, and `θ_ji = π − θ_ij`: the angle symbol of a node is named
  after (and measures) the helicity child `i`; for the opposite-helicity child the closed form
  gives π minus the library's helicity angle. -/
theorem C07_dalitz {m_0 m_1 m_2 m_3 m_12 m_13 m_23 : ℝ} {p1 p2 p3 : V4}
    (h : Masses p1 p2 p3 m_0 m_1 m_2 m_3 m_12 m_13 m_23)
    (hx : p1.x + p2.x + p3.x = 0) (hy : p1.y + p2.y + p3.y = 0) (hz : p1.z + p2.z + p3.z = 0)
    (hM : 0 < p1.E + p2.E + p3.E) :
    ∀ i j, 1 ≤ i → i ≤ 3 → 1 ≤ j → j ≤ 3 → i ≠ j →
      0 < ((pick p1 p2 p3 i).x + (pick p1 p2 p3 j).x) ^ 2 + ((pick p1 p2 p3 i).y + (pick p1 p2 p3 j).y) ^ 2 →
      0 < (pick p1 p2 p3 i).E + (pick p1 p2 p3 j).E →
      ((pick p1 p2 p3 i).x + (pick p1 p2 p3 j).x) ^ 2 + ((pick p1 p2 p3 i).y + (pick p1 p2 p3 j).y) ^ 2
        + ((pick p1 p2 p3 i).z + (pick p1 p2 p3 j).z) ^ 2 < ((pick p1 p2 p3 i).E + (pick p1 p2 p3 j).E) ^ 2 →
      let a := pick p1 p2 p3 i
      let b := pick p1 p2 p3 j
      thetaCos i j m_0 m_1 m_2 m_3 m_12 m_13 m_23 = some (helCosArg a.E a.x a.y a.z b.E b.x b.y b.z) ∧
      thetaAngle i j m_0 m_1 m_2 m_3 m_12 m_13 m_23 = .ok (helTheta a.E a.x a.y a.z b.E b.x b.y b.z) ∧
      thetaAngle j i m_0 m_1 m_2 m_3 m_12 m_13 m_23
        = .ok (Real.pi - helTheta a.E a.x a.y a.z b.E b.x b.y b.z) := by
  intro i j hi1 hi3 hj1 hj3 hij hpt hE htl a b
  have hk := theta_kind_consistent m_0 m_1 m_2 m_3 m_12 m_13 m_23 i (by omega) j (by omega)
  have hd := theta_domain i (by omega) j (by omega)
  rw [hd, if_pos ⟨hi1, hj1, hij⟩] at hk
  obtain ⟨x, hxc, hxa⟩ := hk
  have hcov := theta_cos_covariant h i (by omega) j (by omega) x hxc
  -- the spectator and the rest-frame condition for this pair
  have hrest : (pick p1 p2 p3 i).x + (pick p1 p2 p3 j).x + (pick p1 p2 p3 (6 - i - j)).x = 0 ∧
      (pick p1 p2 p3 i).y + (pick p1 p2 p3 j).y + (pick p1 p2 p3 (6 - i - j)).y = 0 ∧
      (pick p1 p2 p3 i).z + (pick p1 p2 p3 j).z + (pick p1 p2 p3 (6 - i - j)).z = 0 ∧
      0 < (pick p1 p2 p3 i).E + (pick p1 p2 p3 j).E + (pick p1 p2 p3 (6 - i - j)).E := by
    interval_cases i <;> interval_cases j <;> first | exact absurd rfl hij | skip
    all_goals (simp only [pick]; refine ⟨?_, ?_, ?_, ?_⟩ <;> linarith)
  obtain ⟨rx, ry, rz, rM⟩ := hrest
  have hchain := C07_dalitz_chain (pick p1 p2 p3 i) (pick p1 p2 p3 j) (pick p1 p2 p3 (6 - i - j))
    rx ry rz rM hpt hE htl
  have hx' : x = helCosArg a.E a.x a.y a.z b.E b.x b.y b.z := by rw [hcov, ← hchain]
  have h1 : thetaAngle i j m_0 m_1 m_2 m_3 m_12 m_13 m_23
      = .ok (helTheta a.E a.x a.y a.z b.E b.x b.y b.z) := by
    rw [hxa, hx']; rfl
  refine ⟨by rw [hxc, hx'], h1, ?_⟩
  obtain ⟨u, v, hu, hv, huv⟩ := theta_sum_pi h.constraint i j hi1 hi3 hj1 hj3 hij
  rw [h1] at hu
  have : u = helTheta a.E a.x a.y a.z b.E b.x b.y b.z := by
    injection hu with hu'; exact hu'.symm
  rw [hv]; congr 1; linarith

end Ampverif.Props.C07
