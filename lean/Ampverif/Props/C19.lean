/-
C19 — Dalitz-plot-decomposition angles satisfy their geometry and identities.

All theorems are about `Ampverif.Gen.C19.*` (`Gen/C19.lean`, `Gen/C19Table.lean`), which are
REGENERATED from `/repo/src/ampform/kinematics/angles.py` on every run: `theta_i_j`,
`thetaHat_i_j`, `zeta_i_j_k` are the returned expressions, `cos…` their arccos arguments,
`thetaAngle`/`thetaHatAngle`/`zetaAngle` (and `…Cos`, `…Kind`) dispatch on the index tuple
(exceptions as an enum). The library's symbols are the masses `m_0 … m_3` and the pair masses
`m_12 m_13 m_23` (`σ₁ = m_23²`, `σ₂ = m_13²`, `σ₃ = m_12²`).
-/
import Ampverif.Gen.C19Table
import Ampverif.Lemmas.C19Cos
import Ampverif.Lemmas.C19Cases
import Ampverif.Lemmas.C19Sum
import Ampverif.Lemmas.C19Event
import Mathlib.Tactic.Ring
import Mathlib.Tactic.IntervalCases

namespace Ampverif.Props.C19
open Ampverif.Gen.C19 Ampverif.Lemmas.C19

section structural
variable (m_0 m_1 m_2 m_3 m_12 m_13 m_23 : ℝ)

/-- The scattering angle is formulated exactly for `i ≠ j ∈ {1,2,3}` (the `NotImplementedError`
guard for θ₂₁, θ₃₂, θ₁₃ never fires); everything else is a `ValueError`. -/
theorem theta_domain : ∀ i < 4, ∀ j < 4,
    thetaKind i j = (if 1 ≤ i ∧ 1 ≤ j ∧ i ≠ j then Kind.acos else Kind.err Err.valueError) := by
  decide

/-- θ̂ is formulated exactly for `i, j ∈ {1,2,3}`: `0` on the diagonal, `acos` for
(1,2), (2,3), (3,1), `-acos` for the reversed pairs. -/
theorem thetaHat_domain : ∀ i < 4, ∀ j < 4,
    thetaHatKind i j =
      (if i = 0 ∨ j = 0 then Kind.err Err.valueError
       else if i = j then Kind.zero
       else if j = i % 3 + 1 then Kind.acos else Kind.negAcos) := by
  decide

/-- The sign/zero/error pattern of ζ predicted by the conventions of the DPD paper:
`ζ⁰_{j(k)} = θ̂_{j(k)}`; reference `0` means reference `i`; `0` for `j = k`; with the indices
rotated so that `i ↦ 1`, the pairs (1,3), (2,1), (2,3) are the positive ones. -/
def zetaKindSpec (i j k : Nat) : Kind :=
  if i = 0 then thetaHatKind j k
  else if j = 0 then Kind.err Err.notImplementedError
  else
    let k' := if k = 0 then i else k
    if j = k' then Kind.zero
    else if ((j + 3 - i) % 3 + 1, (k' + 3 - i) % 3 + 1) ∈ [(1, 3), (2, 1), (2, 3)] then Kind.acos
    else Kind.negAcos

/-- The whole 64-entry ζ table follows the convention. -/
theorem zeta_table : ∀ i < 4, ∀ j < 4, ∀ k < 4, zetaKind i j k = zetaKindSpec i j k := by
  decide

/-- ζ is formulated exactly for aligned subsystem `j ∈ {1,2,3}` and (reference `k ∈ {1,2,3}`, or
`k = 0` with `i ≠ 0`). -/
theorem zeta_domain : ∀ i < 4, ∀ j < 4, ∀ k < 4,
    (zetaKind i j k).isErr = true ↔ (j = 0 ∨ (i = 0 ∧ k = 0)) := by
  decide

/-- `θ̂_{i(i)} = 0`. -/
theorem thetaHat_diag : ∀ i, 1 ≤ i → i ≤ 3 →
    thetaHatAngle i i m_0 m_1 m_2 m_3 m_12 m_13 m_23 = .ok 0 := by
  intro i h1 h3
  interval_cases i <;> rfl

/-- `θ̂_{i(j)} = −θ̂_{j(i)}` for all `i, j ∈ {1,2,3}`. -/
theorem thetaHat_antisymm : ∀ i j, 1 ≤ i → i ≤ 3 → 1 ≤ j → j ≤ 3 →
    ∃ a b, thetaHatAngle i j m_0 m_1 m_2 m_3 m_12 m_13 m_23 = .ok a ∧
      thetaHatAngle j i m_0 m_1 m_2 m_3 m_12 m_13 m_23 = .ok b ∧ a = -b := by
  intro i j hi1 hi3 hj1 hj3
  -- the two entries have the same arccos argument; one is `arccos`, the other `(-1) * arccos`
  interval_cases i <;> interval_cases j <;>
    first
    | exact ⟨_, _, rfl, rfl, neg_zero.symm⟩
    | exact ⟨_, _, rfl, rfl, neg_one_mul _⟩
    | exact ⟨_, _, rfl, rfl, neg_eq_iff_eq_neg.mp (neg_one_mul _).symm⟩

/-- `ζ⁰_{j(k)}` is `θ̂_{j(k)}` (all index pairs, errors included). -/
theorem zeta_rotated0 : ∀ j < 4, ∀ k < 4,
    zetaAngle 0 j k m_0 m_1 m_2 m_3 m_12 m_13 m_23
      = thetaHatAngle j k m_0 m_1 m_2 m_3 m_12 m_13 m_23 := by
  intro j hj k hk
  interval_cases j <;> interval_cases k <;> rfl

/-- `ζⁱ_{k(0)} = ζⁱ_{k(i)}` for all `i, k ∈ {1,2,3}`. -/
theorem zeta_reference0 : ∀ i k, 1 ≤ i → i ≤ 3 → 1 ≤ k → k ≤ 3 →
    zetaAngle i k 0 m_0 m_1 m_2 m_3 m_12 m_13 m_23 = zetaAngle i k i m_0 m_1 m_2 m_3 m_12 m_13 m_23 := by
  intro i k hi1 hi3 hk1 hk3
  interval_cases i <;> interval_cases k <;> rfl

/-- `ζⁱ_{k(k)} = 0` for all `i ∈ {0,1,2,3}`, `k ∈ {1,2,3}`. -/
theorem zeta_diag : ∀ i k, i ≤ 3 → 1 ≤ k → k ≤ 3 →
    zetaAngle i k k m_0 m_1 m_2 m_3 m_12 m_13 m_23 = .ok 0 := by
  intro i k hi3 hk1 hk3
  interval_cases i <;> interval_cases k <;> rfl

/-- `ζⁱ_{j(k)} = −ζⁱ_{k(j)}` for all `i ∈ {0,1,2,3}`, `j, k ∈ {1,2,3}`. -/
theorem zeta_antisymm : ∀ i j k, i ≤ 3 → 1 ≤ j → j ≤ 3 → 1 ≤ k → k ≤ 3 →
    ∃ a b, zetaAngle i j k m_0 m_1 m_2 m_3 m_12 m_13 m_23 = .ok a ∧
      zetaAngle i k j m_0 m_1 m_2 m_3 m_12 m_13 m_23 = .ok b ∧ a = -b := by
  intro i j k hi3 hj1 hj3 hk1 hk3
  -- as for `thetaHat_antisymm`: both zero, or the same arccos argument with opposite signs
  interval_cases i <;> interval_cases j <;> interval_cases k <;>
    first
    | exact ⟨_, _, rfl, rfl, neg_zero.symm⟩
    | exact ⟨_, _, rfl, rfl, neg_one_mul _⟩
    | exact ⟨_, _, rfl, rfl, neg_eq_iff_eq_neg.mp (neg_one_mul _).symm⟩

end structural

/-! ### The three views of the table agree

`…Kind` (shape), `…Angle` (the returned expression) and `…Cos` (its arccos argument) are generated
separately; this ties them together for every index tuple. -/

/-- what a table entry of a given shape means for the returned angle and its arccos argument -/
def KindSpec (k : Kind) (angle : Except Err ℝ) (c : Option ℝ) : Prop :=
  match k with
  | .err e => angle = .error e ∧ c = none
  | .zero => angle = .ok 0 ∧ c = none
  | .acos => ∃ x, c = some x ∧ angle = .ok (Real.arccos x)
  | .negAcos => ∃ x, c = some x ∧ angle = .ok (-Real.arccos x)
  | .other => True

section consistency
variable (m_0 m_1 m_2 m_3 m_12 m_13 m_23 : ℝ)

theorem theta_kind_consistent : ∀ i < 4, ∀ j < 4,
    KindSpec (thetaKind i j) (thetaAngle i j m_0 m_1 m_2 m_3 m_12 m_13 m_23)
      (thetaCos i j m_0 m_1 m_2 m_3 m_12 m_13 m_23) := by
  intro i hi j hj
  interval_cases i <;> interval_cases j <;>
    first
    | exact ⟨rfl, rfl⟩
    | exact ⟨_, rfl, rfl⟩

theorem thetaHat_kind_consistent : ∀ i < 4, ∀ j < 4,
    KindSpec (thetaHatKind i j) (thetaHatAngle i j m_0 m_1 m_2 m_3 m_12 m_13 m_23)
      (thetaHatCos i j m_0 m_1 m_2 m_3 m_12 m_13 m_23) := by
  intro i hi j hj
  interval_cases i <;> interval_cases j <;>
    first
    | exact ⟨rfl, rfl⟩
    | exact ⟨_, rfl, rfl⟩
    | exact ⟨_, rfl, congrArg Except.ok (neg_one_mul _)⟩

theorem zeta_kind_consistent : ∀ i < 4, ∀ j < 4, ∀ k < 4,
    KindSpec (zetaKind i j k) (zetaAngle i j k m_0 m_1 m_2 m_3 m_12 m_13 m_23)
      (zetaCos i j k m_0 m_1 m_2 m_3 m_12 m_13 m_23) := by
  intro i hi j hj k hk
  interval_cases i <;> interval_cases j <;> interval_cases k <;>
    first
    | exact ⟨rfl, rfl⟩
    | exact ⟨_, rfl, rfl⟩
    | exact ⟨_, rfl, congrArg Except.ok (neg_one_mul _)⟩

end consistency

/-! ### The tuples `helicity/align/dpd.py` really requests

`dpdRequests` is regenerated by driving the alignment generator of `dpd.py` with a recorder in
place of `formulate_zeta_angle`. -/

/-- Every request is `(rotated state, aligned subsystem, reference subsystem)` with the reference
passed last, all indices in range, and hits a table entry for which an angle is formulated. -/
theorem dpd_requests_defined : ∀ r ∈ dpdRequests,
    r.2.1 < 4 ∧ r.2.2.1 < 4 ∧ r.2.2.2 < 4 ∧ r.2.2.2 = r.1 ∧
      (zetaKind r.2.1 r.2.2.1 r.2.2.2 = Kind.zero ∨ zetaKind r.2.1 r.2.2.1 r.2.2.2 = Kind.acos ∨
        zetaKind r.2.1 r.2.2.1 r.2.2.2 = Kind.negAcos) := by
  decide

/-- For every reference subsystem, every rotated state 0..3 and every aligned subsystem 1..3 is
requested (nothing is silently left unaligned). -/
theorem dpd_requests_complete : ∀ ref ∈ [1, 2, 3], ∀ i < 4, ∀ j ∈ [1, 2, 3],
    (ref, i, j, ref) ∈ dpdRequests := by
  decide

/-- Hence every angle the alignment asks for is returned (no exception). -/
theorem dpd_requests_formulated (m_0 m_1 m_2 m_3 m_12 m_13 m_23 : ℝ) : ∀ r ∈ dpdRequests,
    ∃ a, zetaAngle r.2.1 r.2.2.1 r.2.2.2 m_0 m_1 m_2 m_3 m_12 m_13 m_23 = .ok a := by
  intro r hr
  obtain ⟨h1, h2, h3, _, hk⟩ := dpd_requests_defined r hr
  have hc := zeta_kind_consistent m_0 m_1 m_2 m_3 m_12 m_13 m_23 _ h1 _ h2 _ h3
  rcases hk with hk | hk | hk <;> rw [hk] at hc
  · exact ⟨_, hc.1⟩
  · obtain ⟨x, _, ha⟩ := hc; exact ⟨_, ha⟩
  · obtain ⟨x, _, ha⟩ := hc; exact ⟨_, ha⟩

/-! ### Arguments of all arccosines lie in [−1, 1] on the physical region

The physical region is described in the library's own variables: `σ₁+σ₂+σ₃ = Σ m²` and
`Kibble ≤ 0` (the library's `Kibble`, regenerated). Every cosine is `N/(√A √B)` with
`A B − N² = c · G`, `G` the Gram determinant of the event and `c ∈ {σ_k, m₀², m_i²}`, and
`Kibble = −64 m₀² G` (lemmas `Gram.abs_cos_le`, `GramMasses.kibble`). Where a Källén
factor is `≤ 0` (outside the region, or on its edge where the real code divides by zero)
`Real.sqrt` is `0` and the quotient is `0` by Lean's conventions, so the statement needs no
further guard; the evidence file lists what the real code does there. -/

section range
variable {m_0 m_1 m_2 m_3 m_12 m_13 m_23 : ℝ}

/-- every arccos argument of the scattering angles lies in `[-1, 1]` -/
theorem theta_cos_range (hm : m_0 ≠ 0)
    (hc : m_12 ^ 2 + m_13 ^ 2 + m_23 ^ 2 = m_0 ^ 2 + m_1 ^ 2 + m_2 ^ 2 + m_3 ^ 2)
    (hK : Kibble (m_23 ^ 2) (m_13 ^ 2) (m_12 ^ 2) m_0 m_1 m_2 m_3 ≤ 0) :
    ∀ i < 4, ∀ j < 4, ∀ x, thetaCos i j m_0 m_1 m_2 m_3 m_12 m_13 m_23 = some x → |x| ≤ 1 := by
  have hg := GramMasses.of_constraint hc
  have hG := hg.det_nonneg hm hK
  intro i _ j _ x h
  exact thetaCos_cases (motive := fun _ _ x => |x| ≤ 1)
      (Gram.abs_le_of_eq_neg_cos (cosTheta_1_2_gram hg) hg.h12 hG)
      (Gram.abs_le_of_eq_neg_cos (cosTheta_1_3_gram hg) hg.h13 hG)
      (Gram.abs_le_of_eq_neg_cos (cosTheta_2_1_gram hg) hg.h12 hG)
      (Gram.abs_le_of_eq_neg_cos (cosTheta_2_3_gram hg) hg.h23 hG)
      (Gram.abs_le_of_eq_neg_cos (cosTheta_3_1_gram hg) hg.h13 hG)
      (Gram.abs_le_of_eq_neg_cos (cosTheta_3_2_gram hg) hg.h23 hG) h

/-- every arccos argument of the θ̂ angles lies in `[-1, 1]` -/
theorem thetaHat_cos_range (hm : m_0 ≠ 0)
    (hc : m_12 ^ 2 + m_13 ^ 2 + m_23 ^ 2 = m_0 ^ 2 + m_1 ^ 2 + m_2 ^ 2 + m_3 ^ 2)
    (hK : Kibble (m_23 ^ 2) (m_13 ^ 2) (m_12 ^ 2) m_0 m_1 m_2 m_3 ≤ 0) :
    ∀ i < 4, ∀ j < 4, ∀ x, thetaHatCos i j m_0 m_1 m_2 m_3 m_12 m_13 m_23 = some x → |x| ≤ 1 := by
  have hg := GramMasses.of_constraint hc
  have hG := hg.det_nonneg hm hK
  intro i _ j _ x h
  exact Gram.abs_le_of_eq_cos (thetaHatCos_eq_cos hg h) hg.h0 hG

/-- every arccos argument of the ζ angles lies in `[-1, 1]` -/
theorem zeta_cos_range (hm : m_0 ≠ 0)
    (hc : m_12 ^ 2 + m_13 ^ 2 + m_23 ^ 2 = m_0 ^ 2 + m_1 ^ 2 + m_2 ^ 2 + m_3 ^ 2)
    (hK : Kibble (m_23 ^ 2) (m_13 ^ 2) (m_12 ^ 2) m_0 m_1 m_2 m_3 ≤ 0) :
    ∀ i < 4, ∀ j < 4, ∀ k < 4, ∀ x, zetaCos i j k m_0 m_1 m_2 m_3 m_12 m_13 m_23 = some x → |x| ≤ 1 := by
  have hg := GramMasses.of_constraint hc
  have hG := hg.det_nonneg hm hK
  intro i _ j _ k _ x h
  obtain ⟨m, hm⟩ := hg.exists_sq_coef i
  exact Gram.abs_le_of_eq_cos (zetaCos_eq_cos hg h) hm hG

end range

/-! ### Geometry: every cosine is the cosine of an angle between two momenta in a rest frame

`pick` selects a momentum by index (1, 2, 3: final-state particles; anything else: the parent
`p₁+p₂+p₃`). The `…_cos_covariant` theorems hold for arbitrary four-vectors; `covCos_rest` turns the
covariant form into `â·b̂` in the rest frame of the first argument. -/

def pick (p1 p2 p3 : V4) : Nat → V4
  | 1 => p1
  | 2 => p2
  | 3 => p3
  | _ => p1 + p2 + p3

/-- index of the momentum whose direction (seen from particle `i`) is attached to decay chain `j`:
the parent for `j = i`, else the third particle `6 − i − j` (the sibling of `i` in isobar `j`);
for `i = 0` (seen from the parent) simply particle `j`. -/
def zetaDir (i j : Nat) : Nat := if i = 0 then j else if j = i then 0 else 6 - i - j

section geometry
variable {m_0 m_1 m_2 m_3 m_12 m_13 m_23 : ℝ} {p1 p2 p3 : V4}

/-- `cos θ_ij = −covCos (p_i+p_j) p_i p_k`: minus the cosine between `i` and the spectator `k` in the `(ij)` frame — for all index tuples and ANY three four-vectors (no frame condition). -/
theorem theta_cos_covariant (h : Masses p1 p2 p3 m_0 m_1 m_2 m_3 m_12 m_13 m_23) :
    ∀ i < 4, ∀ j < 4, ∀ x, thetaCos i j m_0 m_1 m_2 m_3 m_12 m_13 m_23 = some x →
      x = -V4.covCos (pick p1 p2 p3 i + pick p1 p2 p3 j) (pick p1 p2 p3 i) (pick p1 p2 p3 (6 - i - j)) := by
  intro i _ j _ x h'
  exact thetaCos_cases (motive := fun i j x => x = -V4.covCos (pick p1 p2 p3 i + pick p1 p2 p3 j)
      (pick p1 p2 p3 i) (pick p1 p2 p3 (6 - i - j)))
      (V4.eq_neg_covCos (cosTheta_1_2_gram h.gram) V4.lin_110 V4.lin_100 V4.lin_001)
      (V4.eq_neg_covCos (cosTheta_1_3_gram h.gram) V4.lin_101 V4.lin_100 V4.lin_010)
      (V4.eq_neg_covCos (cosTheta_2_1_gram h.gram) V4.lin_110_swap V4.lin_010 V4.lin_001)
      (V4.eq_neg_covCos (cosTheta_2_3_gram h.gram) V4.lin_011 V4.lin_010 V4.lin_100)
      (V4.eq_neg_covCos (cosTheta_3_1_gram h.gram) V4.lin_101_swap V4.lin_001 V4.lin_010)
      (V4.eq_neg_covCos (cosTheta_3_2_gram h.gram) V4.lin_011_swap V4.lin_001 V4.lin_100) h'

/-- `cos θ̂_{i(j)} = covCos p₀ p_i p_j`: the cosine between `i` and `j` seen from the parent — for all index tuples and ANY three four-vectors (no frame condition). -/
theorem thetaHat_cos_covariant (h : Masses p1 p2 p3 m_0 m_1 m_2 m_3 m_12 m_13 m_23) :
    ∀ i < 4, ∀ j < 4, ∀ x, thetaHatCos i j m_0 m_1 m_2 m_3 m_12 m_13 m_23 = some x →
      x = V4.covCos (p1 + p2 + p3) (pick p1 p2 p3 i) (pick p1 p2 p3 j) := by
  intro i _ j _ x h'
  exact V4.eq_covCos (thetaHatCos_eq_cos h.gram h') V4.lin_111 (V4.lin_coef i) (V4.lin_coef j)

/-- `cos ζⁱ_{j(k)} = covCos p_i d_j d_k`: the cosine, seen from particle `i` (from the parent for `i = 0`), between the directions attached to chains `j` and `k` — for all index tuples and ANY three four-vectors (no frame condition). -/
theorem zeta_cos_covariant (h : Masses p1 p2 p3 m_0 m_1 m_2 m_3 m_12 m_13 m_23) :
    ∀ i < 4, ∀ j < 4, ∀ k < 4, ∀ x, zetaCos i j k m_0 m_1 m_2 m_3 m_12 m_13 m_23 = some x →
      x = V4.covCos (pick p1 p2 p3 i) (pick p1 p2 p3 (zetaDir i j)) (pick p1 p2 p3 (zetaDir i (if k = 0 then i else k))) := by
  intro i _ j _ k _ x h'
  exact V4.eq_covCos (zetaCos_eq_cos h.gram h') (V4.lin_coef _) (V4.lin_coef _) (V4.lin_coef _)

/-- `θ̂_{i(j)}`: in the parent rest frame the arccos argument is the cosine of the angle between
the momenta of particles `i` and `j`. -/
theorem thetaHat_cos_rest_frame (h : Masses p1 p2 p3 m_0 m_1 m_2 m_3 m_12 m_13 m_23)
    (hx : (p1 + p2 + p3).x = 0) (hy : (p1 + p2 + p3).y = 0) (hz : (p1 + p2 + p3).z = 0)
    (hE : (p1 + p2 + p3).E ≠ 0) :
    ∀ i < 4, ∀ j < 4, ∀ x, thetaHatCos i j m_0 m_1 m_2 m_3 m_12 m_13 m_23 = some x →
      x = V4.dot3 (pick p1 p2 p3 i) (pick p1 p2 p3 j)
          / (Real.sqrt (V4.dot3 (pick p1 p2 p3 i) (pick p1 p2 p3 i))
              * Real.sqrt (V4.dot3 (pick p1 p2 p3 j) (pick p1 p2 p3 j))) := by
  intro i hi j hj x h'
  rw [thetaHat_cos_covariant h i hi j hj x h', V4.covCos_rest _ _ _ hx hy hz hE]

/-- `θ_{ij}`: in the `(ij)` rest frame the arccos argument is the cosine of the angle between
particle `i` and the direction opposite to the spectator `k` (the helicity angle of `i`). -/
theorem theta_cos_rest_frame (h : Masses p1 p2 p3 m_0 m_1 m_2 m_3 m_12 m_13 m_23) :
    ∀ i < 4, ∀ j < 4, ∀ x, thetaCos i j m_0 m_1 m_2 m_3 m_12 m_13 m_23 = some x →
      (pick p1 p2 p3 i + pick p1 p2 p3 j).x = 0 → (pick p1 p2 p3 i + pick p1 p2 p3 j).y = 0 →
      (pick p1 p2 p3 i + pick p1 p2 p3 j).z = 0 → (pick p1 p2 p3 i + pick p1 p2 p3 j).E ≠ 0 →
      x = -(V4.dot3 (pick p1 p2 p3 i) (pick p1 p2 p3 (6 - i - j))
          / (Real.sqrt (V4.dot3 (pick p1 p2 p3 i) (pick p1 p2 p3 i))
              * Real.sqrt (V4.dot3 (pick p1 p2 p3 (6 - i - j)) (pick p1 p2 p3 (6 - i - j))))) := by
  intro i hi j hj x h' hx hy hz hE
  rw [theta_cos_covariant h i hi j hj x h', V4.covCos_rest _ _ _ hx hy hz hE]

/-- `ζⁱ_{j(k)}`: in the rest frame of particle `i` (of the parent for `i = 0`) the arccos argument
is the cosine of the angle between the directions attached to chains `j` and `k`. -/
theorem zeta_cos_rest_frame (h : Masses p1 p2 p3 m_0 m_1 m_2 m_3 m_12 m_13 m_23) :
    ∀ i < 4, ∀ j < 4, ∀ k < 4, ∀ x, zetaCos i j k m_0 m_1 m_2 m_3 m_12 m_13 m_23 = some x →
      (pick p1 p2 p3 i).x = 0 → (pick p1 p2 p3 i).y = 0 → (pick p1 p2 p3 i).z = 0 →
      (pick p1 p2 p3 i).E ≠ 0 →
      x = V4.dot3 (pick p1 p2 p3 (zetaDir i j)) (pick p1 p2 p3 (zetaDir i (if k = 0 then i else k)))
          / (Real.sqrt (V4.dot3 (pick p1 p2 p3 (zetaDir i j)) (pick p1 p2 p3 (zetaDir i j)))
              * Real.sqrt (V4.dot3 (pick p1 p2 p3 (zetaDir i (if k = 0 then i else k)))
                  (pick p1 p2 p3 (zetaDir i (if k = 0 then i else k))))) := by
  intro i hi j hj k hk x h' hx hy hz hE
  rw [zeta_cos_covariant h i hi j hj k hk x h', V4.covCos_rest _ _ _ hx hy hz hE]

/-- The returned θ̂ itself: `± arccos (p̂_i · p̂_j)` in the parent rest frame, `+` for
(1,2), (2,3), (3,1), `−` for the reversed pairs. -/
theorem thetaHat_angle_rest_frame (h : Masses p1 p2 p3 m_0 m_1 m_2 m_3 m_12 m_13 m_23)
    (hx : (p1 + p2 + p3).x = 0) (hy : (p1 + p2 + p3).y = 0) (hz : (p1 + p2 + p3).z = 0)
    (hE : (p1 + p2 + p3).E ≠ 0) :
    ∀ i j, 1 ≤ i → i ≤ 3 → 1 ≤ j → j ≤ 3 → i ≠ j →
      thetaHatAngle i j m_0 m_1 m_2 m_3 m_12 m_13 m_23
        = .ok ((if j = i % 3 + 1 then 1 else -1) *
            Real.arccos (V4.dot3 (pick p1 p2 p3 i) (pick p1 p2 p3 j)
              / (Real.sqrt (V4.dot3 (pick p1 p2 p3 i) (pick p1 p2 p3 i))
                  * Real.sqrt (V4.dot3 (pick p1 p2 p3 j) (pick p1 p2 p3 j))))) := by
  intro i j hi1 hi3 hj1 hj3 hij
  have hk := thetaHat_kind_consistent m_0 m_1 m_2 m_3 m_12 m_13 m_23 i (by omega) j (by omega)
  have hd := thetaHat_domain i (by omega) j (by omega)
  have hr := thetaHat_cos_rest_frame h hx hy hz hE i (by omega) j (by omega)
  rw [hd] at hk
  have h1 : ¬(i = 0 ∨ j = 0) := by omega
  rw [if_neg h1, if_neg hij] at hk
  by_cases hc : j = i % 3 + 1
  · rw [if_pos hc] at hk
    obtain ⟨x, hx', ha⟩ := hk
    rw [ha, ← hr x hx', if_pos hc, one_mul]
  · rw [if_neg hc] at hk
    obtain ⟨x, hx', ha⟩ := hk
    rw [ha, ← hr x hx', if_neg hc, neg_one_mul]

/-- The returned scattering angle itself: the helicity angle of `i` in the `(ij)` rest frame. -/
theorem theta_angle_rest_frame (h : Masses p1 p2 p3 m_0 m_1 m_2 m_3 m_12 m_13 m_23) :
    ∀ i j, 1 ≤ i → i ≤ 3 → 1 ≤ j → j ≤ 3 → i ≠ j →
      (pick p1 p2 p3 i + pick p1 p2 p3 j).x = 0 → (pick p1 p2 p3 i + pick p1 p2 p3 j).y = 0 →
      (pick p1 p2 p3 i + pick p1 p2 p3 j).z = 0 → (pick p1 p2 p3 i + pick p1 p2 p3 j).E ≠ 0 →
      thetaAngle i j m_0 m_1 m_2 m_3 m_12 m_13 m_23
        = .ok (Real.arccos (-(V4.dot3 (pick p1 p2 p3 i) (pick p1 p2 p3 (6 - i - j))
          / (Real.sqrt (V4.dot3 (pick p1 p2 p3 i) (pick p1 p2 p3 i))
              * Real.sqrt (V4.dot3 (pick p1 p2 p3 (6 - i - j)) (pick p1 p2 p3 (6 - i - j))))))) := by
  intro i j hi1 hi3 hj1 hj3 hij hx hy hz hE
  have hk := theta_kind_consistent m_0 m_1 m_2 m_3 m_12 m_13 m_23 i (by omega) j (by omega)
  have hd := theta_domain i (by omega) j (by omega)
  rw [hd, if_pos ⟨hi1, hj1, hij⟩] at hk
  obtain ⟨x, hx', ha⟩ := hk
  rw [ha, ← theta_cos_rest_frame h i (by omega) j (by omega) x hx' hx hy hz hE]

end geometry

section thetasum
variable {m_0 m_1 m_2 m_3 m_12 m_13 m_23 : ℝ}

/-- For all `i ≠ j ∈ {1,2,3}` both scattering angles are formulated and add up to `π`
(only `σ₁+σ₂+σ₃ = Σ m²` is needed). -/
theorem theta_sum_pi
    (hc : m_12 ^ 2 + m_13 ^ 2 + m_23 ^ 2 = m_0 ^ 2 + m_1 ^ 2 + m_2 ^ 2 + m_3 ^ 2) :
    ∀ i j, 1 ≤ i → i ≤ 3 → 1 ≤ j → j ≤ 3 → i ≠ j →
      ∃ a b, thetaAngle i j m_0 m_1 m_2 m_3 m_12 m_13 m_23 = .ok a ∧
        thetaAngle j i m_0 m_1 m_2 m_3 m_12 m_13 m_23 = .ok b ∧ a + b = Real.pi := by
  have hg := GramMasses.of_constraint hc
  intro i j hi1 hi3 hj1 hj3 hij
  interval_cases i <;> interval_cases j <;> first | exact absurd rfl hij | skip
  · exact ⟨_, _, rfl, rfl, theta_1_2_add_theta_2_1 hg⟩
  · exact ⟨_, _, rfl, rfl, theta_1_3_add_theta_3_1 hg⟩
  · exact ⟨_, _, rfl, rfl, by rw [add_comm]; exact theta_1_2_add_theta_2_1 hg⟩
  · exact ⟨_, _, rfl, rfl, theta_2_3_add_theta_3_2 hg⟩
  · exact ⟨_, _, rfl, rfl, by rw [add_comm]; exact theta_1_3_add_theta_3_1 hg⟩
  · exact ⟨_, _, rfl, rfl, by rw [add_comm]; exact theta_2_3_add_theta_3_2 hg⟩

end thetasum

/-! ### The ζ sum rule

`ζⁱ_{j(k)} = ζⁱ_{j(l)} + ζⁱ_{l(k)}` for every particle `i ∈ {1,2,3}` and every ordering `(j,k,l)` of
`{1,2,3}` — in particular `ζ¹_{2(3)} = ζ¹_{2(1)} + ζ¹_{1(3)}` and its cyclic permutations — on
the part of the physical region where no Källén factor vanishes (no particle at rest in the
parent frame, no pair at threshold). -/

/-- Interior of the Dalitz region in the library's variables. -/
structure Interior (m_0 m_1 m_2 m_3 m_12 m_13 m_23 : ℝ) : Prop where
  m0 : m_0 ≠ 0
  constraint : m_12 ^ 2 + m_13 ^ 2 + m_23 ^ 2 = m_0 ^ 2 + m_1 ^ 2 + m_2 ^ 2 + m_3 ^ 2
  kibble : Kibble (m_23 ^ 2) (m_13 ^ 2) (m_12 ^ 2) m_0 m_1 m_2 m_3 ≤ 0
  parent1 : 0 < Kallen (m_0 ^ 2) (m_1 ^ 2) (m_23 ^ 2)
  parent2 : 0 < Kallen (m_0 ^ 2) (m_2 ^ 2) (m_13 ^ 2)
  parent3 : 0 < Kallen (m_0 ^ 2) (m_3 ^ 2) (m_12 ^ 2)
  pair12 : 0 < Kallen (m_12 ^ 2) (m_1 ^ 2) (m_2 ^ 2)
  pair13 : 0 < Kallen (m_13 ^ 2) (m_1 ^ 2) (m_3 ^ 2)
  pair23 : 0 < Kallen (m_23 ^ 2) (m_2 ^ 2) (m_3 ^ 2)

section sumrule
variable {m_0 m_1 m_2 m_3 m_12 m_13 m_23 : ℝ}

/-- `λ(x², y², z²) = (x−y−z)(x−y+z)(x+y−z)(x+y+z)` -/
theorem kallen_sq_factor (x y z : ℝ) :
    Kallen (x ^ 2) (y ^ 2) (z ^ 2) = (x - y - z) * (x - y + z) * (x + y - z) * (x + y + z) := by
  unfold Kallen; ring

/-- The usual description of the Dalitz region — non-negative masses, every pair mass strictly
between its thresholds `m_j + m_k < m_jk < m_0 − m_i`, the Mandelstam constraint and
`Kibble ≤ 0` — gives an interior point. -/
theorem interior_of_thresholds (hm1 : 0 ≤ m_1) (hm2 : 0 ≤ m_2) (hm3 : 0 ≤ m_3)
    (t23 : m_2 + m_3 < m_23) (u23 : m_23 < m_0 - m_1)
    (t13 : m_1 + m_3 < m_13) (u13 : m_13 < m_0 - m_2)
    (t12 : m_1 + m_2 < m_12) (u12 : m_12 < m_0 - m_3)
    (hc : m_12 ^ 2 + m_13 ^ 2 + m_23 ^ 2 = m_0 ^ 2 + m_1 ^ 2 + m_2 ^ 2 + m_3 ^ 2)
    (hK : Kibble (m_23 ^ 2) (m_13 ^ 2) (m_12 ^ 2) m_0 m_1 m_2 m_3 ≤ 0) :
    Interior m_0 m_1 m_2 m_3 m_12 m_13 m_23 := by
  have pos4 : ∀ a b c d : ℝ, 0 < a → 0 < b → 0 < c → 0 < d → 0 < a * b * c * d := by
    intro a b c d ha hb hc hd; positivity
  refine ⟨by linarith, hc, hK, ?_, ?_, ?_, ?_, ?_, ?_⟩ <;> rw [kallen_sq_factor] <;>
    apply pos4 <;> linarith

/-- `ζ¹_{2(3)} = ζ¹_{2(1)} + ζ¹_{1(3)}`, `ζ²_{3(1)} = ζ²_{3(2)} + ζ²_{2(1)}`,
`ζ³_{1(2)} = ζ³_{1(3)} + ζ³_{3(2)}` as identities between the returned arccos expressions. -/
theorem zeta_sum_rule_cyclic (h : Interior m_0 m_1 m_2 m_3 m_12 m_13 m_23) :
    zeta_1_2_3 m_0 m_1 m_2 m_3 m_12 m_13 m_23
        = zeta_1_2_1 m_0 m_1 m_2 m_3 m_12 m_13 m_23 + zeta_1_1_3 m_0 m_1 m_2 m_3 m_12 m_13 m_23 ∧
      zeta_2_3_1 m_0 m_1 m_2 m_3 m_12 m_13 m_23
        = zeta_2_3_2 m_0 m_1 m_2 m_3 m_12 m_13 m_23 + zeta_2_2_1 m_0 m_1 m_2 m_3 m_12 m_13 m_23 ∧
      zeta_3_1_2 m_0 m_1 m_2 m_3 m_12 m_13 m_23
        = zeta_3_1_3 m_0 m_1 m_2 m_3 m_12 m_13 m_23 + zeta_3_3_2 m_0 m_1 m_2 m_3 m_12 m_13 m_23 := by
  have hg := GramMasses.of_constraint h.constraint
  have hG := hg.det_nonneg h.m0 h.kibble
  exact ⟨zeta_sum_rule_1 hg hG h.parent1 h.pair12 h.pair13,
    zeta_sum_rule_2 hg hG h.parent2 h.pair12 h.pair23,
    zeta_sum_rule_3 hg hG h.parent3 h.pair13 h.pair23⟩

/-- The sum rule for every particle `i` and every ordering `(j, k, l)` of `{1,2,3}`:
`ζⁱ_{j(k)} = ζⁱ_{j(l)} + ζⁱ_{l(k)}`. -/
theorem zeta_sum_rule_all (h : Interior m_0 m_1 m_2 m_3 m_12 m_13 m_23) :
    ∀ i j k l, 1 ≤ i → i ≤ 3 → 1 ≤ j → j ≤ 3 → 1 ≤ k → k ≤ 3 → 1 ≤ l → l ≤ 3 →
      j ≠ k → j ≠ l → k ≠ l →
      ∃ a b c, zetaAngle i j k m_0 m_1 m_2 m_3 m_12 m_13 m_23 = .ok a ∧
        zetaAngle i j l m_0 m_1 m_2 m_3 m_12 m_13 m_23 = .ok b ∧
        zetaAngle i l k m_0 m_1 m_2 m_3 m_12 m_13 m_23 = .ok c ∧ a = b + c := by
  intro i j k l hi1 hi3 hj1 hj3 hk1 hk3 hl1 hl3 hjk hjl hkl
  obtain ⟨s1, s2, s3⟩ := zeta_sum_rule_cyclic h
  obtain rfl : l = 6 - j - k := by omega
  -- the entries `(i,j,k)` and `(i,k,j)` have the same arccos argument and opposite signs, so the
  -- three cyclic identities give all orderings
  have a1 : zeta_1_3_2 m_0 m_1 m_2 m_3 m_12 m_13 m_23 = -zeta_1_2_3 m_0 m_1 m_2 m_3 m_12 m_13 m_23 := neg_one_mul _
  have b1 : zeta_1_1_2 m_0 m_1 m_2 m_3 m_12 m_13 m_23 = -zeta_1_2_1 m_0 m_1 m_2 m_3 m_12 m_13 m_23 := neg_one_mul _
  have c1 : zeta_1_3_1 m_0 m_1 m_2 m_3 m_12 m_13 m_23 = -zeta_1_1_3 m_0 m_1 m_2 m_3 m_12 m_13 m_23 := neg_one_mul _
  have a2 : zeta_2_1_3 m_0 m_1 m_2 m_3 m_12 m_13 m_23 = -zeta_2_3_1 m_0 m_1 m_2 m_3 m_12 m_13 m_23 := neg_one_mul _
  have b2 : zeta_2_2_3 m_0 m_1 m_2 m_3 m_12 m_13 m_23 = -zeta_2_3_2 m_0 m_1 m_2 m_3 m_12 m_13 m_23 := neg_one_mul _
  have c2 : zeta_2_1_2 m_0 m_1 m_2 m_3 m_12 m_13 m_23 = -zeta_2_2_1 m_0 m_1 m_2 m_3 m_12 m_13 m_23 := neg_one_mul _
  have a3 : zeta_3_2_1 m_0 m_1 m_2 m_3 m_12 m_13 m_23 = -zeta_3_1_2 m_0 m_1 m_2 m_3 m_12 m_13 m_23 := neg_one_mul _
  have b3 : zeta_3_3_1 m_0 m_1 m_2 m_3 m_12 m_13 m_23 = -zeta_3_1_3 m_0 m_1 m_2 m_3 m_12 m_13 m_23 := neg_one_mul _
  have c3 : zeta_3_2_3 m_0 m_1 m_2 m_3 m_12 m_13 m_23 = -zeta_3_3_2 m_0 m_1 m_2 m_3 m_12 m_13 m_23 := neg_one_mul _
  interval_cases i
  · interval_cases j <;> interval_cases k <;>
      first
      | exact absurd rfl hjk
      | exact ⟨_, _, _, rfl, rfl, rfl, by linarith only [s1, a1, b1, c1]⟩
  · interval_cases j <;> interval_cases k <;>
      first
      | exact absurd rfl hjk
      | exact ⟨_, _, _, rfl, rfl, rfl, by linarith only [s2, a2, b2, c2]⟩
  · interval_cases j <;> interval_cases k <;>
      first
      | exact absurd rfl hjk
      | exact ⟨_, _, _, rfl, rfl, rfl, by linarith only [s3, a3, b3, c3]⟩

end sumrule

/-! ### Events give physical points

Every three-body event written in the rest frame of the parent satisfies the hypotheses used
above (`σ₁+σ₂+σ₃ = Σ m²` holds in any frame, see `Masses.constraint`). -/

section events
variable {m_0 m_1 m_2 m_3 m_12 m_13 m_23 : ℝ} {p1 p2 p3 : V4}

/-- `Kibble = −64 m₀⁴ |p⃗₂ × p⃗₃|² ≤ 0` on every event given in the parent rest frame. -/
theorem kibble_nonpos_of_event (h : Masses p1 p2 p3 m_0 m_1 m_2 m_3 m_12 m_13 m_23)
    (hx : (p1 + p2 + p3).x = 0) (hy : (p1 + p2 + p3).y = 0) (hz : (p1 + p2 + p3).z = 0) :
    Kibble (m_23 ^ 2) (m_13 ^ 2) (m_12 ^ 2) m_0 m_1 m_2 m_3 ≤ 0 := by
  -- `m₀² ·` Gram determinant is the Cauchy–Schwarz defect of `p₂, p₃` for the form `H_P`, which in
  -- the rest frame of `P = p₁+p₂+p₃` is `P₀⁴ (|p⃗₂|²|p⃗₃|² − (p⃗₂·p⃗₃)²)`
  have hg := h.gram
  have hrow : m_0 ^ 2 * (V4.gram p1 p2 p3).det
      = (V4.dot (p1 + p2 + p3) p2 * V4.dot (p1 + p2 + p3) p2
            - V4.dot (p1 + p2 + p3) (p1 + p2 + p3) * V4.dot p2 p2)
          * (V4.dot (p1 + p2 + p3) p3 * V4.dot (p1 + p2 + p3) p3
            - V4.dot (p1 + p2 + p3) (p1 + p2 + p3) * V4.dot p3 p3)
        - (V4.dot (p1 + p2 + p3) p2 * V4.dot (p1 + p2 + p3) p3
            - V4.dot (p1 + p2 + p3) (p1 + p2 + p3) * V4.dot p2 p3) ^ 2 := by
    rw [hg.h0]
    simp only [V4.dot_add_left, V4.dot_add_right, V4.dot_comm p2 p1, V4.dot_comm p3 p1,
      V4.dot_comm p3 p2, Gram.dot, Gram.det, V4.gram, gram3, mul_one]
    ring
  rw [V4.rest_form _ _ _ hx hy hz, V4.rest_form _ _ _ hx hy hz, V4.rest_form _ _ _ hx hy hz] at hrow
  have hcs := V4.dot3_sq_le p2 p3
  have hE : 0 ≤ ((p1 + p2 + p3).E ^ 2) ^ 2 := by positivity
  rw [hg.kibble]
  nlinarith [mul_nonneg hE (sub_nonneg.mpr hcs)]

/-- Hence all arccos arguments of all three families lie in `[-1, 1]` on every event (parent rest
frame, `m₀ ≠ 0`). -/
theorem cos_range_of_event (h : Masses p1 p2 p3 m_0 m_1 m_2 m_3 m_12 m_13 m_23)
    (hx : (p1 + p2 + p3).x = 0) (hy : (p1 + p2 + p3).y = 0) (hz : (p1 + p2 + p3).z = 0)
    (hm : m_0 ≠ 0) :
    (∀ i < 4, ∀ j < 4, ∀ x, thetaCos i j m_0 m_1 m_2 m_3 m_12 m_13 m_23 = some x → |x| ≤ 1) ∧
    (∀ i < 4, ∀ j < 4, ∀ x, thetaHatCos i j m_0 m_1 m_2 m_3 m_12 m_13 m_23 = some x → |x| ≤ 1) ∧
    (∀ i < 4, ∀ j < 4, ∀ k < 4, ∀ x,
      zetaCos i j k m_0 m_1 m_2 m_3 m_12 m_13 m_23 = some x → |x| ≤ 1) :=
  ⟨theta_cos_range hm h.constraint (kibble_nonpos_of_event h hx hy hz),
    thetaHat_cos_range hm h.constraint (kibble_nonpos_of_event h hx hy hz),
    zeta_cos_range hm h.constraint (kibble_nonpos_of_event h hx hy hz)⟩

/-- In the parent rest frame `λ(m₀², m₁², σ₁) = 4 m₀² |p⃗₁|²` (and likewise for 2, 3): the `parent`
conditions of `Interior` say that no particle is at rest. -/
theorem kallen_parent_of_event (h : Masses p1 p2 p3 m_0 m_1 m_2 m_3 m_12 m_13 m_23)
    (hx : (p1 + p2 + p3).x = 0) (hy : (p1 + p2 + p3).y = 0) (hz : (p1 + p2 + p3).z = 0) :
    Kallen (m_0 ^ 2) (m_1 ^ 2) (m_23 ^ 2) = 4 * m_0 ^ 2 * V4.dot3 p1 p1 ∧
    Kallen (m_0 ^ 2) (m_2 ^ 2) (m_13 ^ 2) = 4 * m_0 ^ 2 * V4.dot3 p2 p2 ∧
    Kallen (m_0 ^ 2) (m_3 ^ 2) (m_12 ^ 2) = 4 * m_0 ^ 2 * V4.dot3 p3 p3 := by
  have hg := h.gram
  -- `λ(m₀², m_i², σ_i) = 4 ((p_i·P)² − p_i² P²)`, which in the rest frame of `P` is `4 P₀² |p⃗_i|²`
  have key : ∀ {a b : C3} {p : V4} {x y : ℝ}, (⟨1, 1, 1⟩ : C3) = a + b → V4.lin p1 p2 p3 a = p →
      x = (V4.gram p1 p2 p3).dot a a → y = (V4.gram p1 p2 p3).dot b b →
      Kallen (m_0 ^ 2) x y = 4 * m_0 ^ 2 * V4.dot3 p p := by
    intro a b p x y hc ha hx' hy'
    rw [Gram.kallen_dot _ hc hg.h0 hx' hy', ← Gram.radicand_add _ hc, ← V4.dot_lin, ← V4.dot_lin,
      ← V4.dot_lin, ha, V4.lin_111, h.h0, V4.dot_comm p, sq, mul_comm (V4.dot p p),
      V4.rest_form _ p p hx hy hz, V4.dot_self_rest _ hx hy hz]
    ring
  exact ⟨key (by norm_num [C3.add_def]) V4.lin_100 hg.h1 hg.h23,
    key (by norm_num [C3.add_def]) V4.lin_010 hg.h2 hg.h13,
    key (by norm_num [C3.add_def]) V4.lin_001 hg.h3 hg.h12⟩

/-- Conversely, every point of the region described in the library's variables — `m₀ > 0`, the
Mandelstam constraint, `Kibble ≤ 0`, particle 1 not at rest (`λ(m₀², m₁², σ₁) > 0`) — is the set of
invariant masses of an event in the parent rest frame, with the energies
`E_i = (m₀² + m_i² − σ_i)/(2 m₀)`. -/
theorem event_of_dalitz_point (hm0 : 0 < m_0)
    (hc : m_12 ^ 2 + m_13 ^ 2 + m_23 ^ 2 = m_0 ^ 2 + m_1 ^ 2 + m_2 ^ 2 + m_3 ^ 2)
    (hK : Kibble (m_23 ^ 2) (m_13 ^ 2) (m_12 ^ 2) m_0 m_1 m_2 m_3 ≤ 0)
    (h1 : 0 < Kallen (m_0 ^ 2) (m_1 ^ 2) (m_23 ^ 2)) :
    ∃ q1 q2 q3 : V4, Masses q1 q2 q3 m_0 m_1 m_2 m_3 m_12 m_13 m_23 ∧
      (q1 + q2 + q3).x = 0 ∧ (q1 + q2 + q3).y = 0 ∧ (q1 + q2 + q3).z = 0 ∧
      (q1 + q2 + q3).E = m_0 ∧ q1.E = (m_0 ^ 2 + m_1 ^ 2 - m_23 ^ 2) / (2 * m_0) ∧
      q2.E = (m_0 ^ 2 + m_2 ^ 2 - m_13 ^ 2) / (2 * m_0) ∧
      q3.E = (m_0 ^ 2 + m_3 ^ 2 - m_12 ^ 2) / (2 * m_0) := by
  have e : m_12 ^ 2 = m_0 ^ 2 + m_1 ^ 2 + m_2 ^ 2 + m_3 ^ 2 - m_13 ^ 2 - m_23 ^ 2 := by linarith
  have hm : m_0 ≠ 0 := hm0.ne'
  set E1 := (m_0 ^ 2 + m_1 ^ 2 - m_23 ^ 2) / (2 * m_0) with hE1d
  set E2 := (m_0 ^ 2 + m_2 ^ 2 - m_13 ^ 2) / (2 * m_0) with hE2d
  set q := Real.sqrt (Kallen (m_0 ^ 2) (m_1 ^ 2) (m_23 ^ 2)) / (2 * m_0) with hqd
  have hqpos : 0 < q := div_pos (Real.sqrt_pos.mpr h1) (by positivity)
  have hE1 : 2 * m_0 * E1 = m_0 ^ 2 + m_1 ^ 2 - m_23 ^ 2 := by rw [hE1d]; field_simp
  have hE2 : 2 * m_0 * E2 = m_0 ^ 2 + m_2 ^ 2 - m_13 ^ 2 := by rw [hE2d]; field_simp
  have hq : q ^ 2 = E1 ^ 2 - m_1 ^ 2 := by
    rw [hqd, div_pow, Real.sq_sqrt h1.le, hE1d]
    unfold Kallen
    field_simp
    ring
  set d := E1 * E2 - (m_12 ^ 2 - m_1 ^ 2 - m_2 ^ 2) / 2 with hdd
  set x := d / q with hxd
  have hd : q * x = d := by rw [hxd]; field_simp
  -- |p⃗₁|²|p⃗₂|² − (p⃗₁·p⃗₂)² is the Gram determinant of the event divided by m₀², hence ≥ 0
  have hG := (GramMasses.of_constraint hc).det_nonneg hm hK
  have hgram : (E1 ^ 2 - m_1 ^ 2) * (E2 ^ 2 - m_2 ^ 2) - d ^ 2
      = gram3 (m_1 ^ 2) (m_2 ^ 2) (m_3 ^ 2) ((m_12 ^ 2 - m_1 ^ 2 - m_2 ^ 2) / 2)
          ((m_13 ^ 2 - m_1 ^ 2 - m_3 ^ 2) / 2) ((m_23 ^ 2 - m_2 ^ 2 - m_3 ^ 2) / 2) / m_0 ^ 2 := by
    rw [hdd, hE1d, hE2d]
    unfold gram3
    rw [e]
    field_simp
    ring
  have hw : 0 ≤ E2 ^ 2 - m_2 ^ 2 - x ^ 2 := by
    have : E2 ^ 2 - m_2 ^ 2 - x ^ 2 = ((E1 ^ 2 - m_1 ^ 2) * (E2 ^ 2 - m_2 ^ 2) - d ^ 2) / q ^ 2 := by
      rw [hxd, ← hq]; field_simp
    rw [this, hgram]
    exact div_nonneg (div_nonneg hG (by positivity)) (by positivity)
  set y := Real.sqrt (E2 ^ 2 - m_2 ^ 2 - x ^ 2) with hyd
  have hxy : x ^ 2 + y ^ 2 = E2 ^ 2 - m_2 ^ 2 := by rw [hyd, Real.sq_sqrt hw]; ring
  refine ⟨⟨E1, q, 0, 0⟩, ⟨E2, x, y, 0⟩, ⟨m_0 - E1 - E2, -q - x, -y, 0⟩,
    masses_of_components E1 E2 q x y hc hE1 hE2 hq hxy (by rw [hd]), ?_, ?_, ?_, ?_, rfl, rfl, ?_⟩
  · simp only [V4.add_x]; ring
  · simp only [V4.add_y]; ring
  · simp only [V4.add_z]; ring
  · simp only [V4.add_E]; ring
  · show m_0 - E1 - E2 = (m_0 ^ 2 + m_3 ^ 2 - m_12 ^ 2) / (2 * m_0)
    rw [hE1d, hE2d, e]; field_simp; ring

/-- Inside the mass thresholds these energies are non-negative (so the event is physical). -/
theorem energy_nonneg_of_threshold (m0 mi mjk : ℝ) (hm0 : 0 < m0) (hmi : 0 ≤ mi) (hmjk : 0 ≤ mjk)
    (hthr : mjk ≤ m0 - mi) : 0 ≤ (m0 ^ 2 + mi ^ 2 - mjk ^ 2) / (2 * m0) := by
  apply div_nonneg _ (by positivity)
  nlinarith [mul_nonneg hmi hm0.le, mul_nonneg hmjk hmjk, mul_self_le_mul_self hmjk hthr]

end events

/-- a concrete event in the parent rest frame: p₁ = (13; −3,−4,0), p₂ = (5; 3,0,0),
p₃ = (5; 0,4,0); m₀ = 23, m₁ = 12, m₂ = 4, m₃ = 3 -/
example : ∃ (p1 p2 p3 : V4) (m_0 m_1 m_2 m_3 m_12 m_13 m_23 : ℝ),
    Masses p1 p2 p3 m_0 m_1 m_2 m_3 m_12 m_13 m_23 ∧ (p1 + p2 + p3).x = 0 ∧
      (p1 + p2 + p3).y = 0 ∧ (p1 + p2 + p3).z = 0 ∧ m_0 ≠ 0 ∧ V4.dot3 p2 p3 ≠ V4.dot3 p1 p2 := by
  refine ⟨⟨13, -3, -4, 0⟩, ⟨5, 3, 0, 0⟩, ⟨5, 0, 4, 0⟩, 23, 12, 4, 3, Real.sqrt 308, Real.sqrt 315,
    Real.sqrt 75, ⟨?_, ?_, ?_, ?_, ?_, ?_, ?_⟩, ?_, ?_, ?_, ?_, ?_⟩
  all_goals first
    | (rw [Real.sq_sqrt (by norm_num)]; norm_num [V4.dot, V4.add_E, V4.add_x, V4.add_y, V4.add_z])
    | norm_num [V4.dot, V4.dot3, V4.add_E, V4.add_x, V4.add_y, V4.add_z]

/-- the same point is an interior point: the sum rule is not vacuous -/
example : Interior 23 12 4 3 (Real.sqrt 308) (Real.sqrt 315) (Real.sqrt 75) := by
  have e1 : Real.sqrt 308 ^ 2 = 308 := Real.sq_sqrt (by norm_num)
  have e2 : Real.sqrt 315 ^ 2 = 315 := Real.sq_sqrt (by norm_num)
  have e3 : Real.sqrt 75 ^ 2 = 75 := Real.sq_sqrt (by norm_num)
  constructor <;> (try simp only [Kibble, Kallen, e1, e2, e3]) <;> norm_num

end Ampverif.Props.C19
