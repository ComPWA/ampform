/-
C13 — dynamics attach to the right decay with the right variables and defaults.

Theorems about the executable selector / formulation model `Ampverif.Model.C13`
(Model/C13Selector.lean, sharing the reaction layer of Model/C01Builder.lean), tied to /repo on
every run by the T2 correspondence of tools/props/C13.py (assignment histories through the real
`DynamicsSelector`, formulated models with recording builders).
-/
import Ampverif.Lemmas.C13Selector
import Ampverif.Lemmas.C13Examples

namespace Ampverif.Props.C13
open Ampverif.Model.C01 Ampverif.Model.C13

/-- After ANY history of assignments (by name, particle, decay, node, unsupported selections, in any
order, with re-assignments) the builder of a decay of the reaction is the builder of the LAST
operation whose selection denotes that decay, else `create_non_dynamic`. -/
theorem C13_selector (ctx : Ctx) (ds : List Decay) (ops : List Op) (d : Decay) (hd : d ∈ ds) :
    choice (run ctx ds ops) d = some (spec ctx ops d) := by
  unfold run spec
  exact choice_fold_present ctx ops d (init ds) nonDynamic (by simp [choice_init, hd])

/-- A decay that is not a key of the selector and is never selected directly (by decay / by node)
stays outside, whatever is assigned by name: `__formulate_dynamics` gives it the factor 1. -/
theorem C13_selector_absent (ctx : Ctx) (ds : List Decay) (ops : List Op) (d : Decay) (hd : d ∉ ds)
    (hdirect : ∀ op ∈ ops, ∀ d', (op.sel = .byDecay d' ∨ ∃ t n, op.sel = .byNode t n ∧ ctx.decayAt t n = some d') → d' ≠ d) :
    choice (run ctx ds ops) d = none := by
  unfold run
  exact choice_fold_absent ctx ops d (fun op hop => directly_eq_false ctx op.sel d (hdirect op hop)) _
    (by simp [choice_init, hd])

/-- **C13_exact.** With the selector covering the combinatorics chains (fix e918528): for every history
of assignments, every transition, every chain of it and every node, the dynamics factor is the call
of the builder chosen by the LAST operation denoting this node's decay (the non-dynamic default, i.e.
the factor 1, when no operation denotes it) on the decaying particle and on THIS node's variable set.
So a history changes exactly the chains that contain a denoted node. -/
theorem C13_exact (r : Reaction) (ops : List Op) (t : Transition) (ht : t ∈ r.transitions)
    (ch : Chain) (hch : ch ∈ t.chains) (ni : NodeInfo) (hni : ni ∈ (r.tree ch.topo).infos) :
    nodeDyn (run (ctxOf r) (initialDecays true r) ops) r ch.states t.inters ni
      = some ⟨spec (ctxOf r) ops (dkey ch.states t.inters ni),
              (stateAt ch.states ni.self.edge).pidx, varSet r ch.states t.inters ni⟩ := by
  unfold nodeDyn
  rw [C13_selector _ _ _ _ (chain_decay_mem r t ht ch hch ni hni)]

/-- **C13_exact on the chain AMPLITUDE, for every builder configuration.** Whatever `use_helicity_couplings`
(amplitude coefficient `C` per chain vs helicity coupling `H` per node), the naming flags, the alignment,
`stable_final_state_ids` and `scalar_initial_state_mass` are: the dynamics factors multiplied into the amplitude
of a chain are, node by node (ascending node ids), exactly the calls of `C13_exact` — the builder of the LAST
operation denoting that node's decay on the decaying particle and the node's own variable set. -/
theorem C13_exact_amplitude (cfg : Config) (r : Reaction) (ops : List Op) (pm : List (Name × Name))
    (t : Transition) (ht : t ∈ r.transitions) (ch : Chain) (hch : ch ∈ t.chains) :
    (chainSkel cfg (run (ctxOf r) (initialDecays true r) ops) r pm t ch).nodes.map (·.dyn)
      = (r.tree ch.topo).infosSorted.map (fun ni =>
          some ⟨spec (ctxOf r) ops (dkey ch.states t.inters ni),
                (stateAt ch.states ni.self.edge).pidx, varSet r ch.states t.inters ni⟩) := by
  simp only [chainSkel, List.map_map]
  apply List.map_congr_left
  intro ni hni
  have hmem : ni ∈ (r.tree ch.topo).infos := by
    unfold Tree.infosSorted at hni
    exact (mem_sortBy _ _ _).1 hni
  simp only [Function.comp, nodeSkel]
  exact C13_exact r ops t ht ch hch ni hmem

/-- … hence every node of every chain contributes a factor (none is dropped), in either mode -/
theorem C13_amplitude_factors (cfg : Config) (r : Reaction) (ops : List Op) (pm : List (Name × Name))
    (t : Transition) (ht : t ∈ r.transitions) (ch : Chain) (hch : ch ∈ t.chains) :
    (chainSkel cfg (run (ctxOf r) (initialDecays true r) ops) r pm t ch).dynFactors
      = (r.tree ch.topo).infosSorted.map (fun ni =>
          ⟨spec (ctxOf r) ops (dkey ch.states t.inters ni),
           (stateAt ch.states ni.self.edge).pidx, varSet r ch.states t.inters ni⟩) := by
  have h := congrArg (List.filterMap id) (C13_exact_amplitude cfg r ops pm t ht ch hch)
  simpa [ChainSkel.dynFactors, List.filterMap_map] using h

/-- the two coefficient modes differ in the coefficient / coupling symbols ONLY: same Wigner-D angles, same
dynamics factors -/
theorem C13_mode_independent (cfg cfg' : Config) (m : Choices) (r : Reaction) (pm pm' : List (Name × Name))
    (t : Transition) (ch : Chain) :
    (chainSkel cfg m r pm t ch).nodes.map (fun ns => (ns.phi, ns.theta, ns.dyn))
      = (chainSkel cfg' m r pm' t ch).nodes.map (fun ns => (ns.phi, ns.theta, ns.dyn)) := by
  simp [chainSkel, nodeSkel, List.map_map, Function.comp]

/-- helicity-coupling mode: no chain coefficient, one coupling per node; amplitude-coefficient mode: one chain
coefficient, no couplings -/
theorem C13_mode_shape (cfg : Config) (m : Choices) (r : Reaction) (pm : List (Name × Name)) (t : Transition) (ch : Chain) :
    (cfg.helicityCouplings = true →
        (chainSkel cfg m r pm t ch).coef = none ∧ ∀ ns ∈ (chainSkel cfg m r pm t ch).nodes, ns.coupling.isSome = true)
    ∧ (cfg.helicityCouplings = false →
        (chainSkel cfg m r pm t ch).coef.isSome = true ∧ ∀ ns ∈ (chainSkel cfg m r pm t ch).nodes, ns.coupling = none) := by
  constructor <;> intro h <;> simp [chainSkel, nodeSkel, h]

/-- no operation denotes the node's decay ⇒ the non-dynamic builder (factor 1) -/
theorem C13_unselected (r : Reaction) (ops : List Op) (d : Decay)
    (h : ∀ op ∈ ops, denotes (ctxOf r) op.sel d = false) : spec (ctxOf r) ops d = nonDynamic := by
  unfold spec
  rw [lastDenoting_eq_none _ ops d h]
  rfl

/-- **C13_L and the mass symbols.** The variable set handed to the builder consists of the invariant-mass
symbol of the decaying edge (`m_` + the sorted final-state ids below it), the mass symbols of the two
children in the order helicity child / opposite-helicity child, the helicity angles of the helicity
child, and `L = l_magnitude` whenever the interaction has one; only without it the integer spin of the
parent is used, and a half-integer spin gives no L. -/
theorem C13_L (r : Reaction) (ss : List State) (is : List Inter) (ni : NodeInfo) :
    let vs := varSet r ss is ni
    vs.inv = massSym ni.self ∧ vs.m1 = massSym ni.c1 ∧ vs.m2 = massSym ni.c2
    ∧ vs.phi = phiSym ni.c1 ni.anc ∧ vs.theta = thetaSym ni.c1 ni.anc
    ∧ (∀ l, (interAt is ni.nid).l = some l → vs.l = some l)
    ∧ ((interAt is ni.nid).l = none →
        vs.l = (let p := r.particle (stateAt ss ni.self.edge).pidx
                if p.spin2 % 2 = 0 then some (p.spin2 / 2) else none)) := by
  refine ⟨rfl, rfl, rfl, rfl, rfl, ?_, ?_⟩
  · intro l hl; simp [varSet, hl]
  · intro hl; simp [varSet, hl]

/-- **C13_defaults.** Under the explicit hypothesis that `latex or name` identifies a particle's table
values, the collected defaults (last writer wins) give every mass / width / radius / custom parameter
the value that ANY call wrote for it: equal names ⇒ equal defaults, and `m_{X}`, `\Gamma_{X}` carry
the mass and width tokens of the particle table. -/
theorem C13_defaults (one : Val) (r : Reaction) (pinfo : Nat → PInfo) (calls : List DynCall)
    (hid : ∀ c ∈ calls, ∀ c' ∈ calls, (r.particle c.parent).ident = (r.particle c'.parent).ident →
      (pinfo c.parent).mass = (pinfo c'.parent).mass ∧ (pinfo c.parent).width = (pinfo c'.parent).width) :
    ∀ c ∈ calls, ∀ kv ∈ builderDefaults one (kindOfId c.builder) (r.particle c.parent) (pinfo c.parent),
      dictGet? kv.1 (collect (callWrites one r pinfo calls)) = some kv.2 := by
  intro c hc kv hkv
  refine collect_consistent _ ?_ kv (List.mem_flatMap.2 ⟨c, hc, hkv⟩)
  intro a ha b hb hab
  obtain ⟨ca, hca, ha⟩ := List.mem_flatMap.1 ha
  obtain ⟨cb, hcb, hb⟩ := List.mem_flatMap.1 hb
  obtain ⟨hia, hva⟩ := builderDefaults_spec _ _ _ _ _ ha
  obtain ⟨hib, hvb⟩ := builderDefaults_spec _ _ _ _ _ hb
  -- equal names carry the same identifier, hence the same mass and width tokens
  obtain ⟨hm, hw⟩ := hid ca hca cb hcb (by rw [← hia, ← hib, hab])
  rw [hva, hvb, hab, defaultOf, defaultOf, hm, hw]

open Examples

/-- before fix e918528 the omega node of the swapped chain is not a key: assigning by name gives the
own chain builder 1 and leaves the swapped chain WITHOUT dynamics (factor 1) -/
theorem C13_witness_swapped_chain :
    let ctx := ctxOf omegaR
    let m := run ctx (initialDecays false omegaR) [⟨.byName n!"omega(782)", 1⟩]
    choice m omegaDecayOwn = some 1 ∧ choice m omegaDecaySwapped = none := by
  decide +kernel

/-- with the fix both chains get the builder -/
example :
    let m := run (ctxOf omegaR) (initialDecays true omegaR) [⟨.byName n!"omega(782)", 1⟩]
    choice m omegaDecayOwn = some 1 ∧ choice m omegaDecaySwapped = some 1 := by
  decide +kernel

/-- an interleaved history (name, decay, particle, node, unknown name, unsupported, name again, node):
the specification gives builder 3 for the own omega decay of transition 0 (last denoting op is the
second by-name assignment), the selector agrees, and the decay is one of the 12 initial ones -/
example : omegaDecayOwn ∈ initialDecays true omegaR ∧ spec (ctxOf omegaR) history omegaDecayOwn = 3
    ∧ choice (run (ctxOf omegaR) (initialDecays true omegaR) history) omegaDecayOwn = some 3
    ∧ (initialDecays true omegaR).length = 12 := by
  decide +kernel

/-- `C13_exact` instantiated: six builder calls for the omega nodes (3 transitions x 2 chains) -/
example : ((allCalls (run (ctxOf omegaR) (initialDecays true omegaR) [⟨.byName n!"omega(782)", 1⟩]) omegaR).filter
    (fun c => c.builder = 1)).length = 6 := by decide +kernel

end Ampverif.Props.C13
