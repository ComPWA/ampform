/-
C10 — production vectors solve the K-matrix equation and honour their arguments.

* All matrix sizes (abstract): F = (1 − iK)⁻¹ P solves (1 − iK) F = P; relativistic analogue.
* The entries `dynamics/kmatrix.py` really computes for n = 1, 2 (`Ampverif.Gen.C10.*`, REGENERATED from
  the working tree on every run) solve the equation wherever the denominators of the symbolic inverse
  do not vanish, and these do not vanish for real symmetric K and positive ρ
  (`Lemmas/C10Dens.lean`: they are multiples of `det(1 − iK)`).
* `formulate(n, n_R)` = vector expression ∘ (library's K and P parametrisations), hence the equation
  holds for the formulated F-vectors with the library's own K, P and ρ; the parametrisations are the
  documented pole formulas (`Lemmas/C09Pole.lean`, `Lemmas/C10Pole.lean`: one pole term at a time).
* n = n_R = 1 reduces to the library's Breit-Wigner functions as documented.
* A phase-space factor / angular momentum / meson radius passed by the caller is the only one that
  occurs in the result (regenerated occurrence table, `decide`).

`formulate` is translated with a MARKER phase-space class, marker `L` and marker radius; the leaves
`rho{i}`, `rhoR_{R}_{i}`, `ff_{i}`, `ff0_{R}_{i}` of the model are the marker phase-space factor and
the form factors at `s` resp. `m_R²`.
-/
import Ampverif.Lemmas.C10Dens
import Ampverif.Lemmas.C10Pole
import Ampverif.Lemmas.C11Branch

set_option linter.unusedVariables false

namespace Ampverif.Props.C10
open Ampverif.Gen.C10 Ampverif.Lemmas.C09 Ampverif.Lemmas.C10 Matrix

section AllN
variable {n : Type*} [Fintype n] [DecidableEq n]

/-- **All n.** For Hermitian (e.g. real symmetric) `K`, `F = (1 − iK)⁻¹ P` solves `(1 − iK) F = P`
(the inverse exists). -/
theorem pvector_solves_all_n (K : Matrix n n ℂ) (hK : K.IsHermitian) (P : n → ℂ) :
    (D K) *ᵥ ((D K)⁻¹ *ᵥ P) = P := by
  rw [Matrix.mulVec_mulVec, mul_nonsing_inv _ (isUnit_det_D hK), Matrix.one_mulVec]

/-- **All n, relativistic.** `ρ` positive diagonal, `K̂` Hermitian: `F̂ = (1 − iK̂ρ)⁻¹ P` solves
`(1 − iK̂ρ) F̂ = P`. -/
theorem rel_pvector_solves_all_n (r : n → ℝ) (hr : ∀ i, 0 < r i) (Kh : Matrix n n ℂ)
    (hK : Kh.IsHermitian) (P : n → ℂ) :
    (1 - Complex.I • (Kh * Matrix.diagonal fun i => ((r i : ℝ) : ℂ)))
      *ᵥ ((1 - Complex.I • (Kh * Matrix.diagonal fun i => ((r i : ℝ) : ℂ)))⁻¹ *ᵥ P) = P := by
  rw [Matrix.mulVec_mulVec, mul_nonsing_inv _ (isUnit_det_rel_right r hr hK), Matrix.one_mulVec]

end AllN

/-- n = 1: `(1 − iK) F = P`. -/
theorem nrF1_solves (a p : ℂ) (h : nrF1_den1 a p ≠ 0) :
    (1 - Complex.I * a) * nrF1_0 a p = p := by
  simp only [nrF1_0]
  field_simp
  simp only [nrF1_den1]
  grind only [Complex.I_sq]

/-- n = 2: `(1 − iK) F = P` for the regenerated entries, wherever the denominators of the symbolic
inverse do not vanish. -/
theorem nrF2_solves (a b c d p0 p1 : ℂ) (h1 : nrF2_den1 a b c d p0 p1 ≠ 0) (h2 : nrF2_den2 a b c d p0 p1 ≠ 0) :
    ((1 - Complex.I * a) * nrF2_0 a b c d p0 p1 + (-(Complex.I * b)) * nrF2_1 a b c d p0 p1 = p0) ∧
    ((-(Complex.I * c)) * nrF2_0 a b c d p0 p1 + (1 - Complex.I * d) * nrF2_1 a b c d p0 p1 = p1) := by
  rw [nrF2_den2_eq] at h2
  simp only [nrF2_0, nrF2_1, nrF2_den1_eq, nrF2_den2_eq]
  generalize hΔ : 1 - Complex.I * a - Complex.I * d - a * d + b * c = Δ at *
  -- both rows: `Δ⁻¹ · ((1 − ia)(1 − id) − i²bc) · p = p`, an identity modulo `i² = −1`
  constructor
  · field_simp
    linear_combination (p0 * (a * d - b * c)) * Complex.I_sq + p0 * hΔ
  · field_simp
    linear_combination (p1 * (a * d - b * c)) * Complex.I_sq + p1 * hΔ

theorem relFh1_solves (ρ a p : ℂ) (hρ : ρ ≠ 0) (hd : relF1_den1 ρ a p ≠ 0) :
    (1 - Complex.I * (a / ((starRingEnd ℂ) (ρ ^ ((1 : ℂ) / 2)) * ρ ^ ((1 : ℂ) / 2))) * ρ)
      * relFh1_0 ρ a p = p := by
  have hr := Lemmas.C11.csqrt_ne_zero hρ
  have hc : (starRingEnd ℂ) (ρ ^ ((1 : ℂ) / 2)) ≠ 0 := by simpa using hr
  have e := csqrt_sq ρ
  simp only [relFh1_0]
  -- `field_simp` works on atoms `D`, `r`, `rc` constrained by `hd : D ≠ 0`; what they stand for comes
  -- back by `subst` for the closing identity (unfolding first would hand it the whole denominator)
  have hD := relF1_den1.eq_1 ρ a p
  generalize relF1_den1 ρ a p = D at *
  generalize ρ ^ ((1 : ℂ) / 2) = r at *
  generalize (starRingEnd ℂ) r = rc at *
  subst e
  field_simp
  subst hD
  grind only [Complex.I_sq]

theorem relFh2_solves (ρ0 ρ1 a b c d p0 p1 : ℂ) (hρ0 : ρ0 ≠ 0) (hρ1 : ρ1 ≠ 0)
    (hd1 : relF2_den1 ρ0 ρ1 a b c d p0 p1 ≠ 0) (hd2 : relF2_den2 ρ0 ρ1 a b c d p0 p1 ≠ 0) :
    ((1 - Complex.I * (a / ((starRingEnd ℂ) (ρ0 ^ ((1 : ℂ) / 2)) * ρ0 ^ ((1 : ℂ) / 2))) * ρ0)
        * relFh2_0 ρ0 ρ1 a b c d p0 p1
      + (-(Complex.I * (b / ((starRingEnd ℂ) (ρ0 ^ ((1 : ℂ) / 2)) * ρ1 ^ ((1 : ℂ) / 2))) * ρ1))
        * relFh2_1 ρ0 ρ1 a b c d p0 p1 = p0) ∧
    ((-(Complex.I * (c / ((starRingEnd ℂ) (ρ1 ^ ((1 : ℂ) / 2)) * ρ0 ^ ((1 : ℂ) / 2))) * ρ0))
        * relFh2_0 ρ0 ρ1 a b c d p0 p1
      + (1 - Complex.I * (d / ((starRingEnd ℂ) (ρ1 ^ ((1 : ℂ) / 2)) * ρ1 ^ ((1 : ℂ) / 2))) * ρ1)
        * relFh2_1 ρ0 ρ1 a b c d p0 p1 = p1) := by
  have hr0 := Lemmas.C11.csqrt_ne_zero hρ0
  have hr1 := Lemmas.C11.csqrt_ne_zero hρ1
  have hc0 : (starRingEnd ℂ) (ρ0 ^ ((1 : ℂ) / 2)) ≠ 0 := by simpa using hr0
  have hc1 : (starRingEnd ℂ) (ρ1 ^ ((1 : ℂ) / 2)) ≠ 0 := by simpa using hr1
  have e0 := csqrt_sq ρ0
  have e1 := csqrt_sq ρ1
  -- the first denominator is the n = 1 denominator `L` times the second, `D2 = (√ρ₀)*(√ρ₁)* det(1 − iK̂ρ)`
  rw [relF2_den1_eq] at hd1
  have hL := left_ne_zero_of_mul hd1
  simp only [relFh2_0, relFh2_1, relF2_den1_eq]
  -- as in `relFh1_solves`: atoms for `field_simp`, their definitions back by `subst` afterwards
  have eL := relF1_den1.eq_1 ρ0 a p0
  have eD := relF2_den2.eq_1 ρ0 ρ1 a b c d p0 p1
  generalize relF1_den1 ρ0 a p0 = L at *
  generalize relF2_den2 ρ0 ρ1 a b c d p0 p1 = D2 at *
  generalize ρ0 ^ ((1 : ℂ) / 2) = r0 at *
  generalize ρ1 ^ ((1 : ℂ) / 2) = r1 at *
  generalize (starRingEnd ℂ) r0 = rc0 at *
  generalize (starRingEnd ℂ) r1 = rc1 at *
  subst e0 e1
  constructor
  · field_simp
    subst eL eD
    linear_combination ((rc0 - Complex.I * a * r0)
      * (r0 * r1 * a * b * rc1 * p1 - r0 * r1 * b * c * rc0 * p0)) * Complex.I_sq
  · field_simp
    subst eL eD
    linear_combination ((rc0 - Complex.I * a * r0) * rc1 * p1 * r0 * r1 * (a * d - b * c)
      + Complex.I * c * r0 ^ 2 * r1 * a * (d * rc0 * p0 - rc1 * b * p1)) * Complex.I_sq

/-- `F = √ρ F̂` entry by entry. -/
theorem relF1_eq (ρ a p : ℂ) : relF1_0 ρ a p = ρ ^ ((1 : ℂ) / 2) * relFh1_0 ρ a p := by
  simp only [relF1_0, relFh1_0]; ring

theorem relF2_eq (ρ0 ρ1 a b c d p0 p1 : ℂ) :
    relF2_0 ρ0 ρ1 a b c d p0 p1 = ρ0 ^ ((1 : ℂ) / 2) * relFh2_0 ρ0 ρ1 a b c d p0 p1 ∧
    relF2_1 ρ0 ρ1 a b c d p0 p1 = ρ1 ^ ((1 : ℂ) / 2) * relFh2_1 ρ0 ρ1 a b c d p0 p1 := by
  constructor <;> simp only [relF2_0, relF2_1, relFh2_0, relFh2_1]

theorem nrF1_den_ne_of_real {a : ℂ} (ha : IsRe a) (p : ℂ) : nrF1_den1 a p ≠ 0 :=
  I_add_ne_zero (one_sub_I_mul_isRe_ne ha)

theorem nrF2_dens_ne_of_real {a b c d : ℂ} (ha : IsRe a) (hb : IsRe b) (hd : IsRe d) (hbc : b = c)
    (p0 p1 : ℂ) : nrF2_den1 a b c d p0 p1 ≠ 0 ∧ nrF2_den2 a b c d p0 p1 ≠ 0 := by
  have h := det2_ne_of_real ha hb hd hbc
  rw [nrF2_den1_eq, nrF2_den2_eq]
  exact ⟨neg_ne_zero.2 h, h⟩

theorem relF1_den_ne_of_real {r : ℝ} (hr : 0 < r) {a : ℂ} (ha : IsRe a) (p : ℂ) :
    relF1_den1 (r : ℂ) a p ≠ 0 := by
  rw [relF1_den1_ofReal hr.le]
  exact mul_ne_zero (ofReal_sqrt_ne_zero hr) (one_sub_I_mul_isRe_ne ha)

theorem relF2_dens_ne_of_real {r0 r1 : ℝ} (h0 : 0 < r0) (h1 : 0 < r1) {a b c d : ℂ}
    (ha : IsRe a) (hb : IsRe b) (hd : IsRe d) (hbc : b = c) (p0 p1 : ℂ) :
    relF2_den1 (r0 : ℂ) (r1 : ℂ) a b c d p0 p1 ≠ 0 ∧ relF2_den2 (r0 : ℂ) (r1 : ℂ) a b c d p0 p1 ≠ 0 := by
  have h2 : relF2_den2 (r0 : ℂ) (r1 : ℂ) a b c d p0 p1 ≠ 0 := by
    rw [relF2_den2_ofReal h0.le h1.le]
    exact mul_ne_zero (mul_ne_zero (ofReal_sqrt_ne_zero h0) (ofReal_sqrt_ne_zero h1))
      (det2_ne_of_real ha hb hd hbc)
  rw [relF2_den1_eq]
  exact ⟨mul_ne_zero (relF1_den_ne_of_real h0 ha p0) h2, h2⟩

section PNR11
variable (s m_1 Gamma_1_0 gamma_1_0 beta_1 : ℝ)

local notation "K00" => nrK11_00 s m_1 Gamma_1_0 gamma_1_0 beta_1
local notation "P0" => nrP11_0 s m_1 Gamma_1_0 gamma_1_0 beta_1
local notation "F0" => nrFForm11_0 s m_1 Gamma_1_0 gamma_1_0 beta_1

theorem nrK11_real (hGamma_1_0 : 0 ≤ Gamma_1_0) :
    IsRe K00 :=
  isRe_nrDiag

/-- `formulate(1, 1)` of the P-vector class is the symbolic vector with the library's K and P parametrisations substituted. -/
theorem nrFForm11_eq :
    F0 = nrF1_0 K00 P0 := by
  simp only [nrFForm11_0, nrF1_0, nrF1_den1]

/-- **(1 − iK) F = P for `NonRelativisticPVector.formulate(1, 1)`** with the library's own K and P, for all real parameters (non-negative widths). -/
theorem nrFForm11_solves (hGamma_1_0 : 0 ≤ Gamma_1_0) :
    (1 - Complex.I * K00) * F0 = P0 := by
  have r00 := nrK11_real s m_1 Gamma_1_0 gamma_1_0 beta_1 hGamma_1_0
  rw [nrFForm11_eq ..]
  exact nrF1_solves _ _ (nrF1_den_ne_of_real r00 _)

end PNR11

section PNR12
variable (s m_1 m_2 Gamma_1_0 Gamma_2_0 gamma_1_0 gamma_2_0 beta_1 beta_2 : ℝ)

local notation "K00" => nrK12_00 s m_1 m_2 Gamma_1_0 Gamma_2_0 gamma_1_0 gamma_2_0 beta_1 beta_2
local notation "P0" => nrP12_0 s m_1 m_2 Gamma_1_0 Gamma_2_0 gamma_1_0 gamma_2_0 beta_1 beta_2
local notation "F0" => nrFForm12_0 s m_1 m_2 Gamma_1_0 Gamma_2_0 gamma_1_0 gamma_2_0 beta_1 beta_2

theorem nrK12_real (hGamma_1_0 : 0 ≤ Gamma_1_0) (hGamma_2_0 : 0 ≤ Gamma_2_0) :
    IsRe K00 :=
  isRe_nrDiag.add isRe_nrDiag

/-- `formulate(1, 2)` of the P-vector class is the symbolic vector with the library's K and P parametrisations substituted. -/
theorem nrFForm12_eq :
    F0 = nrF1_0 K00 P0 := by
  simp only [nrFForm12_0, nrF1_0, nrF1_den1]

/-- **(1 − iK) F = P for `NonRelativisticPVector.formulate(1, 2)`** with the library's own K and P, for all real parameters (non-negative widths). -/
theorem nrFForm12_solves (hGamma_1_0 : 0 ≤ Gamma_1_0) (hGamma_2_0 : 0 ≤ Gamma_2_0) :
    (1 - Complex.I * K00) * F0 = P0 := by
  have r00 := nrK12_real s m_1 m_2 Gamma_1_0 Gamma_2_0 gamma_1_0 gamma_2_0 beta_1 beta_2 hGamma_1_0 hGamma_2_0
  rw [nrFForm12_eq ..]
  exact nrF1_solves _ _ (nrF1_den_ne_of_real r00 _)

end PNR12

section PNR21
variable (s m_1 Gamma_1_0 Gamma_1_1 gamma_1_0 gamma_1_1 beta_1 : ℝ)

local notation "K00" => nrK21_00 s m_1 Gamma_1_0 Gamma_1_1 gamma_1_0 gamma_1_1 beta_1
local notation "K01" => nrK21_01 s m_1 Gamma_1_0 Gamma_1_1 gamma_1_0 gamma_1_1 beta_1
local notation "K10" => nrK21_10 s m_1 Gamma_1_0 Gamma_1_1 gamma_1_0 gamma_1_1 beta_1
local notation "K11" => nrK21_11 s m_1 Gamma_1_0 Gamma_1_1 gamma_1_0 gamma_1_1 beta_1
local notation "P0" => nrP21_0 s m_1 Gamma_1_0 Gamma_1_1 gamma_1_0 gamma_1_1 beta_1
local notation "P1" => nrP21_1 s m_1 Gamma_1_0 Gamma_1_1 gamma_1_0 gamma_1_1 beta_1
local notation "F0" => nrFForm21_0 s m_1 Gamma_1_0 Gamma_1_1 gamma_1_0 gamma_1_1 beta_1
local notation "F1" => nrFForm21_1 s m_1 Gamma_1_0 Gamma_1_1 gamma_1_0 gamma_1_1 beta_1

theorem nrK21_symm : K01 = K10 := rfl

theorem nrK21_real (hGamma_1_0 : 0 ≤ Gamma_1_0) (hGamma_1_1 : 0 ≤ Gamma_1_1) :
    IsRe K00 ∧ IsRe K01 ∧ IsRe K10 ∧ IsRe K11 :=
  have off := isRe_nrOff hGamma_1_0 hGamma_1_1
  ⟨isRe_nrDiag, off, off, isRe_nrDiag⟩

/-- `formulate(2, 1)` of the P-vector class is the symbolic vector with the library's K and P parametrisations substituted. -/
theorem nrFForm21_eq :
    F0 = nrF2_0 K00 K01 K10 K11 P0 P1 ∧ F1 = nrF2_1 K00 K01 K10 K11 P0 P1 := by
  have hs := nrK21_symm s m_1 Gamma_1_0 Gamma_1_1 gamma_1_0 gamma_1_1 beta_1
  refine ⟨?_, ?_⟩ <;>
  · simp only [nrFForm21_0, nrFForm21_1, nrF2_0, nrF2_1, nrF2_den1, nrF2_den2]
    rw [hs]
    ring

/-- **(1 − iK) F = P for `NonRelativisticPVector.formulate(2, 1)`** with the library's own K and P, for all real parameters (non-negative widths). -/
theorem nrFForm21_solves (hGamma_1_0 : 0 ≤ Gamma_1_0) (hGamma_1_1 : 0 ≤ Gamma_1_1) :
    ((1 - Complex.I * K00) * F0 + (-(Complex.I * K01)) * F1 = P0) ∧
    ((-(Complex.I * K10)) * F0 + (1 - Complex.I * K11) * F1 = P1) := by
  obtain ⟨r00, r01, r10, r11⟩ := nrK21_real s m_1 Gamma_1_0 Gamma_1_1 gamma_1_0 gamma_1_1 beta_1 hGamma_1_0 hGamma_1_1
  obtain ⟨d1, d2⟩ := nrF2_dens_ne_of_real r00 r01 r11 (nrK21_symm ..) P0 P1
  rw [(nrFForm21_eq ..).1, (nrFForm21_eq ..).2]
  exact nrF2_solves _ _ _ _ _ _ d1 d2

end PNR21

section PNR22
variable (s m_1 m_2 Gamma_1_0 Gamma_1_1 Gamma_2_0 Gamma_2_1 gamma_1_0 gamma_1_1 gamma_2_0 gamma_2_1 beta_1 beta_2 : ℝ)

local notation "K00" => nrK22_00 s m_1 m_2 Gamma_1_0 Gamma_1_1 Gamma_2_0 Gamma_2_1 gamma_1_0 gamma_1_1 gamma_2_0 gamma_2_1 beta_1 beta_2
local notation "K01" => nrK22_01 s m_1 m_2 Gamma_1_0 Gamma_1_1 Gamma_2_0 Gamma_2_1 gamma_1_0 gamma_1_1 gamma_2_0 gamma_2_1 beta_1 beta_2
local notation "K10" => nrK22_10 s m_1 m_2 Gamma_1_0 Gamma_1_1 Gamma_2_0 Gamma_2_1 gamma_1_0 gamma_1_1 gamma_2_0 gamma_2_1 beta_1 beta_2
local notation "K11" => nrK22_11 s m_1 m_2 Gamma_1_0 Gamma_1_1 Gamma_2_0 Gamma_2_1 gamma_1_0 gamma_1_1 gamma_2_0 gamma_2_1 beta_1 beta_2
local notation "P0" => nrP22_0 s m_1 m_2 Gamma_1_0 Gamma_1_1 Gamma_2_0 Gamma_2_1 gamma_1_0 gamma_1_1 gamma_2_0 gamma_2_1 beta_1 beta_2
local notation "P1" => nrP22_1 s m_1 m_2 Gamma_1_0 Gamma_1_1 Gamma_2_0 Gamma_2_1 gamma_1_0 gamma_1_1 gamma_2_0 gamma_2_1 beta_1 beta_2
local notation "F0" => nrFForm22_0 s m_1 m_2 Gamma_1_0 Gamma_1_1 Gamma_2_0 Gamma_2_1 gamma_1_0 gamma_1_1 gamma_2_0 gamma_2_1 beta_1 beta_2
local notation "F1" => nrFForm22_1 s m_1 m_2 Gamma_1_0 Gamma_1_1 Gamma_2_0 Gamma_2_1 gamma_1_0 gamma_1_1 gamma_2_0 gamma_2_1 beta_1 beta_2

theorem nrK22_symm : K01 = K10 := rfl

theorem nrK22_real (hGamma_1_0 : 0 ≤ Gamma_1_0) (hGamma_1_1 : 0 ≤ Gamma_1_1) (hGamma_2_0 : 0 ≤ Gamma_2_0) (hGamma_2_1 : 0 ≤ Gamma_2_1) :
    IsRe K00 ∧ IsRe K01 ∧ IsRe K10 ∧ IsRe K11 :=
  have off := (isRe_nrOff hGamma_1_0 hGamma_1_1).add (isRe_nrOff hGamma_2_0 hGamma_2_1)
  ⟨isRe_nrDiag.add isRe_nrDiag, off, off, isRe_nrDiag.add isRe_nrDiag⟩

/-- `formulate(2, 2)` of the P-vector class is the symbolic vector with the library's K and P parametrisations substituted. -/
theorem nrFForm22_eq :
    F0 = nrF2_0 K00 K01 K10 K11 P0 P1 ∧ F1 = nrF2_1 K00 K01 K10 K11 P0 P1 := by
  have hs := nrK22_symm s m_1 m_2 Gamma_1_0 Gamma_1_1 Gamma_2_0 Gamma_2_1 gamma_1_0 gamma_1_1 gamma_2_0 gamma_2_1 beta_1 beta_2
  refine ⟨?_, ?_⟩ <;>
  · simp only [nrFForm22_0, nrFForm22_1, nrF2_0, nrF2_1, nrF2_den1, nrF2_den2]
    rw [hs]
    ring

/-- **(1 − iK) F = P for `NonRelativisticPVector.formulate(2, 2)`** with the library's own K and P, for all real parameters (non-negative widths). -/
theorem nrFForm22_solves (hGamma_1_0 : 0 ≤ Gamma_1_0) (hGamma_1_1 : 0 ≤ Gamma_1_1) (hGamma_2_0 : 0 ≤ Gamma_2_0) (hGamma_2_1 : 0 ≤ Gamma_2_1) :
    ((1 - Complex.I * K00) * F0 + (-(Complex.I * K01)) * F1 = P0) ∧
    ((-(Complex.I * K10)) * F0 + (1 - Complex.I * K11) * F1 = P1) := by
  obtain ⟨r00, r01, r10, r11⟩ := nrK22_real s m_1 m_2 Gamma_1_0 Gamma_1_1 Gamma_2_0 Gamma_2_1 gamma_1_0 gamma_1_1 gamma_2_0 gamma_2_1 beta_1 beta_2 hGamma_1_0 hGamma_1_1 hGamma_2_0 hGamma_2_1
  obtain ⟨d1, d2⟩ := nrF2_dens_ne_of_real r00 r01 r11 (nrK22_symm ..) P0 P1
  rw [(nrFForm22_eq ..).1, (nrFForm22_eq ..).2]
  exact nrF2_solves _ _ _ _ _ _ d1 d2

end PNR22

section PREL11
variable (s m_1 Gamma_1_0 gamma_1_0 beta_1 rho0 rhoR_1_0 ff_0 ff0_1_0 : ℝ)

local notation "K00" => relK11_00 s m_1 Gamma_1_0 gamma_1_0 beta_1 (rho0 : ℂ) (rhoR_1_0 : ℂ) (ff_0 : ℂ) (ff0_1_0 : ℂ)
local notation "P0" => relP11_0 s m_1 Gamma_1_0 gamma_1_0 beta_1 (rho0 : ℂ) (rhoR_1_0 : ℂ) (ff_0 : ℂ) (ff0_1_0 : ℂ)
local notation "F0" => relFForm11_0 s m_1 Gamma_1_0 gamma_1_0 beta_1 (rho0 : ℂ) (rhoR_1_0 : ℂ) (ff_0 : ℂ) (ff0_1_0 : ℂ)
local notation "H0" => relFhForm11_0 s m_1 Gamma_1_0 gamma_1_0 beta_1 (rho0 : ℂ) (rhoR_1_0 : ℂ) (ff_0 : ℂ) (ff0_1_0 : ℂ)
local notation "R0" => (rho0 : ℂ)

theorem relK11_real (hGamma_1_0 : 0 ≤ Gamma_1_0) (hrho0 : 0 < rho0) (hrhoR_1_0 : 0 < rhoR_1_0) :
    IsRe K00 :=
  isRe_relDiag

/-- `formulate(1, 1, return_f_hat=True)` of the P-vector class is the symbolic vector with the library's K and P parametrisations substituted. -/
theorem relFhForm11_eq :
    H0 = relFh1_0 R0 K00 P0 := by
  simp only [relFhForm11_0, relFh1_0, relF1_den1]

/-- `formulate(1, 1)` of the P-vector class is the symbolic vector with the library's K and P parametrisations substituted. -/
theorem relFForm11_eq :
    F0 = relF1_0 R0 K00 P0 := by
  simp only [relFForm11_0, relF1_0, relF1_den1]; ring

/-- **(1 − iK̂ρ) F̂ = P and F = √ρ F̂ for `RelativisticPVector.formulate(1, 1)`** with the library's own K, P and the same ρ (`K̂ = (√ρ*)⁻¹ K (√ρ)⁻¹` as in the source), for real parameters with positive phase-space factors at `s` and at the pole masses. -/
theorem relFForm11_solves (hGamma_1_0 : 0 ≤ Gamma_1_0) (hrho0 : 0 < rho0) (hrhoR_1_0 : 0 < rhoR_1_0) :
    ((1 - Complex.I * (K00 / ((starRingEnd ℂ) (R0 ^ ((1 : ℂ) / 2)) * R0 ^ ((1 : ℂ) / 2))) * R0) * H0 = P0) ∧ F0 = R0 ^ ((1 : ℂ) / 2) * H0 := by
  have r00 := relK11_real s m_1 Gamma_1_0 gamma_1_0 beta_1 rho0 rhoR_1_0 ff_0 ff0_1_0 hGamma_1_0 hrho0 hrhoR_1_0
  rw [relFhForm11_eq .., relFForm11_eq ..]
  exact ⟨relFh1_solves _ _ _ (Complex.ofReal_ne_zero.2 hrho0.ne') (relF1_den_ne_of_real hrho0 r00 _),
    relF1_eq ..⟩

end PREL11

section PREL12
variable (s m_1 m_2 Gamma_1_0 Gamma_2_0 gamma_1_0 gamma_2_0 beta_1 beta_2 rho0 rhoR_1_0 rhoR_2_0 ff_0 ff0_1_0 ff0_2_0 : ℝ)

local notation "K00" => relK12_00 s m_1 m_2 Gamma_1_0 Gamma_2_0 gamma_1_0 gamma_2_0 beta_1 beta_2 (rho0 : ℂ) (rhoR_1_0 : ℂ) (rhoR_2_0 : ℂ) (ff_0 : ℂ) (ff0_1_0 : ℂ) (ff0_2_0 : ℂ)
local notation "P0" => relP12_0 s m_1 m_2 Gamma_1_0 Gamma_2_0 gamma_1_0 gamma_2_0 beta_1 beta_2 (rho0 : ℂ) (rhoR_1_0 : ℂ) (rhoR_2_0 : ℂ) (ff_0 : ℂ) (ff0_1_0 : ℂ) (ff0_2_0 : ℂ)
local notation "F0" => relFForm12_0 s m_1 m_2 Gamma_1_0 Gamma_2_0 gamma_1_0 gamma_2_0 beta_1 beta_2 (rho0 : ℂ) (rhoR_1_0 : ℂ) (rhoR_2_0 : ℂ) (ff_0 : ℂ) (ff0_1_0 : ℂ) (ff0_2_0 : ℂ)
local notation "H0" => relFhForm12_0 s m_1 m_2 Gamma_1_0 Gamma_2_0 gamma_1_0 gamma_2_0 beta_1 beta_2 (rho0 : ℂ) (rhoR_1_0 : ℂ) (rhoR_2_0 : ℂ) (ff_0 : ℂ) (ff0_1_0 : ℂ) (ff0_2_0 : ℂ)
local notation "R0" => (rho0 : ℂ)

theorem relK12_real (hGamma_1_0 : 0 ≤ Gamma_1_0) (hGamma_2_0 : 0 ≤ Gamma_2_0) (hrho0 : 0 < rho0) (hrhoR_1_0 : 0 < rhoR_1_0) (hrhoR_2_0 : 0 < rhoR_2_0) :
    IsRe K00 :=
  isRe_relDiag.add isRe_relDiag

/-- `formulate(1, 2, return_f_hat=True)` of the P-vector class is the symbolic vector with the library's K and P parametrisations substituted. -/
theorem relFhForm12_eq :
    H0 = relFh1_0 R0 K00 P0 := by
  simp only [relFhForm12_0, relFh1_0, relF1_den1]

/-- `formulate(1, 2)` of the P-vector class is the symbolic vector with the library's K and P parametrisations substituted. -/
theorem relFForm12_eq :
    F0 = relF1_0 R0 K00 P0 := by
  simp only [relFForm12_0, relF1_0, relF1_den1]; ring

/-- **(1 − iK̂ρ) F̂ = P and F = √ρ F̂ for `RelativisticPVector.formulate(1, 2)`** with the library's own K, P and the same ρ (`K̂ = (√ρ*)⁻¹ K (√ρ)⁻¹` as in the source), for real parameters with positive phase-space factors at `s` and at the pole masses. -/
theorem relFForm12_solves (hGamma_1_0 : 0 ≤ Gamma_1_0) (hGamma_2_0 : 0 ≤ Gamma_2_0) (hrho0 : 0 < rho0) (hrhoR_1_0 : 0 < rhoR_1_0) (hrhoR_2_0 : 0 < rhoR_2_0) :
    ((1 - Complex.I * (K00 / ((starRingEnd ℂ) (R0 ^ ((1 : ℂ) / 2)) * R0 ^ ((1 : ℂ) / 2))) * R0) * H0 = P0) ∧ F0 = R0 ^ ((1 : ℂ) / 2) * H0 := by
  have r00 := relK12_real s m_1 m_2 Gamma_1_0 Gamma_2_0 gamma_1_0 gamma_2_0 beta_1 beta_2 rho0 rhoR_1_0 rhoR_2_0 ff_0 ff0_1_0 ff0_2_0 hGamma_1_0 hGamma_2_0 hrho0 hrhoR_1_0 hrhoR_2_0
  rw [relFhForm12_eq .., relFForm12_eq ..]
  exact ⟨relFh1_solves _ _ _ (Complex.ofReal_ne_zero.2 hrho0.ne') (relF1_den_ne_of_real hrho0 r00 _),
    relF1_eq ..⟩

end PREL12

section PREL21
variable (s m_1 Gamma_1_0 Gamma_1_1 gamma_1_0 gamma_1_1 beta_1 rho0 rho1 rhoR_1_0 rhoR_1_1 ff_0 ff_1 ff0_1_0 ff0_1_1 : ℝ)

local notation "K00" => relK21_00 s m_1 Gamma_1_0 Gamma_1_1 gamma_1_0 gamma_1_1 beta_1 (rho0 : ℂ) (rho1 : ℂ) (rhoR_1_0 : ℂ) (rhoR_1_1 : ℂ) (ff_0 : ℂ) (ff_1 : ℂ) (ff0_1_0 : ℂ) (ff0_1_1 : ℂ)
local notation "K01" => relK21_01 s m_1 Gamma_1_0 Gamma_1_1 gamma_1_0 gamma_1_1 beta_1 (rho0 : ℂ) (rho1 : ℂ) (rhoR_1_0 : ℂ) (rhoR_1_1 : ℂ) (ff_0 : ℂ) (ff_1 : ℂ) (ff0_1_0 : ℂ) (ff0_1_1 : ℂ)
local notation "K10" => relK21_10 s m_1 Gamma_1_0 Gamma_1_1 gamma_1_0 gamma_1_1 beta_1 (rho0 : ℂ) (rho1 : ℂ) (rhoR_1_0 : ℂ) (rhoR_1_1 : ℂ) (ff_0 : ℂ) (ff_1 : ℂ) (ff0_1_0 : ℂ) (ff0_1_1 : ℂ)
local notation "K11" => relK21_11 s m_1 Gamma_1_0 Gamma_1_1 gamma_1_0 gamma_1_1 beta_1 (rho0 : ℂ) (rho1 : ℂ) (rhoR_1_0 : ℂ) (rhoR_1_1 : ℂ) (ff_0 : ℂ) (ff_1 : ℂ) (ff0_1_0 : ℂ) (ff0_1_1 : ℂ)
local notation "P0" => relP21_0 s m_1 Gamma_1_0 Gamma_1_1 gamma_1_0 gamma_1_1 beta_1 (rho0 : ℂ) (rho1 : ℂ) (rhoR_1_0 : ℂ) (rhoR_1_1 : ℂ) (ff_0 : ℂ) (ff_1 : ℂ) (ff0_1_0 : ℂ) (ff0_1_1 : ℂ)
local notation "P1" => relP21_1 s m_1 Gamma_1_0 Gamma_1_1 gamma_1_0 gamma_1_1 beta_1 (rho0 : ℂ) (rho1 : ℂ) (rhoR_1_0 : ℂ) (rhoR_1_1 : ℂ) (ff_0 : ℂ) (ff_1 : ℂ) (ff0_1_0 : ℂ) (ff0_1_1 : ℂ)
local notation "F0" => relFForm21_0 s m_1 Gamma_1_0 Gamma_1_1 gamma_1_0 gamma_1_1 beta_1 (rho0 : ℂ) (rho1 : ℂ) (rhoR_1_0 : ℂ) (rhoR_1_1 : ℂ) (ff_0 : ℂ) (ff_1 : ℂ) (ff0_1_0 : ℂ) (ff0_1_1 : ℂ)
local notation "F1" => relFForm21_1 s m_1 Gamma_1_0 Gamma_1_1 gamma_1_0 gamma_1_1 beta_1 (rho0 : ℂ) (rho1 : ℂ) (rhoR_1_0 : ℂ) (rhoR_1_1 : ℂ) (ff_0 : ℂ) (ff_1 : ℂ) (ff0_1_0 : ℂ) (ff0_1_1 : ℂ)
local notation "H0" => relFhForm21_0 s m_1 Gamma_1_0 Gamma_1_1 gamma_1_0 gamma_1_1 beta_1 (rho0 : ℂ) (rho1 : ℂ) (rhoR_1_0 : ℂ) (rhoR_1_1 : ℂ) (ff_0 : ℂ) (ff_1 : ℂ) (ff0_1_0 : ℂ) (ff0_1_1 : ℂ)
local notation "H1" => relFhForm21_1 s m_1 Gamma_1_0 Gamma_1_1 gamma_1_0 gamma_1_1 beta_1 (rho0 : ℂ) (rho1 : ℂ) (rhoR_1_0 : ℂ) (rhoR_1_1 : ℂ) (ff_0 : ℂ) (ff_1 : ℂ) (ff0_1_0 : ℂ) (ff0_1_1 : ℂ)
local notation "R0" => (rho0 : ℂ)
local notation "R1" => (rho1 : ℂ)

theorem relK21_symm : K01 = K10 := rfl

theorem relK21_real (hGamma_1_0 : 0 ≤ Gamma_1_0) (hGamma_1_1 : 0 ≤ Gamma_1_1) (hrho0 : 0 < rho0) (hrho1 : 0 < rho1) (hrhoR_1_0 : 0 < rhoR_1_0) (hrhoR_1_1 : 0 < rhoR_1_1) :
    IsRe K00 ∧ IsRe K01 ∧ IsRe K10 ∧ IsRe K11 :=
  have off := isRe_relOff hGamma_1_0 hrho0 hrhoR_1_0 hGamma_1_1 hrho1 hrhoR_1_1
  ⟨isRe_relDiag, off, off, isRe_relDiag⟩

/-- `formulate(2, 1, return_f_hat=True)` of the P-vector class is the symbolic vector with the library's K and P parametrisations substituted. -/
theorem relFhForm21_eq :
    H0 = relFh2_0 R0 R1 K00 K01 K10 K11 P0 P1 ∧ H1 = relFh2_1 R0 R1 K00 K01 K10 K11 P0 P1 := by
  have hs := relK21_symm s m_1 Gamma_1_0 Gamma_1_1 gamma_1_0 gamma_1_1 beta_1 rho0 rho1 rhoR_1_0 rhoR_1_1 ff_0 ff_1 ff0_1_0 ff0_1_1
  refine ⟨?_, ?_⟩ <;>
  · simp only [relFhForm21_0, relFhForm21_1, relFh2_0, relFh2_1, relF2_den1, relF2_den2]
    rw [hs]
    ring

/-- `formulate(2, 1)` of the P-vector class is the symbolic vector with the library's K and P parametrisations substituted. -/
theorem relFForm21_eq :
    F0 = relF2_0 R0 R1 K00 K01 K10 K11 P0 P1 ∧ F1 = relF2_1 R0 R1 K00 K01 K10 K11 P0 P1 := by
  have hs := relK21_symm s m_1 Gamma_1_0 Gamma_1_1 gamma_1_0 gamma_1_1 beta_1 rho0 rho1 rhoR_1_0 rhoR_1_1 ff_0 ff_1 ff0_1_0 ff0_1_1
  refine ⟨?_, ?_⟩ <;>
  · simp only [relFForm21_0, relFForm21_1, relF2_0, relF2_1, relF2_den1, relF2_den2]
    rw [hs]
    ring

/-- **(1 − iK̂ρ) F̂ = P and F = √ρ F̂ for `RelativisticPVector.formulate(2, 1)`** with the library's own K, P and the same ρ (`K̂ = (√ρ*)⁻¹ K (√ρ)⁻¹` as in the source), for real parameters with positive phase-space factors at `s` and at the pole masses. -/
theorem relFForm21_solves (hGamma_1_0 : 0 ≤ Gamma_1_0) (hGamma_1_1 : 0 ≤ Gamma_1_1) (hrho0 : 0 < rho0) (hrho1 : 0 < rho1) (hrhoR_1_0 : 0 < rhoR_1_0) (hrhoR_1_1 : 0 < rhoR_1_1) :
    ((1 - Complex.I * (K00 / ((starRingEnd ℂ) (R0 ^ ((1 : ℂ) / 2)) * R0 ^ ((1 : ℂ) / 2))) * R0) * H0
        + (-(Complex.I * (K01 / ((starRingEnd ℂ) (R0 ^ ((1 : ℂ) / 2)) * R1 ^ ((1 : ℂ) / 2))) * R1)) * H1 = P0) ∧
    ((-(Complex.I * (K10 / ((starRingEnd ℂ) (R1 ^ ((1 : ℂ) / 2)) * R0 ^ ((1 : ℂ) / 2))) * R0)) * H0
        + (1 - Complex.I * (K11 / ((starRingEnd ℂ) (R1 ^ ((1 : ℂ) / 2)) * R1 ^ ((1 : ℂ) / 2))) * R1) * H1 = P1) ∧
    F0 = R0 ^ ((1 : ℂ) / 2) * H0 ∧ F1 = R1 ^ ((1 : ℂ) / 2) * H1 := by
  obtain ⟨r00, r01, r10, r11⟩ := relK21_real s m_1 Gamma_1_0 Gamma_1_1 gamma_1_0 gamma_1_1 beta_1 rho0 rho1 rhoR_1_0 rhoR_1_1 ff_0 ff_1 ff0_1_0 ff0_1_1 hGamma_1_0 hGamma_1_1 hrho0 hrho1 hrhoR_1_0 hrhoR_1_1
  have hρ0 : R0 ≠ 0 := Complex.ofReal_ne_zero.2 hrho0.ne'
  have hρ1 : R1 ≠ 0 := Complex.ofReal_ne_zero.2 hrho1.ne'
  obtain ⟨d1, d2⟩ := relF2_dens_ne_of_real hrho0 hrho1 r00 r01 r11 (relK21_symm ..) P0 P1
  obtain ⟨s0, s1⟩ := relFh2_solves _ _ _ _ _ _ _ _ hρ0 hρ1 d1 d2
  rw [(relFhForm21_eq ..).1, (relFhForm21_eq ..).2, (relFForm21_eq ..).1, (relFForm21_eq ..).2]
  exact ⟨s0, s1, relF2_eq ..⟩

end PREL21

section PREL22
variable (s m_1 m_2 Gamma_1_0 Gamma_1_1 Gamma_2_0 Gamma_2_1 gamma_1_0 gamma_1_1 gamma_2_0 gamma_2_1 beta_1 beta_2 rho0 rho1 rhoR_1_0 rhoR_1_1 rhoR_2_0 rhoR_2_1 ff_0 ff_1 ff0_1_0 ff0_1_1 ff0_2_0 ff0_2_1 : ℝ)

local notation "K00" => relK22_00 s m_1 m_2 Gamma_1_0 Gamma_1_1 Gamma_2_0 Gamma_2_1 gamma_1_0 gamma_1_1 gamma_2_0 gamma_2_1 beta_1 beta_2 (rho0 : ℂ) (rho1 : ℂ) (rhoR_1_0 : ℂ) (rhoR_1_1 : ℂ) (rhoR_2_0 : ℂ) (rhoR_2_1 : ℂ) (ff_0 : ℂ) (ff_1 : ℂ) (ff0_1_0 : ℂ) (ff0_1_1 : ℂ) (ff0_2_0 : ℂ) (ff0_2_1 : ℂ)
local notation "K01" => relK22_01 s m_1 m_2 Gamma_1_0 Gamma_1_1 Gamma_2_0 Gamma_2_1 gamma_1_0 gamma_1_1 gamma_2_0 gamma_2_1 beta_1 beta_2 (rho0 : ℂ) (rho1 : ℂ) (rhoR_1_0 : ℂ) (rhoR_1_1 : ℂ) (rhoR_2_0 : ℂ) (rhoR_2_1 : ℂ) (ff_0 : ℂ) (ff_1 : ℂ) (ff0_1_0 : ℂ) (ff0_1_1 : ℂ) (ff0_2_0 : ℂ) (ff0_2_1 : ℂ)
local notation "K10" => relK22_10 s m_1 m_2 Gamma_1_0 Gamma_1_1 Gamma_2_0 Gamma_2_1 gamma_1_0 gamma_1_1 gamma_2_0 gamma_2_1 beta_1 beta_2 (rho0 : ℂ) (rho1 : ℂ) (rhoR_1_0 : ℂ) (rhoR_1_1 : ℂ) (rhoR_2_0 : ℂ) (rhoR_2_1 : ℂ) (ff_0 : ℂ) (ff_1 : ℂ) (ff0_1_0 : ℂ) (ff0_1_1 : ℂ) (ff0_2_0 : ℂ) (ff0_2_1 : ℂ)
local notation "K11" => relK22_11 s m_1 m_2 Gamma_1_0 Gamma_1_1 Gamma_2_0 Gamma_2_1 gamma_1_0 gamma_1_1 gamma_2_0 gamma_2_1 beta_1 beta_2 (rho0 : ℂ) (rho1 : ℂ) (rhoR_1_0 : ℂ) (rhoR_1_1 : ℂ) (rhoR_2_0 : ℂ) (rhoR_2_1 : ℂ) (ff_0 : ℂ) (ff_1 : ℂ) (ff0_1_0 : ℂ) (ff0_1_1 : ℂ) (ff0_2_0 : ℂ) (ff0_2_1 : ℂ)
local notation "P0" => relP22_0 s m_1 m_2 Gamma_1_0 Gamma_1_1 Gamma_2_0 Gamma_2_1 gamma_1_0 gamma_1_1 gamma_2_0 gamma_2_1 beta_1 beta_2 (rho0 : ℂ) (rho1 : ℂ) (rhoR_1_0 : ℂ) (rhoR_1_1 : ℂ) (rhoR_2_0 : ℂ) (rhoR_2_1 : ℂ) (ff_0 : ℂ) (ff_1 : ℂ) (ff0_1_0 : ℂ) (ff0_1_1 : ℂ) (ff0_2_0 : ℂ) (ff0_2_1 : ℂ)
local notation "P1" => relP22_1 s m_1 m_2 Gamma_1_0 Gamma_1_1 Gamma_2_0 Gamma_2_1 gamma_1_0 gamma_1_1 gamma_2_0 gamma_2_1 beta_1 beta_2 (rho0 : ℂ) (rho1 : ℂ) (rhoR_1_0 : ℂ) (rhoR_1_1 : ℂ) (rhoR_2_0 : ℂ) (rhoR_2_1 : ℂ) (ff_0 : ℂ) (ff_1 : ℂ) (ff0_1_0 : ℂ) (ff0_1_1 : ℂ) (ff0_2_0 : ℂ) (ff0_2_1 : ℂ)
local notation "F0" => relFForm22_0 s m_1 m_2 Gamma_1_0 Gamma_1_1 Gamma_2_0 Gamma_2_1 gamma_1_0 gamma_1_1 gamma_2_0 gamma_2_1 beta_1 beta_2 (rho0 : ℂ) (rho1 : ℂ) (rhoR_1_0 : ℂ) (rhoR_1_1 : ℂ) (rhoR_2_0 : ℂ) (rhoR_2_1 : ℂ) (ff_0 : ℂ) (ff_1 : ℂ) (ff0_1_0 : ℂ) (ff0_1_1 : ℂ) (ff0_2_0 : ℂ) (ff0_2_1 : ℂ)
local notation "F1" => relFForm22_1 s m_1 m_2 Gamma_1_0 Gamma_1_1 Gamma_2_0 Gamma_2_1 gamma_1_0 gamma_1_1 gamma_2_0 gamma_2_1 beta_1 beta_2 (rho0 : ℂ) (rho1 : ℂ) (rhoR_1_0 : ℂ) (rhoR_1_1 : ℂ) (rhoR_2_0 : ℂ) (rhoR_2_1 : ℂ) (ff_0 : ℂ) (ff_1 : ℂ) (ff0_1_0 : ℂ) (ff0_1_1 : ℂ) (ff0_2_0 : ℂ) (ff0_2_1 : ℂ)
local notation "H0" => relFhForm22_0 s m_1 m_2 Gamma_1_0 Gamma_1_1 Gamma_2_0 Gamma_2_1 gamma_1_0 gamma_1_1 gamma_2_0 gamma_2_1 beta_1 beta_2 (rho0 : ℂ) (rho1 : ℂ) (rhoR_1_0 : ℂ) (rhoR_1_1 : ℂ) (rhoR_2_0 : ℂ) (rhoR_2_1 : ℂ) (ff_0 : ℂ) (ff_1 : ℂ) (ff0_1_0 : ℂ) (ff0_1_1 : ℂ) (ff0_2_0 : ℂ) (ff0_2_1 : ℂ)
local notation "H1" => relFhForm22_1 s m_1 m_2 Gamma_1_0 Gamma_1_1 Gamma_2_0 Gamma_2_1 gamma_1_0 gamma_1_1 gamma_2_0 gamma_2_1 beta_1 beta_2 (rho0 : ℂ) (rho1 : ℂ) (rhoR_1_0 : ℂ) (rhoR_1_1 : ℂ) (rhoR_2_0 : ℂ) (rhoR_2_1 : ℂ) (ff_0 : ℂ) (ff_1 : ℂ) (ff0_1_0 : ℂ) (ff0_1_1 : ℂ) (ff0_2_0 : ℂ) (ff0_2_1 : ℂ)
local notation "R0" => (rho0 : ℂ)
local notation "R1" => (rho1 : ℂ)

theorem relK22_symm : K01 = K10 := rfl

theorem relK22_real (hGamma_1_0 : 0 ≤ Gamma_1_0) (hGamma_1_1 : 0 ≤ Gamma_1_1) (hGamma_2_0 : 0 ≤ Gamma_2_0) (hGamma_2_1 : 0 ≤ Gamma_2_1) (hrho0 : 0 < rho0) (hrho1 : 0 < rho1) (hrhoR_1_0 : 0 < rhoR_1_0) (hrhoR_1_1 : 0 < rhoR_1_1) (hrhoR_2_0 : 0 < rhoR_2_0) (hrhoR_2_1 : 0 < rhoR_2_1) :
    IsRe K00 ∧ IsRe K01 ∧ IsRe K10 ∧ IsRe K11 :=
  have off := (isRe_relOff hGamma_1_0 hrho0 hrhoR_1_0 hGamma_1_1 hrho1 hrhoR_1_1).add
    (isRe_relOff hGamma_2_0 hrho0 hrhoR_2_0 hGamma_2_1 hrho1 hrhoR_2_1)
  ⟨isRe_relDiag.add isRe_relDiag, off, off,
    isRe_relDiag.add isRe_relDiag⟩

/-- `formulate(2, 2, return_f_hat=True)` of the P-vector class is the symbolic vector with the library's K and P parametrisations substituted. -/
theorem relFhForm22_eq :
    H0 = relFh2_0 R0 R1 K00 K01 K10 K11 P0 P1 ∧ H1 = relFh2_1 R0 R1 K00 K01 K10 K11 P0 P1 := by
  have hs := relK22_symm s m_1 m_2 Gamma_1_0 Gamma_1_1 Gamma_2_0 Gamma_2_1 gamma_1_0 gamma_1_1 gamma_2_0 gamma_2_1 beta_1 beta_2 rho0 rho1 rhoR_1_0 rhoR_1_1 rhoR_2_0 rhoR_2_1 ff_0 ff_1 ff0_1_0 ff0_1_1 ff0_2_0 ff0_2_1
  refine ⟨?_, ?_⟩ <;>
  · simp only [relFhForm22_0, relFhForm22_1, relFh2_0, relFh2_1, relF2_den1, relF2_den2]
    rw [hs]
    ring

/-- `formulate(2, 2)` of the P-vector class is the symbolic vector with the library's K and P parametrisations substituted. -/
theorem relFForm22_eq :
    F0 = relF2_0 R0 R1 K00 K01 K10 K11 P0 P1 ∧ F1 = relF2_1 R0 R1 K00 K01 K10 K11 P0 P1 := by
  have hs := relK22_symm s m_1 m_2 Gamma_1_0 Gamma_1_1 Gamma_2_0 Gamma_2_1 gamma_1_0 gamma_1_1 gamma_2_0 gamma_2_1 beta_1 beta_2 rho0 rho1 rhoR_1_0 rhoR_1_1 rhoR_2_0 rhoR_2_1 ff_0 ff_1 ff0_1_0 ff0_1_1 ff0_2_0 ff0_2_1
  refine ⟨?_, ?_⟩ <;>
  · simp only [relFForm22_0, relFForm22_1, relF2_0, relF2_1, relF2_den1, relF2_den2]
    rw [hs]
    ring

/-- **(1 − iK̂ρ) F̂ = P and F = √ρ F̂ for `RelativisticPVector.formulate(2, 2)`** with the library's own K, P and the same ρ (`K̂ = (√ρ*)⁻¹ K (√ρ)⁻¹` as in the source), for real parameters with positive phase-space factors at `s` and at the pole masses. -/
theorem relFForm22_solves (hGamma_1_0 : 0 ≤ Gamma_1_0) (hGamma_1_1 : 0 ≤ Gamma_1_1) (hGamma_2_0 : 0 ≤ Gamma_2_0) (hGamma_2_1 : 0 ≤ Gamma_2_1) (hrho0 : 0 < rho0) (hrho1 : 0 < rho1) (hrhoR_1_0 : 0 < rhoR_1_0) (hrhoR_1_1 : 0 < rhoR_1_1) (hrhoR_2_0 : 0 < rhoR_2_0) (hrhoR_2_1 : 0 < rhoR_2_1) :
    ((1 - Complex.I * (K00 / ((starRingEnd ℂ) (R0 ^ ((1 : ℂ) / 2)) * R0 ^ ((1 : ℂ) / 2))) * R0) * H0
        + (-(Complex.I * (K01 / ((starRingEnd ℂ) (R0 ^ ((1 : ℂ) / 2)) * R1 ^ ((1 : ℂ) / 2))) * R1)) * H1 = P0) ∧
    ((-(Complex.I * (K10 / ((starRingEnd ℂ) (R1 ^ ((1 : ℂ) / 2)) * R0 ^ ((1 : ℂ) / 2))) * R0)) * H0
        + (1 - Complex.I * (K11 / ((starRingEnd ℂ) (R1 ^ ((1 : ℂ) / 2)) * R1 ^ ((1 : ℂ) / 2))) * R1) * H1 = P1) ∧
    F0 = R0 ^ ((1 : ℂ) / 2) * H0 ∧ F1 = R1 ^ ((1 : ℂ) / 2) * H1 := by
  obtain ⟨r00, r01, r10, r11⟩ := relK22_real s m_1 m_2 Gamma_1_0 Gamma_1_1 Gamma_2_0 Gamma_2_1 gamma_1_0 gamma_1_1 gamma_2_0 gamma_2_1 beta_1 beta_2 rho0 rho1 rhoR_1_0 rhoR_1_1 rhoR_2_0 rhoR_2_1 ff_0 ff_1 ff0_1_0 ff0_1_1 ff0_2_0 ff0_2_1 hGamma_1_0 hGamma_1_1 hGamma_2_0 hGamma_2_1 hrho0 hrho1 hrhoR_1_0 hrhoR_1_1 hrhoR_2_0 hrhoR_2_1
  have hρ0 : R0 ≠ 0 := Complex.ofReal_ne_zero.2 hrho0.ne'
  have hρ1 : R1 ≠ 0 := Complex.ofReal_ne_zero.2 hrho1.ne'
  obtain ⟨d1, d2⟩ := relF2_dens_ne_of_real hrho0 hrho1 r00 r01 r11 (relK22_symm ..) P0 P1
  obtain ⟨s0, s1⟩ := relFh2_solves _ _ _ _ _ _ _ _ hρ0 hρ1 d1 d2
  rw [(relFhForm22_eq ..).1, (relFhForm22_eq ..).2, (relFForm22_eq ..).1, (relFForm22_eq ..).2]
  exact ⟨s0, s1, relF2_eq ..⟩

end PREL22

section PDoc
variable (s m_1 m_2 Gamma_1_0 Gamma_1_1 Gamma_2_0 Gamma_2_1 gamma_1_0 gamma_1_1 gamma_2_0 gamma_2_1 beta_1 beta_2 : ℝ)

/-- residue functions `g_R,i = γ_R,i √(m_R Γ_R,i)` (documentation, Eq. "residue-function") -/
noncomputable def nrG : Fin 2 → Fin 2 → ℝ :=
  ![![gamma_1_0 * Real.sqrt (m_1 * Gamma_1_0), gamma_1_1 * Real.sqrt (m_1 * Gamma_1_1)],
    ![gamma_2_0 * Real.sqrt (m_2 * Gamma_2_0), gamma_2_1 * Real.sqrt (m_2 * Gamma_2_1)]]

/-- production couplings `β⁰_R = β_R √(m_R Γ_R)` (documentation, Eq. "beta functions"), with the width
read as the partial width of the channel, as the code does (for one channel the two coincide) -/
noncomputable def nrBeta0 : Fin 2 → Fin 2 → ℝ :=
  ![![beta_1 * Real.sqrt (m_1 * Gamma_1_0), beta_1 * Real.sqrt (m_1 * Gamma_1_1)],
    ![beta_2 * Real.sqrt (m_2 * Gamma_2_0), beta_2 * Real.sqrt (m_2 * Gamma_2_1)]]

/-- **Non-relativistic P-vector parametrisation = the documented formula**
`P_i = Σ_R β⁰_R,i g_R,i / (m_R² − s)` (Eq. "P-vector parametrization") with the residue functions `g_R,i`
of the K-matrix and `β⁰ = β √(m Γ)` (Eq. "beta functions"). -/
theorem nrP22_eq_documented (hm1 : 0 ≤ m_1) (hm2 : 0 ≤ m_2)
    (h10 : 0 ≤ Gamma_1_0) (h11 : 0 ≤ Gamma_1_1) (h20 : 0 ≤ Gamma_2_0) (h21 : 0 ≤ Gamma_2_1) :
    ∀ i : Fin 2,
      ![nrP22_0 s m_1 m_2 Gamma_1_0 Gamma_1_1 Gamma_2_0 Gamma_2_1 gamma_1_0 gamma_1_1 gamma_2_0 gamma_2_1 beta_1 beta_2,
        nrP22_1 s m_1 m_2 Gamma_1_0 Gamma_1_1 Gamma_2_0 Gamma_2_1 gamma_1_0 gamma_1_1 gamma_2_0 gamma_2_1 beta_1 beta_2] i
      = ((∑ R : Fin 2,
            nrBeta0 m_1 m_2 Gamma_1_0 Gamma_1_1 Gamma_2_0 Gamma_2_1 beta_1 beta_2 R i
              * nrG m_1 m_2 Gamma_1_0 Gamma_1_1 Gamma_2_0 Gamma_2_1 gamma_1_0 gamma_1_1 gamma_2_0 gamma_2_1 R i
              / ((![m_1, m_2] : Fin 2 → ℝ) R ^ 2 - s) : ℝ) : ℂ) := by
  intro i
  fin_cases i
  · exact two_term_sum (pvector_term_eq hm1 h10) (pvector_term_eq hm2 h20)
  · exact two_term_sum (pvector_term_eq hm1 h11) (pvector_term_eq hm2 h21)

/-- The K-matrix parametrisation uses the SAME residue functions `g_R,i` (all-poles formula). -/
theorem nrK22_eq_poleK (hm1 : 0 ≤ m_1) (hm2 : 0 ≤ m_2)
    (h10 : 0 ≤ Gamma_1_0) (h11 : 0 ≤ Gamma_1_1) (h20 : 0 ≤ Gamma_2_0) (h21 : 0 ≤ Gamma_2_1) :
    !![nrK22_00 s m_1 m_2 Gamma_1_0 Gamma_1_1 Gamma_2_0 Gamma_2_1 gamma_1_0 gamma_1_1 gamma_2_0 gamma_2_1 beta_1 beta_2,
       nrK22_01 s m_1 m_2 Gamma_1_0 Gamma_1_1 Gamma_2_0 Gamma_2_1 gamma_1_0 gamma_1_1 gamma_2_0 gamma_2_1 beta_1 beta_2;
       nrK22_10 s m_1 m_2 Gamma_1_0 Gamma_1_1 Gamma_2_0 Gamma_2_1 gamma_1_0 gamma_1_1 gamma_2_0 gamma_2_1 beta_1 beta_2,
       nrK22_11 s m_1 m_2 Gamma_1_0 Gamma_1_1 Gamma_2_0 Gamma_2_1 gamma_1_0 gamma_1_1 gamma_2_0 gamma_2_1 beta_1 beta_2]
      = poleKMatrix (Finset.univ : Finset (Fin 2))
          (nrG m_1 m_2 Gamma_1_0 Gamma_1_1 Gamma_2_0 Gamma_2_1 gamma_1_0 gamma_1_1 gamma_2_0 gamma_2_1)
          ![m_1, m_2] s :=
  eq_poleKMatrix_two_symm (two_pole_entry (nrDiag_eq hm1 h10) (nrDiag_eq hm2 h20))
    (two_pole_entry (nrOff_eq hm1 h10 h11) (nrOff_eq hm2 h20 h21))
    (two_pole_entry (nrDiag_eq hm1 h11) (nrDiag_eq hm2 h21))
end PDoc

/-- **Relativistic P-vector parametrisation = the documented formula** (last line of Eq.
"P-vector parametrization" with the production coupling `β_R` and the partial width `Γ_R,i`, the
reading under which the documented reduction to `relativistic_breit_wigner_with_ff` holds):
`P̂_i = Σ_R β_R γ_R,i m_R Γ_R,i B_i(s) / (m_R² − s)` with `B_i = FormFactor` of channel `i`. -/
theorem relP22_eq_documented (s m_1 m_2 Gamma_1_0 Gamma_1_1 Gamma_2_0 Gamma_2_1 gamma_1_0 gamma_1_1
    gamma_2_0 gamma_2_1 beta_1 beta_2 : ℝ)
    (rho0 rho1 rhoR_1_0 rhoR_1_1 rhoR_2_0 rhoR_2_1 ff_0 ff_1 ff0_1_0 ff0_1_1 ff0_2_0 ff0_2_1 : ℂ) :
    relP22_0 s m_1 m_2 Gamma_1_0 Gamma_1_1 Gamma_2_0 Gamma_2_1 gamma_1_0 gamma_1_1 gamma_2_0 gamma_2_1 beta_1 beta_2 rho0 rho1 rhoR_1_0 rhoR_1_1 rhoR_2_0 rhoR_2_1 ff_0 ff_1 ff0_1_0 ff0_1_1 ff0_2_0 ff0_2_1
      = (beta_1 : ℂ) * gamma_1_0 * m_1 * Gamma_1_0 * ff_0 / ((m_1 : ℂ) ^ 2 - s)
        + (beta_2 : ℂ) * gamma_2_0 * m_2 * Gamma_2_0 * ff_0 / ((m_2 : ℂ) ^ 2 - s) ∧
    relP22_1 s m_1 m_2 Gamma_1_0 Gamma_1_1 Gamma_2_0 Gamma_2_1 gamma_1_0 gamma_1_1 gamma_2_0 gamma_2_1 beta_1 beta_2 rho0 rho1 rhoR_1_0 rhoR_1_1 rhoR_2_0 rhoR_2_1 ff_0 ff_1 ff0_1_0 ff0_1_1 ff0_2_0 ff0_2_1
      = (beta_1 : ℂ) * gamma_1_1 * m_1 * Gamma_1_1 * ff_1 / ((m_1 : ℂ) ^ 2 - s)
        + (beta_2 : ℂ) * gamma_2_1 * m_2 * Gamma_2_1 * ff_1 / ((m_2 : ℂ) ^ 2 - s) := by
  constructor <;> simp only [relP22_0, relP22_1] <;> ring

/-- Non-relativistic K-matrix, n = n_R = 1: `T = relativistic_breit_wigner(s, m, γ²Γ)` (algebraic
identity; of the three denominators only the first, `m² − s`, has to be non-zero). -/
theorem kmNR11_eq_bw (s m Γ γ : ℝ)
    (h1 : kmNR11_den1 s m Γ γ ≠ 0) (h2 : kmNR11_den2 s m Γ γ ≠ 0) (h3 : bw_den1 s m (γ ^ 2 * Γ) ≠ 0) :
    kmNR11 s m Γ γ = bw s m (γ ^ 2 * Γ) :=
  kmNR11_eq_bw_of_ne s m Γ γ h1

/-- **Documentation claim, NR K-matrix** (real parameters, `s ≠ m²`, γ = 1): the K-matrix reduces to
`relativistic_breit_wigner`. -/
theorem kmNR11_eq_bw_real (s m Γ : ℝ) (h : m ^ 2 ≠ s) : kmNR11 s m Γ 1 = bw s m Γ := by
  simpa using kmNR11_eq_bw_of_ne s m Γ 1 (sq_add_neg_ne h)

/-- Non-relativistic P-vector, n = n_R = 1: `γ F = β · relativistic_breit_wigner(s, m, γ²Γ)`. -/
theorem nrFForm11_bw (s m Γ γ β : ℝ)
    (hx : (m : ℂ) ^ 2 + (-1 : ℂ) * (s : ℂ) ≠ 0)
    (h1 : Complex.I + nrK11_00 s m Γ γ β ≠ 0)
    (h3 : bw_den1 s m (γ ^ 2 * Γ) ≠ 0) :
    (γ : ℂ) * nrFForm11_0 s m Γ γ β = (β : ℂ) * bw s m (γ ^ 2 * Γ) :=
  nrFForm11_bw_of_ne s m Γ γ β hx

/-- Relativistic P-vector, n = n_R = 1, γ = 1, with the `√ρ` factors of the matrix expression set
to 1 (what the documentation calls neglecting the phase-space factors; the ρ inside the
energy-dependent width stays): `F = β · relativistic_breit_wigner_with_ff`. -/
theorem relF1_bwff (s m Γ β : ℝ) (ρ ρR ff ff0 : ℂ)
    (hx : (m : ℂ) ^ 2 + (-1 : ℂ) * (s : ℂ) ≠ 0) (hff0 : ff0 ≠ 0) (hρR : ρR ≠ 0)
    (h1 : relF1_den1 1 (relK11_00 s m Γ 1 β ρ ρR ff ff0) (relP11_0 s m Γ 1 β ρ ρR ff ff0) ≠ 0)
    (h3 : bwff_den1 s m Γ ρ ρR ff ff0 ≠ 0) :
    relF1_0 1 (relK11_00 s m Γ 1 β ρ ρR ff ff0) (relP11_0 s m Γ 1 β ρ ρR ff ff0)
      = (β : ℂ) * bwff s m Γ ρ ρR ff ff0 :=
  relF1_bwff_of_ne s m Γ β ρ ρR ff ff0 hx

/-- **Documentation claim, NR P-vector** (real parameters, `s ≠ m²`, γ = 1): `F = β · relativistic_breit_wigner`. -/
theorem nrFForm11_bw_real (s m Γ β : ℝ) (h : m ^ 2 ≠ s) :
    nrFForm11_0 s m Γ 1 β = (β : ℂ) * bw s m Γ := by
  simpa using nrFForm11_bw_of_ne s m Γ 1 β (sq_add_neg_ne h)

/-- **Documentation claim, relativistic P-vector** (real parameters and leaves, `s ≠ m²`, γ = 1, the
`√ρ` factors of the matrix expression replaced by 1): `F = β · relativistic_breit_wigner_with_ff`. -/
theorem relF1_bwff_real (s m Γ β ρ ρR ff ff0 : ℝ) (h : m ^ 2 ≠ s) (hff0 : ff0 ≠ 0) (hρR : ρR ≠ 0) :
    relF1_0 1 (relK11_00 s m Γ 1 β ρ ρR ff ff0) (relP11_0 s m Γ 1 β ρ ρR ff ff0)
      = (β : ℂ) * bwff s m Γ ρ ρR ff ff0 :=
  relF1_bwff_of_ne s m Γ β ρ ρR ff ff0 (sq_add_neg_ne h)

/-- Relativistic K-matrix, n = n_R = 1: "something of a Breit-Wigner" with the energy-dependent
width `Γ(s) = Γ₀ (ff/ff₀)² ρ(s)/ρ(m²)` and an additional phase-space factor in the denominator:
`T̂ · (m² − s − i ρ γ² m Γ(s)) = γ² m Γ(s)`; and `T = (√ρ)* T̂ √ρ`. -/
theorem kmRelHat11_bw_like (s m Γ γ : ℝ) (ρ ρR ff ff0 : ℂ)
    (h1 : kmRel11_den1 s m Γ γ ρ ρR ff ff0 ≠ 0) (h2 : kmRel11_den2 s m Γ γ ρ ρR ff ff0 ≠ 0)
    (hff0 : ff0 ≠ 0) (hρR : ρR ≠ 0) :
    kmRelHat11 s m Γ γ ρ ρR ff ff0
        * ((m : ℂ) ^ 2 - s - Complex.I * ρ * ((γ : ℂ) ^ 2 * m * (Γ * (ff / ff0) ^ 2 * (ρ / ρR))))
      = (γ : ℂ) ^ 2 * m * (Γ * (ff / ff0) ^ 2 * (ρ / ρR)) := by
  simp only [kmRelHat11, kmRel11_den2, kmRel11_den1] at h1 h2 ⊢
  have B := one_pole_mul h1 (k := ρ * ((γ : ℂ) ^ 2 * m * (Γ * (ff / ff0) ^ 2 * (ρ / ρR))))
    (by convert h2 using 2; ring)
  linear_combination ((γ : ℂ) ^ 2 * m * (Γ * (ff / ff0) ^ 2 * (ρ / ρR))) * B

theorem kmRel11_eq (s m Γ γ : ℝ) (ρ ρR ff ff0 : ℂ) :
    kmRel11 s m Γ γ ρ ρR ff ff0
      = (starRingEnd ℂ) (ρ ^ ((1 : ℂ) / 2)) * kmRelHat11 s m Γ γ ρ ρR ff ff0 * ρ ^ ((1 : ℂ) / 2) := by
  simp only [kmRel11, kmRelHat11]; ring

/-- An itemised occurrence carries the marker arguments: every energy-dependent width the marker
phase-space implementation, angular momentum and radius; every form factor the marker angular momentum
and radius; every phase-space node the marker class; pole and channel were identified (`99` is what
`_pole_of` / `_channel_of` of `tools/corr/C10_defs.py` write for an argument they cannot identify). -/
def itemOk (it : OccItem) : Bool :=
  it.pole != 99 && it.channel != 99 &&
  (if it.kind == "W" then
      it.phsp == "MarkerPhsp" && it.angMom == "L_marker" && it.radius == "d_marker"
   else if it.kind == "F" then it.angMom == "L_marker" && it.radius == "d_marker"
   else it.kind == "R" && it.phsp == "MarkerPhsp")

def hasItem (o : Occ) (k : String) (R i : Nat) : Bool :=
  o.items.any fun it => it.kind == k && it.pole == R && it.channel == i

/-- Every channel has its phase-space node at `s`, every pole × channel its energy-dependent width,
and (P-vector) every channel its production form factor. -/
def covers (o : Occ) : Bool :=
  (List.range o.nChannels).all fun i =>
    hasItem o "R" 0 i && ((List.range o.nPoles).all fun r => hasItem o "W" (r + 1) i)
      && (o.cls != "RelativisticPVector" || hasItem o "F" 0 i)

/-- A row of the occurrence table honours the arguments: the relativistic classes contain exactly
the marker phase-space implementation, the marker angular momentum and the marker radius — as sets and
for every pole × channel; the non-relativistic classes (which take none of them) contain none. -/
def honours (o : Occ) : Bool :=
  if o.relativistic then
    (o.phsp == ["MarkerPhsp"] && o.angMom == ["L_marker"] && o.radius == ["d_marker"]
      && o.items.all itemOk && covers o)
  else (o.phsp == [] && o.angMom == [] && o.radius == [] && o.items.isEmpty)

/-- **The phase-space factor, angular momentum and meson radius passed to `formulate` are the only
ones that occur anywhere in the result** — for every translated configuration (4 classes,
n, n_R ∈ {1,2}, hat on/off). The table is regenerated from the real objects on every run. -/
theorem formulate_honours_arguments : occTable.all honours = true := by decide

/-- The table is not empty and covers the four classes, both `return_*_hat` settings. -/
theorem occTable_covers :
    occTable.length = 24 ∧
    (∀ c ∈ ["NonRelativisticKMatrix", "RelativisticKMatrix", "NonRelativisticPVector",
        "RelativisticPVector"], occTable.any (fun o => o.cls == c) = true) ∧
    occTable.any (fun o => o.cls == "RelativisticPVector" && o.hat && o.nChannels == 2) = true := by
  decide

/-- The denominators of the regenerated F-vector entries are non-zero e.g. at K = 0, ρ = 1 (and, by
`nrF2_dens_ne_of_real` / `relF2_dens_ne_of_real`, for every real symmetric K and positive ρ). -/
example : nrF2_den1 0 0 0 0 1 1 ≠ 0 ∧ nrF2_den2 0 0 0 0 1 1 ≠ 0 := by
  simp [nrF2_den1, nrF2_den2]

example : relF2_den1 1 1 0 0 0 0 1 1 ≠ 0 ∧ relF2_den2 1 1 0 0 0 0 1 1 ≠ 0 := by
  simp [relF2_den1, relF2_den2, Complex.one_cpow]

end Ampverif.Props.C10
