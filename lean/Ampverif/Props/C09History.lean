/-
C09 — call HISTORIES of `NonRelativisticKMatrix.formulate` / `RelativisticKMatrix.formulate`.

The `formulate` theorems of `Props/C09.lean` carry hypotheses about LEAVES: `0 < ρ_i(s)`,
`0 < ρ_i(m_R²)`, real form factors — for "the phase-space factor in use". The property lets the caller
choose that factor per call (`phsp_factor=`), so the hypotheses are evaluated for the factor passed to
THAT call. This is only the right reading if the energy-dependent widths inside the result of a call
carry the factor OBJECT of that call — which, in the real code, goes through process-global caches
(SymPy's cached constructors keyed on the hashable content of an `EnergyDependentWidth`, i.e. on
`_get_hashable_object(phsp_factor)`; `functools.cache` on `_create_matrices`).

Model: `Model/C10History.lean` (shared with C10: one state machine for the four classes; the K-matrix
classes are `Cls.nrK`, `Cls.relK`), instantiated here for C09.

Tie: `tools/corr/C09_history.py` drives the real classes and `Drivers/C09History.lean` through the same
seeded histories on every run, compares the skeletons call by call, and evaluates unitarity / symmetry
of every call whose passed factor satisfies the hypotheses.
-/
import Ampverif.Props.C10History
import Ampverif.Lemmas.C09History

namespace Ampverif.Props.C09History
open Ampverif.C10History Ampverif.Lemmas.C10History Ampverif.Props.C10History Ampverif.Lemmas.C09History

/-- For every key function that is injective on factor objects, from any cache it filled: the widths of
result `k` carry the factor passed to call `k`. -/
theorem kmatrix_history_guard_injective_key {α : Type} [DecidableEq α] (κ : Factor → α)
    (hκ : ∀ f g, κ f = κ g → f = g) (c : List (Entry α)) (hc : CacheOk κ c)
    (good : Factor → Prop) (hist : List Args) (k : Nat) (hk : k < hist.length) (hg : good hist[k].phsp) :
    ∃ o, (run κ c hist).1[k]? = some o ∧ ∀ it ∈ o.items, Item.guarded good hist[k] it := by
  refine ⟨freshOut hist[k], ?_,
    fun it hit => guarded_of_honours good hist[k] hg it (fresh_honours hist[k] it hit)⟩
  rw [history_pure κ hκ hist c hc]
  simp [fresh, hk]

/-- **The guard of the unitarity theorems is a statement about the arguments of the call**, whatever
was formulated before in the process (key: the factor object itself — the clean tree). -/
theorem kmatrix_history_guard (good : Factor → Prop) (hist : List Args) (k : Nat) (hk : k < hist.length)
    (hg : good hist[k].phsp) :
    ∃ o, (run id [] hist).1[k]? = some o ∧ ∀ it ∈ o.items, Item.guarded good hist[k] it :=
  kmatrix_history_guard_injective_key id (fun _ _ h => h) [] (cacheOk_nil id) good hist k hk hg

/-- Result `k` of a history of K-matrix calls is square of the size of call `k`, with the symbol
families of call `k` (nothing of an earlier call's shape survives, e.g. through `_create_matrices`). -/
theorem kmatrix_history_shape (hist : List Args) (k : Nat) (hk : k < hist.length)
    (hK : isKMatrix hist[k] = true) :
    ∃ o, (run id [] hist).1[k]? = some o ∧ o.rows = hist[k].nChannels ∧ o.cols = hist[k].nChannels
      ∧ o.syms = symsOf hist[k] := by
  refine ⟨freshOut hist[k], history_call_k hist k hk, rfl, ?_, rfl⟩
  unfold isKMatrix at hK
  simp only [Bool.or_eq_true, beq_iff_eq] at hK
  unfold freshOut out
  rcases hK with h | h <;> simp [h, Cls.vector]

/-- A non-relativistic K-matrix carries no width / phase-space item at all: its result cannot depend on
the factor, and cannot be affected by the cache. -/
theorem nonrelativistic_no_items {α : Type} [DecidableEq α] (κ : Factor → α) (c : List (Entry α)) (a : Args)
    (h : a.cls = Cls.nrK) : (call κ c a).1.items = [] ∧ (call κ c a).2 = c := by
  unfold call
  simp [h, Cls.relativistic, out]

/-- Two closures of one factory (one qualified name): a complex, Chew-Mandelstam-like factor and a
real one (`⟨ident, qual, node⟩`: two objects, qualified name 7, node classes 3 and 0). -/
def complexClosure : Factor := ⟨1, 7, some 3⟩
def realClosure : Factor := ⟨2, 7, some 0⟩

/-- "ρ of this object is real and positive above threshold". -/
def good (f : Factor) : Prop := f = realClosure

instance : DecidablePred good := fun f => inferInstanceAs (Decidable (f = realClosure))

/-- A parametrised `RelativisticKMatrix` call, 2 channels × 2 poles, `L = 0`, radius 1
(`⟨cls, nChannels, nPoles, parametrize, hat, phsp, angMom, radius⟩`). -/
def relK22 (f : Factor) (hat : Bool) : Args := ⟨Cls.relK, 2, 2, true, hat, f, 0, 1⟩

/-- Complex first, real second: with the qualified name as key the second result has a width that
carries a factor which is not `good` — although the passed one is. (On the real code: `K` not real,
`|S†S − 1| ≈ 0.1`; replayed by `tools/corr/C09_history.py`.) -/
theorem qualname_key_breaks_guard :
    good (relK22 realClosure false).phsp ∧
    ∃ o, (run Factor.qual [] [relK22 complexClosure false, relK22 realClosure false]).1[1]? = some o ∧
      ∃ it ∈ o.items, ∃ r i l d, it = Item.width r i complexClosure l d ∧ ¬ good complexClosure := by
  refine ⟨rfl, _, rfl, Item.width 1 0 complexClosure 0 1, by decide, 1, 0, 0, 1, rfl, by decide⟩

/-- The reverse order: the complex model formulated second carries the REAL widths (it is unitary by
accident and is not the model the caller asked for). -/
theorem qualname_key_reverse_order :
    (run Factor.qual [] [relK22 realClosure false, relK22 complexClosure false]).1
      ≠ fresh [relK22 realClosure false, relK22 complexClosure false] := by
  decide

/-- `return_t_hat` does not matter: T̂ first, T second. -/
theorem qualname_key_hat :
    (run Factor.qual [] [relK22 complexClosure true, relK22 realClosure false]).1
      ≠ fresh [relK22 complexClosure true, relK22 realClosure false] := by
  decide

/-- With the object itself as key the same histories are pure (non-vacuity of the hypotheses above). -/
example : (run id [] [relK22 complexClosure false, relK22 realClosure false]).1
    = fresh [relK22 complexClosure false, relK22 realClosure false] := by decide

example : ((run id [] [relK22 complexClosure false, relK22 realClosure false]).1.map (·.items.length)) = [6, 6] := by
  decide

end Ampverif.Props.C09History
