/-
C16 — cached unfolding equals doit() whatever the cache has seen.

Property theorems about the executable model `Ampverif.Model.C16` of
`ampform.sympy.perform_cached_doit` (the model is tied to /repo on every run by the T2
correspondence in tools/props/C16.py: same scripted directory histories on the real function and
on this model, the variant being inferred from the real code first).

`Safe w v s ops` : every call of the history `ops` (calls, steps and crashes of any number of
processes in any interleaving, started from directory state `s`) that returned, returned
`value (doit expr)` — it neither returned anything else nor raised.
-/
import Ampverif.Lemmas.C16Inv

namespace Ampverif.Props.C16
open Ampverif.Model.C16

/-- **C16.** For the fixed variant, for EVERY world (any `doit`, any file-name function — in
particular `sha256 ∘ str` with a non-injective `str`, and any seeded hash), every admissible
initial directory (any honest files under any names), and every history — any number of calls by
any number of processes, crashes at any step (after any prefix of the bytes written), any
interleaving at step granularity — every call that returns, returns `doit expr`, and no call
raises.  Unbounded in the length of the history and the number of processes.

The comparison `cached_key == expr` is the world's `keyEq` (the code's own `==`, decided by the
decorator's `_hashable_content`), NOT identity of expressions; the theorem needs, and states, the
premise `w.KeyOk`: `keyEq a b → doit a = doit b`.  Nothing else is asked of `keyEq` (it may be
non-reflexive: then the cache never hits; or non-injective: `C16_safe_noninjective`).  The
premise is an obligation the correspondence checks on every pair of corpus expressions with the
real `==`; without it the statement is false (`C16_witness_key_equality`). -/
theorem C16_safe (w : World) (hk : w.KeyOk) (v : Variant) (hv : v.sound) (s₀ : State)
    (h₀ : Initial w s₀) (ops : List Op) : Safe w v s₀ ops := by
  cases hv
  exact (run_fixed ops h₀.inv).2 hk

/-- identity of expressions (the default `keyEq`) satisfies the premise, whatever `key`/`doit` -/
theorem C16_keyOk_identity (key : Mode → Expr → Nat) (doit : Expr → Val) :
    ({ key := key, doit := doit } : World).KeyOk := by
  intro a b h
  have : a = b := by simpa using h
  rw [this]

/-- no call raises because of the directory contents (corollary, stated separately) -/
theorem C16_never_raises (w : World) (hk : w.KeyOk) (v : Variant) (hv : v.sound) (s₀ : State)
    (h₀ : Initial w s₀) (ops : List Op) :
    ∀ ev ∈ events w v s₀ ops, ev.out ≠ .raised ∧ ev.out ≠ .tuple := by
  intro ev hev
  rw [C16_safe w hk v hv s₀ h₀ ops ev hev]
  exact ⟨(by intro h; cases h), (by intro h; cases h)⟩

/-- The directory invariant after any history: every file, under a final or a temp name, that
loads as a record `(e', x)` has `x = doit e'`; names never share a file. -/
theorem C16_directory_invariant (w : World) (v : Variant) (hv : v.sound) (s₀ : State)
    (h₀ : Initial w s₀) (ops : List Op) (n : Name) (i : Nat)
    (_hn : (run w v s₀ ops).1.fs.dir n = some i) (e' : Expr) (x : Val)
    (hl : load ((run w v s₀ ops).1.fs.ino i) = .pair e' x) : x = w.doit e' := by
  cases hv
  exact (run_fixed ops h₀.inv).1.honest i e' x hl

/-- Calls do return (the statement above is not about an empty set): whatever the variant and
the directory, a call that is not crashed ends within 10 of its own steps with a reported
outcome; steps of other processes do not undo its progress (`step_progress`). -/
theorem C16_calls_return (w : World) (v : Variant) (s : State) (p : Nat) (m : Mode) (e : Expr)
    (hp : s.pc p = .idle) :
    ∃ ev ∈ events w v s (.call p m e :: steps p 10), ev.p = p := by
  have h1 : applyOp w v s (.call p m e) = (setPc s p (.started m e), none) := by
    simp only [applyOp, hp]
  obtain ⟨ev, hev, hpp⟩ := call_returns w v p 10 (setPc s p (.started m e))
    (by rw [setPc_pc_self]; simp [remaining]) (by rw [setPc_pc_self]; simp [remaining])
  rw [events_cons, h1]
  exact ⟨ev, List.mem_append_right _ hev, hpp⟩

/-! Every switch is necessary: kernel-checked counterexamples, replayable on the real code. -/

/-- exprs `2k` and `2k+1` print identically (`str`), `doit` tells them apart -/
def w₀ : World := World.ofHashes (fun e => e / 2) id (fun s e => 100 * s + e) (fun e => 10 + e)

def empty₀ : State := initState []

/-- a whole call of process `p` run alone -/
def solo (p : Nat) (m : Mode) (e : Expr) : List Op := .call p m e :: steps p 10

/-- A key equality that is NOT injective and violates the premise: `keyEq` looks at `e / 2` only
(two bound methods represented by one "module.qualname"), while `doit` tells `2k` and `2k+1`
apart.  Every switch is as in the fixed variant, and still the second expression is served the
first one's unfolding, in the same history or from a directory left by an earlier one. -/
def wq : World := { w₀ with keyEq := fun a b => a / 2 == b / 2 }

theorem C16_witness_key_equality :
    ¬ wq.KeyOk ∧ ¬ Safe wq Variant.fixed empty₀ (solo 0 .sha 0 ++ solo 0 .sha 1) ∧
    ¬ Safe wq Variant.fixed (initState [(.final .sha 0, serNew 1 11)]) (solo 0 .sha 0) := by
  refine ⟨?_, by decide, by decide⟩
  intro h
  exact absurd (h 0 1 (by decide)) (by decide)

/-- A non-injective key equality that DOES satisfy the premise (expressions `2k`, `2k+1` are
identified and unfold alike: two classes of one qualified name with the same body) is safe: an
instance of `C16_safe`, with the hit across the two expressions visible in the events. -/
def wn : World :=
  { key := fun _ e => e / 2, doit := fun e => 10 + e / 2, keyEq := fun a b => a / 2 == b / 2 }

theorem wn_keyOk : wn.KeyOk := by
  intro a b h
  have h' : a / 2 = b / 2 := by simpa [wn] using h
  simp [wn, h']

theorem C16_safe_noninjective (s₀ : State) (h₀ : Initial wn s₀) (ops : List Op) :
    Safe wn .fixed s₀ ops := C16_safe wn wn_keyOk .fixed rfl s₀ h₀ ops

example : events wn .fixed empty₀ (solo 0 .sha 0 ++ solo 1 .sha 1) =
    [⟨0, 0, .value 10⟩, ⟨1, 1, .value 10⟩] := by decide

/-- A key equality that is not even reflexive (a bound method unpickled from the record is never
`==` to the one of the request): the premise holds vacuously, every call recomputes. -/
def wirr : World := { w₀ with keyEq := fun _ _ => false }

example : wirr.KeyOk := by intro a b h; simp [wirr] at h

example : events wirr .fixed empty₀ (solo 0 .sha 0 ++ solo 1 .sha 0) =
    [⟨0, 0, .value 10⟩, ⟨1, 0, .value 10⟩] := by decide

/-- `checksKey = false` (cached value returned without comparing the stored expression): the
second of two expressions that print identically gets the first one's unfolding. -/
theorem C16_witness_collision :
    ¬ Safe w₀ { Variant.fixed with checksKey := false } empty₀ (solo 0 .sha 0 ++ solo 0 .sha 1) := by
  decide

/-- `storesKey = false` (bare result pickled): same collision. -/
theorem C16_witness_no_stored_key :
    ¬ Safe w₀ { Variant.fixed with storesKey := false } empty₀ (solo 0 .sha 0 ++ solo 0 .sha 1) := by
  decide

/-- `tolerant = false`: a truncated record under the final name makes the call raise. -/
theorem C16_witness_truncated :
    ¬ Safe w₀ { Variant.fixed with tolerant := false }
      (initState [(.final .sha 0, (serNew 0 10).take 2)]) (solo 0 .sha 0) := by
  decide

/-- `tolerant = false`: so does a file in the format written before 6f553a3. -/
theorem C16_witness_old_format :
    ¬ Safe w₀ { Variant.fixed with tolerant := false }
      (initState [(.final .sha 0, serOld 10)]) (solo 0 .sha 0) := by
  decide

/-- `atomic = false` (record written straight to the final name), everything else fixed, no
crash: two writers of string-equal expressions interleave their writes into the same inode; the
file ends up as (expr 0, doit expr 1), which a later call for expr 0 accepts. -/
def raceOps : List Op :=
  [.call 1 .sha 0, .call 2 .sha 1, .step 1, .step 2, .step 1, .step 2,
   .step 2, .step 2,            -- 2 writes hdr, key 1
   .step 1, .step 1, .step 1,   -- 1 writes hdr, key 0, val 10
   .step 2,                     -- 2 writes val 11
   .step 1, .step 2,            -- both write stop
   .step 1, .step 2]            -- both close and return (correctly)
  ++ solo 3 .sha 0              -- served (0, 11)

theorem C16_witness_race :
    ¬ Safe w₀ { Variant.fixed with atomic := false } empty₀ raceOps := by
  decide

/-- the code before 6f553a3: a reader that meets a writer between `open(…, "wb")` and the end of
`pickle.dump` raises -/
theorem C16_witness_race_legacy :
    ¬ Safe w₀ Variant.legacy empty₀
      [.call 1 .sha 0, .step 1, .step 1,           -- writer has truncated/created the file
       .call 2 .sha 0, .step 2, .step 2, .step 2]  -- reader: exists, open, load → raises
    := by
  decide

/-- the code before 6f553a3: a writer killed after two tokens leaves a file that makes every
later call raise -/
theorem C16_witness_crash_legacy :
    ¬ Safe w₀ Variant.legacy empty₀
      ([.call 1 .sha 0, .step 1, .step 1, .step 1, .step 1, .crash 1] ++ solo 2 .sha 0) := by
  decide

/-- `tempPerCaller = false` (two callers that share `os.getpid()`: threads of one process, or
processes in different pid namespaces): the second `os.replace` finds its temp file gone. -/
theorem C16_witness_shared_temp :
    ¬ Safe w₀ { Variant.fixed with tempPerCaller := false } empty₀
      ([.call 1 .sha 0, .call 2 .sha 0] ++ steps 1 7 ++ steps 2 7 ++ [.step 1, .step 2]) := by
  decide

example : Variant.fixed.sound := rfl
example : ¬ Variant.legacy.sound := by decide

/-- a directory that has seen a lot: a truncated record, an old-format file, garbage, an empty
file, the complete record of the *other* expression under the shared name, a stale temp file -/
def seen₀ : List (Name × Bytes) :=
  [(.final .sha 0, serNew 1 11),            -- record of expr 1; expr 0 has the same file name
   (.final .sha 1, (serNew 2 12).take 3),   -- truncated
   (.final .sha 2, serOld 14),              -- old format
   (.final (.seeded 7) 704, [.junk 3, .junk 1]),
   (.final (.seeded 7) 705, []),
   (.temp .sha 0 1, (serNew 0 10).take 1)]  -- left by a crashed process 1

example : Initial w₀ (initState seen₀) := by
  apply initState_initial
  intro nb hnb
  simp [seen₀] at hnb
  rcases hnb with h | h | h | h | h | h <;> subst h <;> intro e x hl <;>
    simp [serNew, serOld, load, w₀, World.ofHashes] at hl ⊢
  obtain ⟨rfl, rfl⟩ := hl
  rfl

/-- an interleaved history with a collision, crashes and a cache hit; the events are exactly the
correct values -/
def hist₀ : List Op :=
  [.call 1 .sha 0, .call 2 .sha 1, .step 1, .step 2, .step 1, .step 1,   -- 1: record of expr 1 ≠ expr 0 → miss
   .step 2, .step 2,                                                     -- 2: hit (11)
   .step 1, .step 1, .step 1, .crash 1,                                   -- 1 killed after 2 tokens
   .call 1 (.seeded 7) 4, .call 3 .sha 2] ++ steps 1 10 ++ steps 3 11 ++ solo 2 .sha 2

example : events w₀ .fixed (initState seen₀) hist₀ =
    [⟨2, 1, .value 11⟩, ⟨1, 4, .value 14⟩, ⟨3, 2, .value 12⟩, ⟨2, 2, .value 12⟩] := by
  decide

example : Safe w₀ .fixed (initState seen₀) hist₀ := by decide

/-- the same history is unsafe for the code before 6f553a3 -/
example : ¬ Safe w₀ .legacy (initState seen₀) hist₀ := by decide

end Ampverif.Props.C16
