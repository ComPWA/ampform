/-
C11 — all phase-space-factor variants agree where they must.

All theorems are about `Ampverif.Gen.C11.*`, REGENERATED from
`/repo/src/ampform/dynamics/phasespace.py` and `sympy/math.py` on every run (typed translation:
real sub-terms over ℝ, principal complex `sqrt`/`log` where the source applies them to a possibly
negative real).
-/
import Ampverif.Lemmas.C11Cont

namespace Ampverif.Props.C11
open Ampverif.Gen.C11 Ampverif.Lemmas.C11 Filter Topology

theorem q2_symm (s m1 m2 : ℝ) : BreakupMomentumSquared s m1 m2 = BreakupMomentumSquared s m2 m1 := by
  unfold BreakupMomentumSquared; ring

theorem q2_zero_at_threshold (m1 m2 : ℝ) : BreakupMomentumSquared ((m1 + m2) ^ 2) m1 m2 = 0 :=
  q2_at_threshold m1 m2

theorem q2_zero_at_pseudo_threshold (m1 m2 : ℝ) : BreakupMomentumSquared ((m1 - m2) ^ 2) m1 m2 = 0 := by
  unfold BreakupMomentumSquared; ring

/-- …and nowhere else: for `s ≠ 0`, `q² = 0` exactly at `s = (m1 ± m2)²`. -/
theorem q2_eq_zero_iff {s : ℝ} (hs : s ≠ 0) (m1 m2 : ℝ) :
    BreakupMomentumSquared s m1 m2 = 0 ↔ s = (m1 + m2) ^ 2 ∨ s = (m1 - m2) ^ 2 := by
  rw [q2_eq, div_eq_zero_iff, mul_eq_zero, sub_eq_zero, sub_eq_zero]
  constructor
  · rintro (h | h)
    · exact h
    · exact absurd h (by positivity)
  · exact Or.inl

/-! Above threshold `s > 0` and `q² > 0`, so every root is the real root: each of the five variants
is (or has real part) `ρ̂ = 2√q²/√s`. -/

/-- `PhaseSpaceFactor` is real and equals `2√q²/√s` above threshold. -/
theorem rho_above (s m1 m2 : ℝ) (h1 : 0 ≤ m1) (h2 : 0 ≤ m2) (h : (m1 + m2) ^ 2 < s) :
    PhaseSpaceFactor s m1 m2
      = ((2 * Real.sqrt (BreakupMomentumSquared s m1 m2) / Real.sqrt s : ℝ) : ℂ) := by
  obtain ⟨hs, hq⟩ := above_pos h1 h2 h
  rw [rho_of_pos_pos hs.le hq.le, rhoAbs_of_pos_pos hs.le hq.le]

theorem rho_above_re (s m1 m2 : ℝ) (h1 : 0 ≤ m1) (h2 : 0 ≤ m2) (h : (m1 + m2) ^ 2 < s) :
    (PhaseSpaceFactor s m1 m2).re
      = 2 * Real.sqrt (BreakupMomentumSquared s m1 m2) / Real.sqrt s := by
  rw [rho_above s m1 m2 h1 h2 h, Complex.ofReal_re]

theorem rho_abs_above (s m1 m2 : ℝ) (h1 : 0 ≤ m1) (h2 : 0 ≤ m2) (h : (m1 + m2) ^ 2 < s) :
    PhaseSpaceFactorAbs s m1 m2
      = 2 * Real.sqrt (BreakupMomentumSquared s m1 m2) / Real.sqrt s := by
  obtain ⟨hs, hq⟩ := above_pos h1 h2 h
  exact rhoAbs_of_pos_pos hs.le hq.le

theorem rho_complex_above (s m1 m2 : ℝ) (h1 : 0 ≤ m1) (h2 : 0 ≤ m2) (h : (m1 + m2) ^ 2 < s) :
    PhaseSpaceFactorComplex s m1 m2
      = ((2 * Real.sqrt (BreakupMomentumSquared s m1 m2) / Real.sqrt s : ℝ) : ℂ) := by
  obtain ⟨hs, hq⟩ := above_pos h1 h2 h
  rw [rhoComplex_of_pos_pos hs.le hq.le, rhoAbs_of_pos_pos hs.le hq.le]

theorem rho_complex_above_re (s m1 m2 : ℝ) (h1 : 0 ≤ m1) (h2 : 0 ≤ m2) (h : (m1 + m2) ^ 2 < s) :
    (PhaseSpaceFactorComplex s m1 m2).re
      = 2 * Real.sqrt (BreakupMomentumSquared s m1 m2) / Real.sqrt s := by
  rw [rho_complex_above s m1 m2 h1 h2 h, Complex.ofReal_re]

/-- `Re ρ_eq = ρ̂ = 2√q²/√s` above threshold (any masses, not only equal ones). -/
theorem rho_eq_above_re (s m1 m2 : ℝ) (h1 : 0 ≤ m1) (h2 : 0 ≤ m2) (h : (m1 + m2) ^ 2 < s) :
    (EqualMassPhaseSpaceFactor s m1 m2).re
      = 2 * Real.sqrt (BreakupMomentumSquared s m1 m2) / Real.sqrt s := by
  rw [eqMass_of_above h, ← rho_abs_above s m1 m2 h1 h2 h]
  simp

/-- The S-wave factor is `-i` times the Chew–Mandelstam function (two regenerated definitions). -/
theorem rho_cm_def (s m1 m2 : ℝ) :
    PhaseSpaceFactorSWave s m1 m2 = -Complex.I * chewMandelstamSWave s m1 m2 :=
  swave_eq_neg_I_mul_cm s m1 m2

/-- `Re ρ_CM = 2√q²/√s` above threshold (positive masses): the argument of the logarithm is a
negative real there and `log w = log(-w) + iπ`. -/
theorem rho_cm_above_re (s m1 m2 : ℝ) (h1 : 0 < m1) (h2 : 0 < m2) (h : (m1 + m2) ^ 2 < s) :
    (PhaseSpaceFactorSWave s m1 m2).re
      = 2 * Real.sqrt (BreakupMomentumSquared s m1 m2) / Real.sqrt s := by
  rw [swave_above_re h1 h2 h, rho_abs_above s m1 m2 h1.le h2.le h]

theorem rho_complex_between (s m1 m2 : ℝ) (hlo : (m1 - m2) ^ 2 < s) (hhi : s < (m1 + m2) ^ 2) :
    PhaseSpaceFactorComplex s m1 m2 = Complex.I * ((PhaseSpaceFactorAbs s m1 m2 : ℝ) : ℂ) := by
  obtain ⟨hs, hq⟩ := between_neg hlo hhi
  exact rhoComplex_of_pos_neg hs.le hq

/-- the same for the plain `PhaseSpaceFactor` (principal root of the negative `q²`) -/
theorem rho_between (s m1 m2 : ℝ) (hlo : (m1 - m2) ^ 2 < s) (hhi : s < (m1 + m2) ^ 2) :
    PhaseSpaceFactor s m1 m2 = Complex.I * ((PhaseSpaceFactorAbs s m1 m2 : ℝ) : ℂ) := by
  obtain ⟨hs, hq⟩ := between_neg hlo hhi
  exact rho_of_pos_neg hs.le hq

/-! Equal masses: `ρ_eq = ρ_CM` on the whole real axis.

Everywhere (`m > 0`, `s ≠ 0`) the argument of the Chew–Mandelstam logarithm is `(ρ-1)/(ρ+1)` with
`ρ = PhaseSpaceFactorComplex s m m`. Above threshold `ρ = ρ̂ < 1` and the argument is a negative
real (`log w = log|w| + iπ`), below zero both roots are `i√(-·)`, `ρ = ρ̂ > 1` and the argument is a
positive real, in between `ρ = iρ̂` and the argument is the unit complex number
`exp(2i·arctan(1/ρ̂))`. -/

/-- `s > 4m²` -/
theorem rho_eq_eq_cm_above (s m : ℝ) (hm : 0 < m) (h : 4 * m ^ 2 < s) :
    EqualMassPhaseSpaceFactor s m m = PhaseSpaceFactorSWave s m m := by
  have hthr : (m + m) ^ 2 < s := by rw [add_self_sq]; exact h
  obtain ⟨hs, hq⟩ := above_pos hm.le hm.le hthr
  rw [eqMass_of_above hthr, swave_eq_neg_I_mul_cm, cm_equal hm hs.ne',
    rhoComplex_of_pos_pos hs.le hq.le,
    clog_ratio_of_lt_one (rhoAbs_nonneg s m m) (rhoAbs_lt_one hm h)]
  have hpi : (Real.pi : ℂ)⁻¹ * Real.pi = 1 :=
    inv_mul_cancel₀ (Complex.ofReal_ne_zero.mpr Real.pi_ne_zero)
  push_cast
  linear_combination ((PhaseSpaceFactorAbs s m m : ℝ) : ℂ) * (Real.pi : ℂ)⁻¹ * Real.pi
    * Complex.I_sq - ((PhaseSpaceFactorAbs s m m : ℝ) : ℂ) * hpi

/-- `s < 0` — the region in which `PhaseSpaceFactorAbs` must divide by `√|s|`, not `√s`
(fix d4fb37e): with `√s` the left-hand side would be `0`. -/
theorem rho_eq_eq_cm_neg (s m : ℝ) (hm : 0 < m) (hs : s < 0) :
    EqualMassPhaseSpaceFactor s m m = PhaseSpaceFactorSWave s m m := by
  have hq := q2_equal_neg hs.ne (hs.trans (by positivity))
  rw [eqMass_of_neg hs, swave_eq_neg_I_mul_cm, cm_equal hm hs.ne, rhoComplex_of_neg_neg hs hq,
    clog_ratio_of_one_lt (one_lt_rhoAbs hm hs)]
  push_cast
  ring

/-- `0 < s < 4m²` (uses `arg(exp(2iα)) = 2α` for `α = arctan(1/ρ̂) ∈ (0, π/2)`) -/
theorem rho_eq_eq_cm_sub (s m : ℝ) (hm : 0 < m) (hs : 0 < s) (h : s < 4 * m ^ 2) :
    EqualMassPhaseSpaceFactor s m m = PhaseSpaceFactorSWave s m m := by
  rw [eqMass_of_le hs.le (by rw [add_self_sq]; exact h.le), swave_eq_neg_I_mul_cm,
    (cm_equal_sub hm hs h).2]
  push_cast
  linear_combination (2 * ((Real.pi : ℂ))⁻¹ * ((PhaseSpaceFactorAbs s m m : ℝ) : ℂ)
    * ((Real.arctan (PhaseSpaceFactorAbs s m m)⁻¹ : ℝ) : ℂ) * Complex.I) * Complex.I_sq

/-- at threshold both vanish -/
theorem rho_eq_at_threshold (m : ℝ) : EqualMassPhaseSpaceFactor (4 * m ^ 2) m m = 0 :=
  add_self_sq m ▸ eqMass_at_threshold m m

theorem rho_cm_at_threshold (m : ℝ) : PhaseSpaceFactorSWave (4 * m ^ 2) m m = 0 :=
  add_self_sq m ▸ swave_at_threshold m m

/-- **Equal masses: the two analytic continuations are the same function on the whole real axis**
(`s = 0` is the pole of `q²` and excluded). -/
theorem rho_eq_eq_cm (s m : ℝ) (hm : 0 < m) (hs : s ≠ 0) :
    EqualMassPhaseSpaceFactor s m m = PhaseSpaceFactorSWave s m m := by
  rcases lt_trichotomy s 0 with h | h | h
  · exact rho_eq_eq_cm_neg s m hm h
  · exact absurd h hs
  · rcases lt_trichotomy s (4 * m ^ 2) with h' | h' | h'
    · exact rho_eq_eq_cm_sub s m hm h h'
    · rw [h', rho_eq_at_threshold, rho_cm_at_threshold]
    · exact rho_eq_eq_cm_above s m hm h'

/-- For `s < 0` the common value is a NON-ZERO imaginary number `i·ρ̂·log((ρ̂+1)/(ρ̂-1))/π` with
`ρ̂ > 1` (before fix d4fb37e the equal-mass factor evaluated to 0 there). -/
theorem rho_eq_neg_ne_zero (s m : ℝ) (hm : 0 < m) (hs : s < 0) :
    EqualMassPhaseSpaceFactor s m m ≠ 0 ∧ (EqualMassPhaseSpaceFactor s m m).re = 0 := by
  have hρ1 := one_lt_rhoAbs hm hs
  rw [eqMass_of_neg hs]
  set ρ := PhaseSpaceFactorAbs s m m
  have hlog : 0 < Real.log (|(-1 + ρ)⁻¹ * (1 + ρ)|) := by
    rw [abs_ratio_of_one_lt hρ1]
    exact Real.log_pos ((one_lt_div (by linarith)).mpr (by linarith))
  constructor
  · have hpi : (Real.pi⁻¹ : ℝ) ≠ 0 := inv_ne_zero Real.pi_ne_zero
    have hρ : ρ ≠ 0 := by linarith
    simp only [ne_eq, mul_eq_zero, Complex.I_ne_zero, Complex.ofReal_eq_zero, false_or, not_or]
    exact ⟨⟨hpi, hρ⟩, hlog.ne'⟩
  · simp

/-- **`ρ_eq` is continuous at the equal-mass threshold `s = 4m²`.** -/
theorem rho_eq_continuousAt_threshold (m : ℝ) (hm : 0 < m) :
    ContinuousAt (fun s => EqualMassPhaseSpaceFactor s m m) (4 * m ^ 2) := by
  have hs0 : (0 : ℝ) < 4 * m ^ 2 := by positivity
  have hρ0 : PhaseSpaceFactorAbs (4 * m ^ 2) m m = 0 := add_self_sq m ▸ rhoAbs_at_threshold m m
  have hc : Tendsto (fun s => PhaseSpaceFactorAbs s m m) (𝓝 (4 * m ^ 2)) (𝓝 0) :=
    hρ0 ▸ (rhoAbs_continuousAt m (4 * m ^ 2) hs0.ne').tendsto
  show Tendsto (fun s => EqualMassPhaseSpaceFactor s m m) (𝓝 (4 * m ^ 2))
    (𝓝 (EqualMassPhaseSpaceFactor (4 * m ^ 2) m m))
  rw [rho_eq_at_threshold]
  have hev1 : ∀ᶠ s in 𝓝 (4 * m ^ 2), 0 < s := lt_mem_nhds hs0
  have hev2 : ∀ᶠ s in 𝓝 (4 * m ^ 2), PhaseSpaceFactorAbs s m m < 1 / 2 :=
    hc.eventually (Iio_mem_nhds (by norm_num))
  apply squeeze_zero_norm' (a := fun s => 2 * PhaseSpaceFactorAbs s m m)
  · filter_upwards [hev1, hev2] with s h1 h2
    exact rho_eq_norm_le s m m h1 h2.le
  · have := hc.const_mul 2
    simpa using this

/-- …and so is the S-wave Chew–Mandelstam factor (it is the same function near the threshold). -/
theorem rho_cm_continuousAt_threshold (m : ℝ) (hm : 0 < m) :
    ContinuousAt (fun s => PhaseSpaceFactorSWave s m m) (4 * m ^ 2) := by
  have hs0 : (0 : ℝ) < 4 * m ^ 2 := by positivity
  refine (rho_eq_continuousAt_threshold m hm).congr ?_
  filter_upwards [lt_mem_nhds hs0] with s hs
  exact rho_eq_eq_cm s m hm hs.ne'

/-! Non-vacuity: the hypotheses are satisfiable and the regions are inhabited. -/

example : BreakupMomentumSquared 2 (1 / 2) (1 / 2) = 1 / 4 := by
  unfold BreakupMomentumSquared; norm_num

example : (PhaseSpaceFactorSWave 2 (1 / 2) (1 / 2)).re
    = 2 * Real.sqrt (BreakupMomentumSquared 2 (1 / 2) (1 / 2)) / Real.sqrt 2 :=
  rho_cm_above_re 2 (1 / 2) (1 / 2) (by norm_num) (by norm_num) (by norm_num)

example : PhaseSpaceFactorComplex (1 / 2) (3 / 10) (7 / 10)
    = Complex.I * ((PhaseSpaceFactorAbs (1 / 2) (3 / 10) (7 / 10) : ℝ) : ℂ) :=
  rho_complex_between _ _ _ (by norm_num) (by norm_num)

example : EqualMassPhaseSpaceFactor (-3) (1 / 2) (1 / 2) = PhaseSpaceFactorSWave (-3) (1 / 2) (1 / 2) :=
  rho_eq_eq_cm _ _ (by norm_num) (by norm_num)

end Ampverif.Props.C11
