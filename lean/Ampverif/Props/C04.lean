/-
C04 — the unpolarised intensity is invariant under a global rotation of the event.

The executable frame model is `Ampverif/Model/C04Frames.lean`; `Ampverif.Gen.C04` (matrices
`RotZ/RotY/BoostZ`, `PhiOf/ThetaOf`, SymPy's `D1`) is REGENERATED from the working tree on every run.
The layer letters in the theorem names: (K) kinematics over ℝ — unconditional; (A) algebra over ℂ
for an abstract `WignerRep` (a structure of hypotheses); (I) instances, tied to SymPy's `D1`, `Dh`
and d-tables; (KA) the two combined for the two-level chains of three-body decays; (W) what the
pinned source's opposite-helicity convention does.
-/
import Ampverif.Lemmas.C04Rest
import Ampverif.Lemmas.C04Opposite
import Ampverif.Lemmas.C04Inst
import Ampverif.Lemmas.C04TreeInst
import Ampverif.Lemmas.C04Event
import Ampverif.Lemmas.C04HalfCover
import Ampverif.Lemmas.C04SpinTables
import Ampverif.Model.C04Frames

namespace Ampverif.Props.C04
open Matrix Ampverif.Gen.C04 Ampverif.Lemmas.C04

/-! ## (K) kinematics on the regenerated matrices -/

/-- `RotationZMatrix(a) · RotationZMatrix(b) = RotationZMatrix(a + b)` -/
theorem C04_K_RotZ_additive (a b : ℝ) : RotZ a * RotZ b = RotZ (a + b) := by
  rw [RotZ_eq, RotZ_eq, RotZ_eq, ← emb_mul, Rz3_add]

/-- `RotationYMatrix(a) · RotationYMatrix(b) = RotationYMatrix(a + b)` -/
theorem C04_K_RotY_additive (a b : ℝ) : RotY a * RotY b = RotY (a + b) := by
  rw [RotY_eq, RotY_eq, RotY_eq, ← emb_mul, Ry3_add]

/-- `BoostZMatrix(β)` commutes with `RotationZMatrix(a)` (every β, also unphysical ones) -/
theorem C04_K_BoostZ_commutes_RotZ (b a : ℝ) : BoostZ b * RotZ a = RotZ a * BoostZ b :=
  BoostZ_comm_RotZ b a

/-- `h(v) = Rz(Phi v) Ry(Theta v)` maps ẑ to `v/|v|`, for every non-zero `v`; `Phi`, `Theta` are the
regenerated `atan2(p_y, p_x)` and `acos(p_z/|p|)`. -/
theorem C04_K_frame_maps_z_to_direction (v : Fin 3 → ℝ) (hv : 0 < nrm v) :
    hframe (phiOf v) (thetaOf v) *ᵥ ez = (nrm v)⁻¹ • v := hframe_angles v hv

/-- The source's chain `BoostZ(|p|/E) · RotY(−Theta P) · RotZ(−Phi P)` takes a time-like subsystem
momentum `P` to `(m, 0, 0, 0)`, `m = √(E² − |p|²)`. -/
theorem C04_K_helicity_frame_is_rest_frame (P : Fin 4 → ℝ) (hP : 0 < nrm (sp P))
    (hE : nrm (sp P) < P 0) :
    helframe P *ᵥ P = ![Real.sqrt (P 0 ^ 2 - nrm (sp P) ^ 2), 0, 0, 0] := by
  have hE0 : 0 < P 0 := hP.trans hE
  have hm : 0 < P 0 ^ 2 - nrm (sp P) ^ 2 := by nlinarith
  have hs := Real.sqrt_pos.mpr hm
  have hm2 := Real.sq_sqrt hm.le
  -- `γ = E/m` and `E − (|p|/E)|p| = m²/E`
  rw [helframe_self P hP hE0.ne', gam_eq,
    show 1 - (nrm (sp P) / P 0) ^ 2 = (P 0 ^ 2 - nrm (sp P) ^ 2) / P 0 ^ 2 by field_simp,
    Real.sqrt_div hm.le, Real.sqrt_sq hE0.le, inv_div]
  generalize Real.sqrt (P 0 ^ 2 - nrm (sp P) ^ 2) = m at hm2 hs ⊢
  congr 1
  field_simp
  exact hm2.symm

/-- KEY LEMMA: a proper rotation (orthogonal, det 1) that fixes ẑ is `Rz(δ)`. -/
theorem C04_K_rotation_fixing_z (R : Matrix (Fin 3) (Fin 3) ℝ) (hR : IsRot R) (hz : R *ᵥ ez = ez) :
    ∃ δ : ℝ, R = Rz3 δ := rot_fix_ez_is_Rz3 hR hz

/-- Global rotation `R`: the production frame of a subsystem `P` becomes `R · h(P) · Rz(−δ)` and
every momentum seen from its helicity frame is rotated by `RotZ δ`, with one and the same δ. -/
theorem C04_K_child_frame_momenta (R : Matrix (Fin 3) (Fin 3) ℝ) (hR : IsRot R) (P : Fin 4 → ℝ)
    (hP : 0 < nrm (sp P)) :
    ∃ δ : ℝ,
      hframe (phiOf (sp (emb R *ᵥ P))) (thetaOf (sp (emb R *ᵥ P)))
          = R * hframe (phiOf (sp P)) (thetaOf (sp P)) * Rz3 (-δ) ∧
      ∀ q : Fin 4 → ℝ, helframe (emb R *ᵥ P) *ᵥ (emb R *ᵥ q) = RotZ δ *ᵥ (helframe P *ᵥ q) :=
  frames_covariance hR P hP

/-- first level below: polar angles unchanged -/
theorem C04_K_polar_angle_unchanged (δ : ℝ) (v : Fin 3 → ℝ) : thetaOf (Rz3 δ *ᵥ v) = thetaOf v :=
  thetaOf_Rz3 δ v

/-- first level below: azimuths shift by δ (as rotations, i.e. modulo 2π; `v` off the z axis) -/
theorem C04_K_azimuth_shifts (δ : ℝ) (v : Fin 3 → ℝ) (hxy : 0 < v 0 ^ 2 + v 1 ^ 2) :
    Rz3 (phiOf (Rz3 δ *ᵥ v)) = Rz3 (phiOf v + δ) := Rz3_phiOf_Rz3 δ v hxy

/-- all deeper levels: the next helicity frame absorbs `RotZ δ`, so the momenta of the next level —
hence every deeper momentum and angle, which are functions of them — coincide. -/
theorem C04_K_deeper_frames_coincide (δ : ℝ) (S : Fin 4 → ℝ)
    (hxy : 0 < (sp S) 0 ^ 2 + (sp S) 1 ^ 2) (q : Fin 4 → ℝ) :
    helframe (RotZ δ *ᵥ S) *ᵥ (RotZ δ *ᵥ q) = helframe S *ᵥ q := by
  rw [Matrix.mulVec_mulVec, helframe_Rz δ S hxy]

/-- two-resonance shapes: the children of a node are back to back in its rest frame and the source
takes the frames of a decaying second child from its own direction `−v`; if the first child's
frame turns by `Rz(−δ)`, the second child's turns by `Rz(+δ)`: its subtree sees `Rz(−δ)`. -/
theorem C04_K_second_child_sees_inverse_rotation (R : Matrix (Fin 3) (Fin 3) ℝ) (hR : IsRot R)
    (v : Fin 3 → ℝ) (hxy : 0 < v 0 ^ 2 + v 1 ^ 2) (hxy' : 0 < (R *ᵥ v) 0 ^ 2 + (R *ᵥ v) 1 ^ 2)
    (δ δ₂ : ℝ)
    (h1 : hframe (phiOf (R *ᵥ v)) (thetaOf (R *ᵥ v)) = R * hframe (phiOf v) (thetaOf v) * Rz3 (-δ))
    (h2 : hframe (phiOf (R *ᵥ (-v))) (thetaOf (R *ᵥ (-v)))
        = R * hframe (phiOf (-v)) (thetaOf (-v)) * Rz3 (-δ₂)) :
    Rz3 δ₂ = Rz3 (-δ) := second_child_angle hR v hxy hxy' δ δ₂ h1 h2

/-! ## (A) algebra for an abstract unitary representation -/

/-- `Σ_m |(v V)_m|² = Σ_m |v_m|²` for unitary `V` (any dimension) -/
theorem C04_A_unitary_preserves_norm {n : ℕ} (V : Matrix (Fin n) (Fin n) ℂ) (hV : V * Vᴴ = 1)
    (v : Fin n → ℂ) : nsq (v ᵥ* V) = nsq v := nsq_vecMul_unitary V hV v

/-- The chain amplitude transforms as `A_M ↦ e^{i s δ} Σ_{M'} conj D^J_{M M'}(R) A_{M'}`
(`s` = helicity of the spectator). -/
theorem C04_A_chain_amplitude_transforms {n k : ℕ} (W : WignerRep n) (W' : WignerRep k)
    (ι : Fin k → Fin n) (s : ℝ) (hι : ∀ l, W.wt (ι l) = W'.wt l - s) (H : Fin k → Fin k → ℂ)
    (R h h₁ : Matrix (Fin 3) (Fin 3) ℝ) (hR : IsRot R) (hh : IsRot h) (hh₁ : IsRot h₁) (δ : ℝ)
    (M : Fin n) :
    chain2 W W' ι H (R * h * Rz3 (-δ)) (Rz3 δ * h₁) M
      = WignerRep.ph s δ * ∑ M', star (W.D R M M') * chain2 W W' ι H h h₁ M' :=
  chain2_transform W W' ι s hι H R h h₁ hR hh hh₁ δ M

/-- one topology: `Σ_M |A_M|²` invariant -/
theorem C04_A_single_topology {n k : ℕ} (W : WignerRep n) (W' : WignerRep k) (ι : Fin k → Fin n)
    (s : ℝ) (hι : ∀ l, W.wt (ι l) = W'.wt l - s) (H : Fin k → Fin k → ℂ)
    (R h h₁ : Matrix (Fin 3) (Fin 3) ℝ) (hR : IsRot R) (hh : IsRot h) (hh₁ : IsRot h₁) (δ : ℝ) :
    nsq (chain2 W W' ι H (R * h * Rz3 (-δ)) (Rz3 δ * h₁)) = nsq (chain2 W W' ι H h h₁) :=
  nsq_transform (W.D R) (W.unitary R hR) (WignerRep.ph s δ) (WignerRep.normSq_ph s δ) _ _
    (chain2_transform W W' ι s hι H R h h₁ hR hh hh₁ δ)

/-- several topologies, spinless spectators: `Σ_M |Σ_t c_t A^t_M|²` invariant -/
theorem C04_A_multi_topology_spinless {n : ℕ} (W : WignerRep n) {T : Type} [Fintype T]
    (k : T → ℕ) (W' : ∀ t, WignerRep (k t)) (ι : ∀ t, Fin (k t) → Fin n)
    (hι : ∀ t l, W.wt (ι t l) = (W' t).wt l - 0)
    (H : ∀ t, Fin (k t) → Fin (k t) → ℂ) (c : T → ℂ)
    (R : Matrix (Fin 3) (Fin 3) ℝ) (hR : IsRot R)
    (h h₁ : T → Matrix (Fin 3) (Fin 3) ℝ) (hh : ∀ t, IsRot (h t)) (hh₁ : ∀ t, IsRot (h₁ t))
    (δ : T → ℝ) :
    nsq (fun M => ∑ t, c t * chain2 W (W' t) (ι t) (H t) (R * h t * Rz3 (-(δ t))) (Rz3 (δ t) * h₁ t) M)
      = nsq (fun M => ∑ t, c t * chain2 W (W' t) (ι t) (H t) (h t) (h₁ t) M) :=
  multi_topology_intensity W k W' ι hι H c R hR h h₁ hh hh₁ δ

/-! ## (I) instances -/

/-- SymPy's `Rotation.D(1, m, m', α, β, γ).doit()` (regenerated) is the J = 1 representation
`U · Rz(α)Ry(β)Rz(γ) · U†` of the Euler rotation. -/
theorem C04_I_sympy_D1_is_representation (α β γ : ℝ) : D1 α β γ = W1.D (euler α β γ) :=
  sympy_D1_eq α β γ

/-- SymPy's D¹ is unitary for all angles -/
theorem C04_I_sympy_D1_unitary (α β γ : ℝ) : (D1 α β γ)ᴴ * D1 α β γ = 1 := by
  rw [sympy_D1_eq]; exact W1.unitary _ (euler_isRot α β γ)

/-- SymPy's D¹ is `diag(e^{-iα}, 1, e^{iα})` on z-rotations -/
theorem C04_I_sympy_D1_z_diagonal (α : ℝ) :
    D1 α 0 0 = Matrix.diagonal fun m => Complex.exp (-(↑(wt1 m * α) : ℂ) * Complex.I) := by
  rw [sympy_D1_eq, euler, Ry3_zero, Rz3_zero, Matrix.mul_one, Matrix.mul_one]
  exact W1.diag α

/-- homomorphism: the product of two SymPy D¹ matrices is the representation of the product of the
two Euler rotations -/
theorem C04_I_sympy_D1_homomorphism (α β γ α' β' γ' : ℝ) :
    D1 α β γ * D1 α' β' γ' = W1.D (euler α β γ * euler α' β' γ') := by
  rw [sympy_D1_eq, sympy_D1_eq, W1.mul _ _ (euler_isRot _ _ _) (euler_isRot _ _ _)]

/-! ### J = 1/2: SymPy's `Rotation.D(1/2, m, m', α, β, γ).doit()` (regenerated 2×2 matrix `Dh`) -/

/-- unitary for all angles -/
theorem C04_I_sympy_Dhalf_unitary (α β γ : ℝ) : (Dh α β γ)ᴴ * Dh α β γ = 1 := Dh_unitary α β γ

/-- `diag(e^{-iα/2}, e^{iα/2})` on z-rotations -/
theorem C04_I_sympy_Dhalf_z_diagonal (α : ℝ) :
    Dh α 0 0 = !![ce (-α / 2), 0; 0, ce (α / 2)] := Dh_z_diagonal α

/-- its adjoint action on `v·σ` is the Euler rotation: the covering SU(2) → SO(3) -/
theorem C04_I_sympy_Dhalf_covers_rotation (α β γ : ℝ) (v : Fin 3 → ℝ) :
    Dh α β γ * pauli v * (Dh α β γ)ᴴ = pauli (euler α β γ *ᵥ v) := adj_Dh α β γ v

/-- homomorphism UP TO THE SU(2) SIGN: if the Euler rotations compose, the D^{1/2} compose up to ± -/
theorem C04_I_sympy_Dhalf_homomorphism_up_to_sign (α β γ α' β' γ' α'' β'' γ'' : ℝ)
    (h : euler α β γ * euler α' β' γ' = euler α'' β'' γ'') :
    Dh α β γ * Dh α' β' γ' = Dh α'' β'' γ'' ∨ Dh α β γ * Dh α' β' γ' = -Dh α'' β'' γ'' :=
  Dh_mul_sign α β γ α' β' γ' α'' β'' γ'' h

/-- the sign is really there: a full turn is the same rotation but flips D^{1/2} (and not D¹) -/
theorem C04_I_full_turn_flips_spin_half (α β γ : ℝ) :
    euler (α + 2 * Real.pi) β γ = euler α β γ ∧ Dh (α + 2 * Real.pi) β γ = -Dh α β γ ∧
      D1 (α + 2 * Real.pi) β γ = D1 α β γ :=
  ⟨euler_two_pi α β γ, Dh_two_pi α β γ, D1_two_pi α β γ⟩

/-- hence no `WignerRep` (a representation of rotation MATRICES) has weight 1/2: half-integer spins
are outside layer (A) as formulated; they need the double cover -/
theorem C04_I_no_spin_half_representation_of_SO3 (W : WignerRep 2) (h0 : W.wt 0 = 1 / 2) : False := by
  have h1 := W.diag (0 + 2 * Real.pi)
  rw [Rz3_two_pi, W.diag 0] at h1
  have := congrFun (congrFun h1 0) 0
  simp only [Matrix.diagonal_apply_eq, h0] at this
  rw [show (-(↑((1 : ℝ) / 2 * 0) : ℂ) * Complex.I) = 0 by simp,
    show (-(↑((1 : ℝ) / 2 * (0 + 2 * Real.pi)) : ℂ) * Complex.I) = -(Real.pi * Complex.I) by push_cast; ring,
    Complex.exp_zero, Complex.exp_neg, Complex.exp_pi_mul_I] at this
  norm_num at this

/-- WHY the known class "axis-angle alignment with half-integer spins" exists. The regenerated
`Phi = atan2(p_y, p_x)` is π on the negative x axis, φ ∈ (π/2, π) just above it and −φ just below it
(branch cut); the continuous continuation across the cut is 2π − φ. For spin 1/2 the value the
library uses differs from the continuation by a SIGN, for spin 1 it does not. -/
theorem C04_W_branch_cut_flips_sign_for_spin_half (y φ β γ : ℝ) (hy : 0 < y) :
    PhiOf (-1) 0 = Real.pi ∧ (Real.pi / 2 < PhiOf (-1) y ∧ PhiOf (-1) y < Real.pi) ∧
      PhiOf (-1) (-y) = -PhiOf (-1) y ∧
      Dh (-φ) β γ = -Dh (2 * Real.pi - φ) β γ ∧ D1 (-φ) β γ = D1 (2 * Real.pi - φ) β γ :=
  ⟨PhiOf_on_cut, PhiOf_above_cut y hy, PhiOf_below_cut y hy, branch_cut_sign_half φ β γ,
    branch_cut_no_sign_one φ β γ⟩

/-! ### J ≤ 5/2: unitarity from the regenerated d-tables (`Gen/C05Wigner.lean`) -/

/-- `D^J(α,β,γ) = e^{-imα} d^J(β) e^{-im'γ}` is unitary for every J = j2/2 ≤ 5/2 and all angles -/
theorem C04_I_unitary_up_to_spin_five_halves (j2 : ℕ) (hj : j2 ≤ 5) (α β γ : ℝ) :
    DJ j2 α β γ * (DJ j2 α β γ)ᴴ = 1 := DJ_unitary j2 hj α β γ

theorem C04_I_spin_three_halves_unitary (α β γ : ℝ) : DJ 3 α β γ * (DJ 3 α β γ)ᴴ = 1 :=
  DJ_unitary 3 (by norm_num) α β γ

theorem C04_I_spin_two_unitary (α β γ : ℝ) : DJ 4 α β γ * (DJ 4 α β γ)ᴴ = 1 :=
  DJ_unitary 4 (by norm_num) α β γ

/-! ## (KA) kinematics and algebra combined: two-level chains (three-body decays) -/

/-- production frame computed from the subsystem momentum as the source does -/
noncomputable def prodFrame (P : Fin 4 → ℝ) : Matrix (Fin 3) (Fin 3) ℝ :=
  hframe (phiOf (sp P)) (thetaOf (sp P))

/-- decay frame of the subsystem: angles of the child momentum `q` seen from `helframe P` -/
noncomputable def decayFrame (P q : Fin 4 → ℝ) : Matrix (Fin 3) (Fin 3) ℝ :=
  hframe (phiOf (sp (helframe P *ᵥ q))) (thetaOf (sp (helframe P *ᵥ q)))

/-- two-level chain amplitude as a function of the event -/
noncomputable def amp2 {n k : ℕ} (W : WignerRep n) (W' : WignerRep k) (ι : Fin k → Fin n)
    (H : Fin k → Fin k → ℂ) (P q : Fin 4 → ℝ) : Fin n → ℂ :=
  chain2 W W' ι H (prodFrame P) (decayFrame P q)

theorem decayFrame_rotated {R : Matrix (Fin 3) (Fin 3) ℝ} (P q : Fin 4 → ℝ) (δ : ℝ)
    (hq : 0 < (sp (helframe P *ᵥ q)) 0 ^ 2 + (sp (helframe P *ᵥ q)) 1 ^ 2)
    (h : helframe (emb R *ᵥ P) *ᵥ (emb R *ᵥ q) = RotZ δ *ᵥ (helframe P *ᵥ q)) :
    decayFrame (emb R *ᵥ P) (emb R *ᵥ q) = Rz3 δ * decayFrame P q := by
  unfold decayFrame
  rw [h, RotZ_eq, sp_emb_mulVec, hframe_Rz3 δ _ hq]

/-- SINGLE TOPOLOGY, events: for every proper rotation `R` applied to the subsystem momentum `P`
and the child momentum `q` (initial-state rest frame), the unpolarised intensity of the two-level
chain is unchanged — whatever sign convention links the D-function index to the child helicity
(this covers the pinned source's opposite-helicity convention, topology 0(12), as well).
Guards: `P` has non-zero three-momentum; the child is not exactly on the z axis of the helicity
frame (where `Phi` is discontinuous). -/
theorem C04_single_topology_events {n k : ℕ} (W : WignerRep n) (W' : WignerRep k)
    (ι : Fin k → Fin n) (hinj : Function.Injective ι) (H : Fin k → Fin k → ℂ)
    (R : Matrix (Fin 3) (Fin 3) ℝ) (hR : IsRot R) (P q : Fin 4 → ℝ) (hP : 0 < nrm (sp P))
    (hq : 0 < (sp (helframe P *ᵥ q)) 0 ^ 2 + (sp (helframe P *ᵥ q)) 1 ^ 2) :
    nsq (amp2 W W' ι H (emb R *ᵥ P) (emb R *ᵥ q)) = nsq (amp2 W W' ι H P q) := by
  obtain ⟨δ, _, hδ⟩ := frames_covariance hR P hP
  unfold amp2
  rw [decayFrame_rotated P q δ hq (hδ q)]
  exact single_topology_any_convention W W' ι hinj H (prodFrame P) (prodFrame (emb R *ᵥ P))
    (decayFrame P q) (hframe_isRot _ _) (hframe_isRot _ _) (hframe_isRot _ _) δ

/-- SEVERAL TOPOLOGIES, events, spinless final state, helicity-state convention (`μ = λ`): the
coherent sum over topologies `t` (each with its own subsystem `P t`, child `q t`, child spin and
couplings) has a rotation-invariant unpolarised intensity. -/
theorem C04_multi_topology_events {n : ℕ} (W : WignerRep n) {T : Type} [Fintype T]
    (k : T → ℕ) (W' : ∀ t, WignerRep (k t)) (ι : ∀ t, Fin (k t) → Fin n)
    (hι : ∀ t l, W.wt (ι t l) = (W' t).wt l - 0)
    (H : ∀ t, Fin (k t) → Fin (k t) → ℂ) (c : T → ℂ)
    (R : Matrix (Fin 3) (Fin 3) ℝ) (hR : IsRot R) (P q : T → Fin 4 → ℝ)
    (hP : ∀ t, 0 < nrm (sp (P t)))
    (hq : ∀ t, 0 < (sp (helframe (P t) *ᵥ q t)) 0 ^ 2 + (sp (helframe (P t) *ᵥ q t)) 1 ^ 2) :
    nsq (fun M => ∑ t, c t * amp2 W (W' t) (ι t) (H t) (emb R *ᵥ P t) (emb R *ᵥ q t) M)
      = nsq (fun M => ∑ t, c t * amp2 W (W' t) (ι t) (H t) (P t) (q t) M) := by
  choose δ hδ using fun t => frames_covariance hR (P t) (hP t)
  have e : ∀ t, amp2 W (W' t) (ι t) (H t) (emb R *ᵥ P t) (emb R *ᵥ q t)
      = chain2 W (W' t) (ι t) (H t) (R * prodFrame (P t) * Rz3 (-(δ t))) (Rz3 (δ t) * decayFrame (P t) (q t)) := by
    intro t
    unfold amp2
    rw [decayFrame_rotated (P t) (q t) (δ t) (hq t) ((hδ t).2 (q t))]
    unfold prodFrame
    rw [(hδ t).1]
  simp_rw [e]
  unfold amp2
  exact multi_topology_intensity W k W' ι hι H c R hR (fun t => prodFrame (P t))
    (fun t => decayFrame (P t) (q t)) (fun t => hframe_isRot _ _) (fun t => hframe_isRot _ _) δ

/-- UNCONDITIONAL instance (no `WignerRep` hypothesis): initial spin 1, two topologies with a
spin-1 resonance each and spinless final-state particles (J/ψ → ρ⁺π⁻ + ρ⁻π⁺ → π⁰π⁺π⁻, topologies
(01)2 and (02)1), every coupling matrix `H`, every coefficient. -/
theorem C04_partial_J1_two_topologies (H : Bool → Fin 3 → Fin 3 → ℂ) (c : Bool → ℂ)
    (R : Matrix (Fin 3) (Fin 3) ℝ) (hR : IsRot R) (P q : Bool → Fin 4 → ℝ)
    (hP : ∀ t, 0 < nrm (sp (P t)))
    (hq : ∀ t, 0 < (sp (helframe (P t) *ᵥ q t)) 0 ^ 2 + (sp (helframe (P t) *ᵥ q t)) 1 ^ 2) :
    nsq (fun M => ∑ t, c t * amp2 W1 W1 id (H t) (emb R *ᵥ P t) (emb R *ᵥ q t) M)
      = nsq (fun M => ∑ t, c t * amp2 W1 W1 id (H t) (P t) (q t) M) :=
  C04_multi_topology_events W1 (fun _ => 3) (fun _ => W1) (fun _ => id) (fun _ _ => by simp) H c R hR
    P q hP hq

/-- UNCONDITIONAL instance: initial spin 1, a spin-0 and a spin-1 resonance in the same
subsystem are covered by `C04_single_topology_events`; here the spin-0 resonance alone
(`μ = 0` is the middle index). -/
theorem C04_partial_J1_scalar_resonance (H : Fin 1 → Fin 1 → ℂ)
    (R : Matrix (Fin 3) (Fin 3) ℝ) (hR : IsRot R) (P q : Fin 4 → ℝ) (hP : 0 < nrm (sp P))
    (hq : 0 < (sp (helframe P *ᵥ q)) 0 ^ 2 + (sp (helframe P *ᵥ q)) 1 ^ 2) :
    nsq (amp2 W1 W0 (fun _ => 1) H (emb R *ᵥ P) (emb R *ᵥ q)) = nsq (amp2 W1 W0 (fun _ => 1) H P q) :=
  C04_single_topology_events W1 W0 (fun _ => 1) (fun a b _ => Subsingleton.elim a b) H R hR P q hP hq

/-! ## (W) the pinned source's convention for a decaying opposite-helicity child -/

/-- With `μ = λ_spectator − λ` and the frames of the decaying child (what
`compute_helicity_angles` + `formulate_isobar_wigner_d` produce for topology 0(12)) the rotated
amplitude is the correctly transformed amplitude of a model with couplings `e^{2iλδ} H_{λν}`:
a helicity-dependent phase that no common factor absorbs. One topology stays invariant
(`C04_single_topology_events`); a coherent sum with another topology does not — the failing
input is found and replayed by the numeric oracle (KNOWN-FINDING). -/
theorem C04_W_opposite_convention_rephases {n k : ℕ} (W : WignerRep n) (W' : WignerRep k)
    (ι : Fin k → Fin n) (s : ℝ) (hι : ∀ l, W.wt (ι l) = s - W'.wt l) (H : Fin k → Fin k → ℂ)
    (R h h₁ : Matrix (Fin 3) (Fin 3) ℝ) (hR : IsRot R) (hh : IsRot h) (hh₁ : IsRot h₁) (δ : ℝ)
    (M : Fin n) :
    chain2 W W' ι H (R * h * Rz3 (-δ)) (Rz3 δ * h₁) M
      = WignerRep.ph s (-δ) * ∑ M', star (W.D R M M')
          * chain2 W W' ι (fun l ν => WignerRep.ph (2 * W'.wt l) δ * H l ν) h h₁ M' := by
  have hp : ∀ l, WignerRep.ph (W.wt (ι l)) (-δ) * WignerRep.ph (W'.wt l) δ
      = WignerRep.ph s (-δ) * WignerRep.ph (2 * W'.wt l) δ := by
    intro l
    rw [hι l, WignerRep.ph, WignerRep.ph, WignerRep.ph, WignerRep.ph, expI_add, expI_add]
    congr 3
    ring
  exact chain2_rephased W W' ι H h h₁ δ _ _ hp R hR hh hh₁ M

/-- the model of the source (`Model/C04Frames.lean`, tied to the real code by the T2
correspondence on every run) classifies the three-body topologies: 0(12) contains a decaying
opposite-helicity child, (01)2 and (02)1 do not. -/
def topo_0_12 : Ampverif.Model.C04Frames.Topo :=
  [⟨-1, none, some 0⟩, ⟨0, some 0, none⟩, ⟨3, some 0, some 1⟩, ⟨1, some 1, none⟩, ⟨2, some 1, none⟩]
def topo_01_2 : Ampverif.Model.C04Frames.Topo :=
  [⟨-1, none, some 0⟩, ⟨2, some 0, none⟩, ⟨3, some 0, some 1⟩, ⟨0, some 1, none⟩, ⟨1, some 1, none⟩]
def topo_02_1 : Ampverif.Model.C04Frames.Topo :=
  [⟨-1, none, some 0⟩, ⟨1, some 0, none⟩, ⟨3, some 0, some 1⟩, ⟨0, some 1, none⟩, ⟨2, some 1, none⟩]

theorem C04_W_topology_0_12_has_decaying_opposite_child :
    Ampverif.Model.C04Frames.hasDecayingOpposite topo_0_12 = true := by decide

theorem C04_W_topologies_01_2_and_02_1_have_none :
    Ampverif.Model.C04Frames.hasDecayingOpposite topo_01_2 = false ∧
    Ampverif.Model.C04Frames.hasDecayingOpposite topo_02_1 = false := by decide

/-! ## arbitrary decay trees (definitions in `Lemmas/C04Tree.lean`)

Spins and projections doubled; `RepFamily` = abstract family of representations of the proper
rotations for the spins it declares `ok` (an SO(3) family can only provide integer spins);
`amp` = the source's helicity amplitude of a tree with fixed final-state helicities;
`Rotated R` = what a global rotation does to the helicity frames — established level by level by
layer (K): `C04_K_child_frame_momenta` (root), `C04_K_azimuth_shifts`/`C04_K_polar_angle_unchanged`
(first level below: `h₁ ↦ Rz(δ) h₁`), `C04_K_deeper_frames_coincide` (all deeper levels) and
`C04_K_second_child_sees_inverse_rotation` (second child). -/

/-- transformation law at every depth: `A'_m = Σ_{m'} conj D^J_{m m'}(R) A_{m'}` -/
theorem C04_A_all_trees_transform (F : RepFamily) (t : Tree) (h1 : t.spinsOk F) (h2 : t.spinlessLeaves)
    (R : Matrix (Fin 3) (Fin 3) ℝ) (f f' : Frames) (hR : IsRot R) (hrot : Rotated R f f') :
    ∀ m ∈ projs t.twoSpin,
      amp F t f' m = ∑ m' ∈ projs t.twoSpin, star (F.D t.twoSpin R m m') * amp F t f m' :=
  amp_rotated F t h1 h2 R f f' hR hrot

/-- The tree statement for spinless final states (conditional on the abstract `RepFamily`): any finite set
of topologies, arbitrary trees of any depth (cascades and two-resonance shapes), spinless final
states, all couplings, every proper rotation: the unpolarised intensity is invariant. -/
theorem C04_partial_all_trees_spinless (F : RepFamily) (T : Type) [Fintype T] (tree : T → Tree)
    (c : T → ℂ) (fr fr' : T → Frames) (R : Matrix (Fin 3) (Fin 3) ℝ) (twoJ : ℕ) (hJ : F.ok twoJ)
    (hR : IsRot R)
    (ht : ∀ t, (tree t).twoSpin = twoJ ∧ (tree t).spinsOk F ∧ (tree t).spinlessLeaves)
    (hrot : ∀ t, Rotated R (fr t) (fr' t)) :
    ∑ m ∈ projs twoJ, Complex.normSq (∑ t, c t * amp F (tree t) (fr' t) m)
      = ∑ m ∈ projs twoJ, Complex.normSq (∑ t, c t * amp F (tree t) (fr t) m) :=
  intensity_rotated F T tree c fr fr' R twoJ hJ hR ht hrot

/-- UNCONDITIONAL (no representation hypothesis): the same for every set of trees all of whose
spins are 0 or 1 (`F01`: J = 0 trivial, J = 1 = `U R U†` = SymPy's D¹), e.g. J/ψ → (ρπ)-type
cascades of any depth with spinless final states. -/
theorem C04_partial_J01_all_trees (T : Type) [Fintype T] (tree : T → Tree)
    (c : T → ℂ) (fr fr' : T → Frames) (R : Matrix (Fin 3) (Fin 3) ℝ) (twoJ : ℕ)
    (hJ : twoJ = 0 ∨ twoJ = 2) (hR : IsRot R)
    (ht : ∀ t, (tree t).twoSpin = twoJ ∧ (tree t).spinsOk F01 ∧ (tree t).spinlessLeaves)
    (hrot : ∀ t, Rotated R (fr t) (fr' t)) :
    ∑ m ∈ projs twoJ, Complex.normSq (∑ t, c t * amp F01 (tree t) (fr' t) m)
      = ∑ m ∈ projs twoJ, Complex.normSq (∑ t, c t * amp F01 (tree t) (fr t) m) :=
  intensity_rotated F01 T tree c fr fr' R twoJ hJ hR ht hrot

/-- FULL STATEMENT on trees: as `C04_partial_all_trees_spinless`, and in addition a SINGLE topology
may have final states with any (provided) spin. -/
def C04_full_statement : Prop :=
  ∀ (F : RepFamily) (T : Type) [Fintype T] (tree : T → Tree) (c : T → ℂ) (fr fr' : T → Frames)
    (R : Matrix (Fin 3) (Fin 3) ℝ) (twoJ : ℕ), F.ok twoJ → IsRot R →
    (∀ t, (tree t).twoSpin = twoJ ∧ (tree t).spinsOk F) →
    ((∀ t, (tree t).spinlessLeaves) ∨ Subsingleton T) →
    (∀ t, Rotated R (fr t) (fr' t)) →
    ∑ m ∈ projs twoJ, Complex.normSq (∑ t, c t * amp F (tree t) (fr' t) m)
      = ∑ m ∈ projs twoJ, Complex.normSq (∑ t, c t * amp F (tree t) (fr t) m)

/-- Conditional on the abstract `RepFamily` only; with final state spins each helicity
configuration picks up a unit phase (`amp_rotated_phase`). -/
theorem C04_full_trees : C04_full_statement :=
  fun F T _ tree c fr fr' R twoJ hJ hR ht hcase hrot =>
    intensity_rotated_full F T tree c fr fr' R twoJ hJ hR ht hcase hrot

/-! ## end to end: from the four-momenta of arbitrary trees to the intensity

`MTree` = isobar tree with the final-state four-momenta at its leaves; `framesOf L t` = the helicity
frames the source's recursion computes for it (sound convention: a node's angles are those of its
first child, the helicity state), `EventOK` = the genericity guards. -/

/-- (K), packaged: ALL helicity frames (hence all helicity angles) of the rotated event are those
of the original event except the root frame (`R·h·Rz(−δ)`) and the first frame below the root in
each child subtree (`Rz(±δ)·h`: polar angle unchanged, azimuth shifted by ±δ); every deeper frame
is identical. Every tree shape, every depth, any frame `L` in which the node is at rest. -/
theorem C04_K_all_helicity_frames {R : Matrix (Fin 3) (Fin 3) ℝ} (hR : IsRot R)
    (L : Matrix (Fin 4) (Fin 4) ℝ) (c₁ c₂ : MTree)
    (hP : 0 < nrm (sp (L *ᵥ c₁.mom)))
    (hrest : sp (L *ᵥ c₂.mom) = -sp (L *ᵥ c₁.mom))
    (hoff : offAxis (sp (L *ᵥ c₁.mom))) (hoff' : offAxis (R *ᵥ sp (L *ᵥ c₁.mom)))
    (h1 : topOffAxis (helframe (L *ᵥ c₁.mom) * L) c₁)
    (h2 : topOffAxis (helframe (L *ᵥ c₂.mom) * L) c₂) :
    ∃ δ : ℝ, framesOf (emb R * L) (.node c₁ c₂)
      = .node (R * hframe (phiOf (sp (L *ᵥ c₁.mom))) (thetaOf (sp (L *ᵥ c₁.mom))) * Rz3 (-δ))
          ((framesOf (helframe (L *ᵥ c₁.mom) * L) c₁).shift δ)
          ((framesOf (helframe (L *ᵥ c₂.mom) * L) c₂).shift (-δ)) :=
  rotated_event_frames hR L c₁ c₂ hP hrest hoff hoff' h1 h2

/-- END TO END (conditional on `RepFamily` only): events of arbitrary isobar trees given by their
final-state four-momenta in the initial-state rest frame, every proper rotation `R` applied to all
momenta (`framesOf (emb R)`), helicity frames computed as the source does from the regenerated
`Phi`, `Theta`, `RotZ`, `RotY`, `BoostZ`: the unpolarised intensity is unchanged — for any finite set
of topologies with spinless final states, and for a single topology with any final-state spins. -/
theorem C04_end_to_end (F : RepFamily) (T : Type) [Fintype T] (tree : T → Tree) (c : T → ℂ)
    (c₁ c₂ : T → MTree) (R : Matrix (Fin 3) (Fin 3) ℝ) (twoJ : ℕ) (hJ : F.ok twoJ) (hR : IsRot R)
    (ht : ∀ t, (tree t).twoSpin = twoJ ∧ (tree t).spinsOk F)
    (hcase : (∀ t, (tree t).spinlessLeaves) ∨ Subsingleton T)
    (hev : ∀ t, EventOK R (c₁ t) (c₂ t)) :
    ∑ m ∈ projs twoJ, Complex.normSq (∑ t, c t * amp F (tree t) (framesOf (emb R) (.node (c₁ t) (c₂ t))) m)
      = ∑ m ∈ projs twoJ, Complex.normSq (∑ t, c t * amp F (tree t) (framesOf 1 (.node (c₁ t) (c₂ t))) m) :=
  intensity_rotated_full F T tree c _ _ R twoJ hJ hR ht hcase
    (fun t => rotated_of_event_at_rest hR (c₁ t) (c₂ t) (hev t))

/-- END TO END, UNCONDITIONAL for spins 0 and 1 (no representation hypothesis at all). -/
theorem C04_end_to_end_J01 (T : Type) [Fintype T] (tree : T → Tree) (c : T → ℂ)
    (c₁ c₂ : T → MTree) (R : Matrix (Fin 3) (Fin 3) ℝ) (twoJ : ℕ) (hJ : twoJ = 0 ∨ twoJ = 2)
    (hR : IsRot R) (ht : ∀ t, (tree t).twoSpin = twoJ ∧ (tree t).spinsOk F01)
    (hcase : (∀ t, (tree t).spinlessLeaves) ∨ Subsingleton T)
    (hev : ∀ t, EventOK R (c₁ t) (c₂ t)) :
    ∑ m ∈ projs twoJ, Complex.normSq (∑ t, c t * amp F01 (tree t) (framesOf (emb R) (.node (c₁ t) (c₂ t))) m)
      = ∑ m ∈ projs twoJ, Complex.normSq (∑ t, c t * amp F01 (tree t) (framesOf 1 (.node (c₁ t) (c₂ t))) m) :=
  C04_end_to_end F01 T tree c c₁ c₂ R twoJ hJ hR ht hcase hev

/-! ## non-vacuity -/

/-- the hypotheses of the (A) layer are satisfiable: J = 0 and J = 1 -/
example : Nonempty (WignerRep 1) ∧ Nonempty (WignerRep 3) := ⟨⟨W0⟩, ⟨W1⟩⟩

/-- proper rotations exist beyond the identity -/
example : IsRot (Rz3 0.7 * Ry3 0.3) := (Rz3_isRot _).mul (Ry3_isRot _)

/-- a concrete event meeting the guards of the event theorems -/
def P₀ : Fin 4 → ℝ := ![2, 0, 0, 1]
def q₀ : Fin 4 → ℝ := ![1, 1, 0, 0]

theorem nrm_P₀ : nrm (sp P₀) = 1 := by
  simp [nrm, sp, P₀]

theorem phi_P₀ : phiOf (sp P₀) = 0 := by
  simp [phiOf, PhiOf, sp, P₀]
  have : (⟨0, 0⟩ : ℂ) = 0 := rfl
  rw [this, Complex.arg_zero]

theorem theta_P₀ : thetaOf (sp P₀) = 0 := by
  simp [thetaOf, ThetaOf, sp, P₀]

example : 0 < nrm (sp P₀) ∧ 0 < (sp (helframe P₀ *ᵥ q₀)) 0 ^ 2 + (sp (helframe P₀ *ᵥ q₀)) 1 ^ 2 := by
  refine ⟨by rw [nrm_P₀]; norm_num, ?_⟩
  have h1 : (sp (helframe P₀ *ᵥ q₀)) 0 = 1 := by
    rw [helframe, phi_P₀, theta_P₀, neg_zero, RotY_eq, RotZ_eq, Ry3_zero, Rz3_zero, emb_one,
      Matrix.mul_one, Matrix.mul_one, BoostZ_eq]
    generalize nrm (sp P₀) / P₀ 0 = β
    simp [sp, q₀, Matrix.mulVec, dotProduct, Fin.sum_univ_four]
  rw [h1]
  have := sq_nonneg ((sp (helframe P₀ *ᵥ q₀)) 1)
  linarith

/-- a non-trivial tree and frames meeting the hypotheses of the tree theorems: J = 1 → (J = 1 → 0 0) 0,
rotated frames for a rotation about y -/
def tree₀ : Tree := .node 2 (fun _ _ => 1) (.node 2 (fun _ _ => 1) (.leaf 0 0) (.leaf 0 0)) (.leaf 0 0)

example : tree₀.spinsOk F01 ∧ tree₀.spinlessLeaves ∧ tree₀.twoSpin = 2 := by
  simp [tree₀, Tree.spinsOk, Tree.spinlessLeaves, Tree.twoSpin, F01]

example : Rotated (Ry3 0.7) (.node (Rz3 0.2) (.node (Ry3 0.4) .leaf .leaf) .leaf)
    (.node (Ry3 0.7 * Rz3 0.2 * Rz3 (-0.3)) (.node (Rz3 0.3 * Ry3 0.4 * Rz3 (-0)) .leaf .leaf) .leaf) :=
  Rotated.node _ _ _ _ _ _ 0.3 (Rz3_isRot _)
    (Rotated.node _ _ _ _ _ _ 0 (Ry3_isRot _) (Rotated.leaf _) (Rotated.leaf _)) (Rotated.leaf _)

/-- a three-body event meeting `EventOK`: (a b) c with the pair moving along x -/
noncomputable def evA : MTree := .node (.leaf ![1, 1/2, 1, 0]) (.leaf ![2, 1/2, -1, 0])
noncomputable def evC : MTree := .leaf ![2, -1, 0, 0]

theorem evA_mom : evA.mom = ![3, 1, 0, 0] := by
  ext i; fin_cases i <;> simp [evA, MTree.mom] <;> norm_num

theorem phi_x : phiOf ![1, 0, 0] = 0 := by
  simp [phiOf, PhiOf]
  have : (⟨1, 0⟩ : ℂ) = 1 := rfl
  rw [this, Complex.arg_one]

theorem theta_x : thetaOf ![1, 0, 0] = Real.pi / 2 := by
  simp [thetaOf, ThetaOf]

example : EventOK (Rz3 0.3) evA evC := by
  have hsp : sp evA.mom = ![1, 0, 0] := by rw [evA_mom]; ext i; fin_cases i <;> simp [sp]
  refine ⟨?_, ?_, ?_, ?_, ?_, trivial⟩
  · rw [hsp]; simp [nrm]
  · rw [hsp]; ext i; fin_cases i <;> simp [evC, MTree.mom, sp]
  · rw [hsp]; simp [offAxis]
  · rw [hsp, Rz3_mulVec]
    simp only [offAxis, Matrix.cons_val_zero, Matrix.cons_val_one]
    have := Real.sin_sq_add_cos_sq (0.3 : ℝ)
    nlinarith
  · have hh : helframe evA.mom = BoostZ (1 / 3) * RotY (-(Real.pi / 2)) := by
      rw [helframe, hsp, phi_x, theta_x, neg_zero, RotZ_eq, Rz3_zero, emb_one, Matrix.mul_one, evA_mom]
      simp [nrm]
    rw [hh, RotY_eq, BoostZ_eq]
    constructor <;>
      simp [offAxis, MTree.mom, sp, emb, Ry3, Matrix.mulVec, dotProduct, Fin.sum_univ_four,
        Matrix.mul_apply]

/-- the index hypothesis of the multi-topology theorem holds for ρπ (`ι = id`, spectator spin 0) -/
example : ∀ l, W1.wt (id l) = W1.wt l - 0 := fun _ => by simp

end Ampverif.Props.C04
