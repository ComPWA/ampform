/-
C09, three channels (thorough tier) — the entries of `formulate(3, ·, parametrize=False)` of both
K-matrix classes (`Ampverif.Gen.C09N3.*`, regenerated in a time-capped subprocess) solve
`E (1 − iK) = K` resp. `Ê (1 − iρK̂) = K̂`, are therefore the abstract formula wherever the
determinant does not vanish, and are unitary and symmetric for real symmetric K (positive ρ).
-/
import Ampverif.Lemmas.C09N3

set_option linter.unusedVariables false
set_option linter.unusedSimpArgs false

namespace Ampverif.Props.C09N3
open Ampverif.Gen.C09N3 Ampverif.Lemmas.C09 Matrix

/-- n = 3, non-relativistic, row 0 of `E (1 − iK) = K` for the regenerated entries. -/
theorem nrT3_solves_row0 (a b c d e f g h k : ℂ)
    (h1 : nrT3_den1 a b c d e f g h k ≠ 0) (h2 : nrT3_den2 a b c d e f g h k ≠ 0) :
    (nrT3_00 a b c d e f g h k * (1 - Complex.I * a) + nrT3_01 a b c d e f g h k * (-(Complex.I * d)) + nrT3_02 a b c d e f g h k * (-(Complex.I * g)) = a) ∧
    (nrT3_00 a b c d e f g h k * (-(Complex.I * b)) + nrT3_01 a b c d e f g h k * (1 - Complex.I * e) + nrT3_02 a b c d e f g h k * (-(Complex.I * h)) = b) ∧
    (nrT3_00 a b c d e f g h k * (-(Complex.I * c)) + nrT3_01 a b c d e f g h k * (-(Complex.I * f)) + nrT3_02 a b c d e f g h k * (1 - Complex.I * k) = c) := by
  simp only [nrT3_00, nrT3_01, nrT3_02, nrT3_den2_eq]
  generalize hΔ : nrT3_den1 a b c d e f g h k = Δ at h1
  refine ⟨?_, ?_, ?_⟩ <;>
  · field_simp
    subst hΔ
    simp only [nrT3_den1]
    grind only [Complex.I_sq]

/-- n = 3, non-relativistic, row 1 of `E (1 − iK) = K` for the regenerated entries. -/
theorem nrT3_solves_row1 (a b c d e f g h k : ℂ)
    (h1 : nrT3_den1 a b c d e f g h k ≠ 0) (h2 : nrT3_den2 a b c d e f g h k ≠ 0) :
    (nrT3_10 a b c d e f g h k * (1 - Complex.I * a) + nrT3_11 a b c d e f g h k * (-(Complex.I * d)) + nrT3_12 a b c d e f g h k * (-(Complex.I * g)) = d) ∧
    (nrT3_10 a b c d e f g h k * (-(Complex.I * b)) + nrT3_11 a b c d e f g h k * (1 - Complex.I * e) + nrT3_12 a b c d e f g h k * (-(Complex.I * h)) = e) ∧
    (nrT3_10 a b c d e f g h k * (-(Complex.I * c)) + nrT3_11 a b c d e f g h k * (-(Complex.I * f)) + nrT3_12 a b c d e f g h k * (1 - Complex.I * k) = f) := by
  simp only [nrT3_10, nrT3_11, nrT3_12, nrT3_den2_eq]
  generalize hΔ : nrT3_den1 a b c d e f g h k = Δ at h1
  refine ⟨?_, ?_, ?_⟩ <;>
  · field_simp
    subst hΔ
    simp only [nrT3_den1]
    grind only [Complex.I_sq]

/-- n = 3, non-relativistic, row 2 of `E (1 − iK) = K` for the regenerated entries. -/
theorem nrT3_solves_row2 (a b c d e f g h k : ℂ)
    (h1 : nrT3_den1 a b c d e f g h k ≠ 0) (h2 : nrT3_den2 a b c d e f g h k ≠ 0) :
    (nrT3_20 a b c d e f g h k * (1 - Complex.I * a) + nrT3_21 a b c d e f g h k * (-(Complex.I * d)) + nrT3_22 a b c d e f g h k * (-(Complex.I * g)) = g) ∧
    (nrT3_20 a b c d e f g h k * (-(Complex.I * b)) + nrT3_21 a b c d e f g h k * (1 - Complex.I * e) + nrT3_22 a b c d e f g h k * (-(Complex.I * h)) = h) ∧
    (nrT3_20 a b c d e f g h k * (-(Complex.I * c)) + nrT3_21 a b c d e f g h k * (-(Complex.I * f)) + nrT3_22 a b c d e f g h k * (1 - Complex.I * k) = k) := by
  simp only [nrT3_20, nrT3_21, nrT3_22, nrT3_den2_eq]
  generalize hΔ : nrT3_den1 a b c d e f g h k = Δ at h1
  refine ⟨?_, ?_, ?_⟩ <;>
  · field_simp
    subst hΔ
    simp only [nrT3_den1]
    grind only [Complex.I_sq]

/-- n = 3, relativistic, row 0 of `T̂ (1 − iρK̂) = K̂` for the regenerated entries. -/
theorem relTh3_solves_row0 (ρ0 ρ1 ρ2 a b c d e f g h k : ℂ)
    (h1 : relT3_den1 ρ0 ρ1 ρ2 a b c d e f g h k ≠ 0) :
    (relTh3_00 ρ0 ρ1 ρ2 a b c d e f g h k * (1 - Complex.I * ρ0 * a) + relTh3_01 ρ0 ρ1 ρ2 a b c d e f g h k * (-(Complex.I * ρ1 * d)) + relTh3_02 ρ0 ρ1 ρ2 a b c d e f g h k * (-(Complex.I * ρ2 * g)) = a) ∧
    (relTh3_00 ρ0 ρ1 ρ2 a b c d e f g h k * (-(Complex.I * ρ0 * b)) + relTh3_01 ρ0 ρ1 ρ2 a b c d e f g h k * (1 - Complex.I * ρ1 * e) + relTh3_02 ρ0 ρ1 ρ2 a b c d e f g h k * (-(Complex.I * ρ2 * h)) = b) ∧
    (relTh3_00 ρ0 ρ1 ρ2 a b c d e f g h k * (-(Complex.I * ρ0 * c)) + relTh3_01 ρ0 ρ1 ρ2 a b c d e f g h k * (-(Complex.I * ρ1 * f)) + relTh3_02 ρ0 ρ1 ρ2 a b c d e f g h k * (1 - Complex.I * ρ2 * k) = c) := by
  refine ⟨?_, ?_, ?_⟩ <;>
  · simp only [relTh3_00, relTh3_01, relTh3_02, relTh3_10, relTh3_11, relTh3_12, relTh3_20, relTh3_21, relTh3_22]
    field_simp
    simp only [relT3_den1]
    grind only [Complex.I_sq]

/-- n = 3, relativistic, row 1 of `T̂ (1 − iρK̂) = K̂` for the regenerated entries. -/
theorem relTh3_solves_row1 (ρ0 ρ1 ρ2 a b c d e f g h k : ℂ)
    (h1 : relT3_den1 ρ0 ρ1 ρ2 a b c d e f g h k ≠ 0) :
    (relTh3_10 ρ0 ρ1 ρ2 a b c d e f g h k * (1 - Complex.I * ρ0 * a) + relTh3_11 ρ0 ρ1 ρ2 a b c d e f g h k * (-(Complex.I * ρ1 * d)) + relTh3_12 ρ0 ρ1 ρ2 a b c d e f g h k * (-(Complex.I * ρ2 * g)) = d) ∧
    (relTh3_10 ρ0 ρ1 ρ2 a b c d e f g h k * (-(Complex.I * ρ0 * b)) + relTh3_11 ρ0 ρ1 ρ2 a b c d e f g h k * (1 - Complex.I * ρ1 * e) + relTh3_12 ρ0 ρ1 ρ2 a b c d e f g h k * (-(Complex.I * ρ2 * h)) = e) ∧
    (relTh3_10 ρ0 ρ1 ρ2 a b c d e f g h k * (-(Complex.I * ρ0 * c)) + relTh3_11 ρ0 ρ1 ρ2 a b c d e f g h k * (-(Complex.I * ρ1 * f)) + relTh3_12 ρ0 ρ1 ρ2 a b c d e f g h k * (1 - Complex.I * ρ2 * k) = f) := by
  refine ⟨?_, ?_, ?_⟩ <;>
  · simp only [relTh3_00, relTh3_01, relTh3_02, relTh3_10, relTh3_11, relTh3_12, relTh3_20, relTh3_21, relTh3_22]
    field_simp
    simp only [relT3_den1]
    grind only [Complex.I_sq]

/-- n = 3, relativistic, row 2 of `T̂ (1 − iρK̂) = K̂` for the regenerated entries. -/
theorem relTh3_solves_row2 (ρ0 ρ1 ρ2 a b c d e f g h k : ℂ)
    (h1 : relT3_den1 ρ0 ρ1 ρ2 a b c d e f g h k ≠ 0) :
    (relTh3_20 ρ0 ρ1 ρ2 a b c d e f g h k * (1 - Complex.I * ρ0 * a) + relTh3_21 ρ0 ρ1 ρ2 a b c d e f g h k * (-(Complex.I * ρ1 * d)) + relTh3_22 ρ0 ρ1 ρ2 a b c d e f g h k * (-(Complex.I * ρ2 * g)) = g) ∧
    (relTh3_20 ρ0 ρ1 ρ2 a b c d e f g h k * (-(Complex.I * ρ0 * b)) + relTh3_21 ρ0 ρ1 ρ2 a b c d e f g h k * (1 - Complex.I * ρ1 * e) + relTh3_22 ρ0 ρ1 ρ2 a b c d e f g h k * (-(Complex.I * ρ2 * h)) = h) ∧
    (relTh3_20 ρ0 ρ1 ρ2 a b c d e f g h k * (-(Complex.I * ρ0 * c)) + relTh3_21 ρ0 ρ1 ρ2 a b c d e f g h k * (-(Complex.I * ρ1 * f)) + relTh3_22 ρ0 ρ1 ρ2 a b c d e f g h k * (1 - Complex.I * ρ2 * k) = k) := by
  refine ⟨?_, ?_, ?_⟩ <;>
  · simp only [relTh3_00, relTh3_01, relTh3_02, relTh3_10, relTh3_11, relTh3_12, relTh3_20, relTh3_21, relTh3_22]
    field_simp
    simp only [relT3_den1]
    grind only [Complex.I_sq]

/-- `T = (√ρ)* T̂ √ρ` entry by entry. -/
theorem relT3_eq (ρ0 ρ1 ρ2 a b c d e f g h k : ℂ) :
    relT3_00 ρ0 ρ1 ρ2 a b c d e f g h k = (starRingEnd ℂ) (ρ0 ^ ((1 : ℂ) / 2)) * relTh3_00 ρ0 ρ1 ρ2 a b c d e f g h k * ρ0 ^ ((1 : ℂ) / 2) ∧
    relT3_01 ρ0 ρ1 ρ2 a b c d e f g h k = (starRingEnd ℂ) (ρ0 ^ ((1 : ℂ) / 2)) * relTh3_01 ρ0 ρ1 ρ2 a b c d e f g h k * ρ1 ^ ((1 : ℂ) / 2) ∧
    relT3_02 ρ0 ρ1 ρ2 a b c d e f g h k = (starRingEnd ℂ) (ρ0 ^ ((1 : ℂ) / 2)) * relTh3_02 ρ0 ρ1 ρ2 a b c d e f g h k * ρ2 ^ ((1 : ℂ) / 2) ∧
    relT3_10 ρ0 ρ1 ρ2 a b c d e f g h k = (starRingEnd ℂ) (ρ1 ^ ((1 : ℂ) / 2)) * relTh3_10 ρ0 ρ1 ρ2 a b c d e f g h k * ρ0 ^ ((1 : ℂ) / 2) ∧
    relT3_11 ρ0 ρ1 ρ2 a b c d e f g h k = (starRingEnd ℂ) (ρ1 ^ ((1 : ℂ) / 2)) * relTh3_11 ρ0 ρ1 ρ2 a b c d e f g h k * ρ1 ^ ((1 : ℂ) / 2) ∧
    relT3_12 ρ0 ρ1 ρ2 a b c d e f g h k = (starRingEnd ℂ) (ρ1 ^ ((1 : ℂ) / 2)) * relTh3_12 ρ0 ρ1 ρ2 a b c d e f g h k * ρ2 ^ ((1 : ℂ) / 2) ∧
    relT3_20 ρ0 ρ1 ρ2 a b c d e f g h k = (starRingEnd ℂ) (ρ2 ^ ((1 : ℂ) / 2)) * relTh3_20 ρ0 ρ1 ρ2 a b c d e f g h k * ρ0 ^ ((1 : ℂ) / 2) ∧
    relT3_21 ρ0 ρ1 ρ2 a b c d e f g h k = (starRingEnd ℂ) (ρ2 ^ ((1 : ℂ) / 2)) * relTh3_21 ρ0 ρ1 ρ2 a b c d e f g h k * ρ1 ^ ((1 : ℂ) / 2) ∧
    relT3_22 ρ0 ρ1 ρ2 a b c d e f g h k = (starRingEnd ℂ) (ρ2 ^ ((1 : ℂ) / 2)) * relTh3_22 ρ0 ρ1 ρ2 a b c d e f g h k * ρ2 ^ ((1 : ℂ) / 2) := by
  refine ⟨?_, ?_, ?_, ?_, ?_, ?_, ?_, ?_, ?_⟩ <;>
  · simp only [relT3_00, relT3_01, relT3_02, relT3_10, relT3_11, relT3_12, relT3_20, relT3_21, relT3_22, relTh3_00, relTh3_01, relTh3_02, relTh3_10, relTh3_11, relTh3_12, relTh3_20, relTh3_21, relTh3_22]
    ring

noncomputable def nrT3M (K : Matrix (Fin 3) (Fin 3) ℂ) : Matrix (Fin 3) (Fin 3) ℂ :=
  !![nrT3_00 (K 0 0) (K 0 1) (K 0 2) (K 1 0) (K 1 1) (K 1 2) (K 2 0) (K 2 1) (K 2 2), nrT3_01 (K 0 0) (K 0 1) (K 0 2) (K 1 0) (K 1 1) (K 1 2) (K 2 0) (K 2 1) (K 2 2), nrT3_02 (K 0 0) (K 0 1) (K 0 2) (K 1 0) (K 1 1) (K 1 2) (K 2 0) (K 2 1) (K 2 2);
     nrT3_10 (K 0 0) (K 0 1) (K 0 2) (K 1 0) (K 1 1) (K 1 2) (K 2 0) (K 2 1) (K 2 2), nrT3_11 (K 0 0) (K 0 1) (K 0 2) (K 1 0) (K 1 1) (K 1 2) (K 2 0) (K 2 1) (K 2 2), nrT3_12 (K 0 0) (K 0 1) (K 0 2) (K 1 0) (K 1 1) (K 1 2) (K 2 0) (K 2 1) (K 2 2);
     nrT3_20 (K 0 0) (K 0 1) (K 0 2) (K 1 0) (K 1 1) (K 1 2) (K 2 0) (K 2 1) (K 2 2), nrT3_21 (K 0 0) (K 0 1) (K 0 2) (K 1 0) (K 1 1) (K 1 2) (K 2 0) (K 2 1) (K 2 2), nrT3_22 (K 0 0) (K 0 1) (K 0 2) (K 1 0) (K 1 1) (K 1 2) (K 2 0) (K 2 1) (K 2 2)]

noncomputable def relTh3M (ρ : Fin 3 → ℂ) (K : Matrix (Fin 3) (Fin 3) ℂ) : Matrix (Fin 3) (Fin 3) ℂ :=
  !![relTh3_00 (ρ 0) (ρ 1) (ρ 2) (K 0 0) (K 0 1) (K 0 2) (K 1 0) (K 1 1) (K 1 2) (K 2 0) (K 2 1) (K 2 2), relTh3_01 (ρ 0) (ρ 1) (ρ 2) (K 0 0) (K 0 1) (K 0 2) (K 1 0) (K 1 1) (K 1 2) (K 2 0) (K 2 1) (K 2 2), relTh3_02 (ρ 0) (ρ 1) (ρ 2) (K 0 0) (K 0 1) (K 0 2) (K 1 0) (K 1 1) (K 1 2) (K 2 0) (K 2 1) (K 2 2);
     relTh3_10 (ρ 0) (ρ 1) (ρ 2) (K 0 0) (K 0 1) (K 0 2) (K 1 0) (K 1 1) (K 1 2) (K 2 0) (K 2 1) (K 2 2), relTh3_11 (ρ 0) (ρ 1) (ρ 2) (K 0 0) (K 0 1) (K 0 2) (K 1 0) (K 1 1) (K 1 2) (K 2 0) (K 2 1) (K 2 2), relTh3_12 (ρ 0) (ρ 1) (ρ 2) (K 0 0) (K 0 1) (K 0 2) (K 1 0) (K 1 1) (K 1 2) (K 2 0) (K 2 1) (K 2 2);
     relTh3_20 (ρ 0) (ρ 1) (ρ 2) (K 0 0) (K 0 1) (K 0 2) (K 1 0) (K 1 1) (K 1 2) (K 2 0) (K 2 1) (K 2 2), relTh3_21 (ρ 0) (ρ 1) (ρ 2) (K 0 0) (K 0 1) (K 0 2) (K 1 0) (K 1 1) (K 1 2) (K 2 0) (K 2 1) (K 2 2), relTh3_22 (ρ 0) (ρ 1) (ρ 2) (K 0 0) (K 0 1) (K 0 2) (K 1 0) (K 1 1) (K 1 2) (K 2 0) (K 2 1) (K 2 2)]

noncomputable def relT3M (ρ : Fin 3 → ℂ) (K : Matrix (Fin 3) (Fin 3) ℂ) : Matrix (Fin 3) (Fin 3) ℂ :=
  !![relT3_00 (ρ 0) (ρ 1) (ρ 2) (K 0 0) (K 0 1) (K 0 2) (K 1 0) (K 1 1) (K 1 2) (K 2 0) (K 2 1) (K 2 2), relT3_01 (ρ 0) (ρ 1) (ρ 2) (K 0 0) (K 0 1) (K 0 2) (K 1 0) (K 1 1) (K 1 2) (K 2 0) (K 2 1) (K 2 2), relT3_02 (ρ 0) (ρ 1) (ρ 2) (K 0 0) (K 0 1) (K 0 2) (K 1 0) (K 1 1) (K 1 2) (K 2 0) (K 2 1) (K 2 2);
     relT3_10 (ρ 0) (ρ 1) (ρ 2) (K 0 0) (K 0 1) (K 0 2) (K 1 0) (K 1 1) (K 1 2) (K 2 0) (K 2 1) (K 2 2), relT3_11 (ρ 0) (ρ 1) (ρ 2) (K 0 0) (K 0 1) (K 0 2) (K 1 0) (K 1 1) (K 1 2) (K 2 0) (K 2 1) (K 2 2), relT3_12 (ρ 0) (ρ 1) (ρ 2) (K 0 0) (K 0 1) (K 0 2) (K 1 0) (K 1 1) (K 1 2) (K 2 0) (K 2 1) (K 2 2);
     relT3_20 (ρ 0) (ρ 1) (ρ 2) (K 0 0) (K 0 1) (K 0 2) (K 1 0) (K 1 1) (K 1 2) (K 2 0) (K 2 1) (K 2 2), relT3_21 (ρ 0) (ρ 1) (ρ 2) (K 0 0) (K 0 1) (K 0 2) (K 1 0) (K 1 1) (K 1 2) (K 2 0) (K 2 1) (K 2 2), relT3_22 (ρ 0) (ρ 1) (ρ 2) (K 0 0) (K 0 1) (K 0 2) (K 1 0) (K 1 1) (K 1 2) (K 2 0) (K 2 1) (K 2 2)]

/-- The denominators of the regenerated entries are `± i · det(1 − iK)`. -/
theorem nrT3_dens_ne (K : Matrix (Fin 3) (Fin 3) ℂ) (h : (D K).det ≠ 0) :
    nrT3_den1 (K 0 0) (K 0 1) (K 0 2) (K 1 0) (K 1 1) (K 1 2) (K 2 0) (K 2 1) (K 2 2) ≠ 0 ∧ nrT3_den2 (K 0 0) (K 0 1) (K 0 2) (K 1 0) (K 1 1) (K 1 2) (K 2 0) (K 2 1) (K 2 2) ≠ 0 := by
  rw [nrT3_den2_eq, nrT3_den1_eq_det]
  exact ⟨mul_ne_zero Complex.I_ne_zero h, neg_ne_zero.2 (mul_ne_zero Complex.I_ne_zero h)⟩

theorem relT3_den_ne (ρ : Fin 3 → ℂ) (K : Matrix (Fin 3) (Fin 3) ℂ)
    (h : (1 - Complex.I • (Matrix.diagonal ρ * K)).det ≠ 0) :
    relT3_den1 (ρ 0) (ρ 1) (ρ 2) (K 0 0) (K 0 1) (K 0 2) (K 1 0) (K 1 1) (K 1 2) (K 2 0) (K 2 1) (K 2 2) ≠ 0 := by
  rw [relT3_den1_eq_det]
  exact neg_ne_zero.2 (mul_ne_zero Complex.I_ne_zero h)

/-- The source's n = 3 entries ARE the abstract `K(1−iK)⁻¹` wherever `det(1−iK) ≠ 0`. -/
theorem nrT3M_eq_T (K : Matrix (Fin 3) (Fin 3) ℂ) (h : (D K).det ≠ 0) : nrT3M K = T K := by
  apply eq_mul_inv_of_mul_eq (isUnit_iff_ne_zero.2 h)
  obtain ⟨h1, h2⟩ := nrT3_dens_ne K h
  obtain ⟨e00, e01, e02⟩ := nrT3_solves_row0 _ _ _ _ _ _ _ _ _ h1 h2
  obtain ⟨e10, e11, e12⟩ := nrT3_solves_row1 _ _ _ _ _ _ _ _ _ h1 h2
  obtain ⟨e20, e21, e22⟩ := nrT3_solves_row2 _ _ _ _ _ _ _ _ _ h1 h2
  ext i j
  rw [Matrix.mul_apply, Fin.sum_univ_three]
  fin_cases i <;> fin_cases j <;>
    simp only [nrT3M, D_apply, Fin.zero_eta, Fin.mk_one, Fin.reduceFinMk, Matrix.of_apply,
      Matrix.cons_val_zero, Matrix.cons_val_one, Matrix.cons_val, Matrix.one_apply, Fin.reduceEq,
      if_true, if_false, zero_sub]
  exacts [e00, e01, e02, e10, e11, e12, e20, e21, e22]

theorem relTh3M_eq_That (ρ : Fin 3 → ℂ) (K : Matrix (Fin 3) (Fin 3) ℂ)
    (h : (1 - Complex.I • (Matrix.diagonal ρ * K)).det ≠ 0) :
    relTh3M ρ K = That (Matrix.diagonal ρ) K := by
  apply eq_mul_inv_of_mul_eq (isUnit_iff_ne_zero.2 h)
  have h1 := relT3_den_ne ρ K h
  obtain ⟨e00, e01, e02⟩ := relTh3_solves_row0 _ _ _ _ _ _ _ _ _ _ _ _ h1
  obtain ⟨e10, e11, e12⟩ := relTh3_solves_row1 _ _ _ _ _ _ _ _ _ _ _ _ h1
  obtain ⟨e20, e21, e22⟩ := relTh3_solves_row2 _ _ _ _ _ _ _ _ _ _ _ _ h1
  ext i j
  rw [Matrix.mul_apply, Fin.sum_univ_three]
  fin_cases i <;> fin_cases j <;>
    simp only [relTh3M, Fin.zero_eta, Fin.mk_one, Fin.reduceFinMk, Matrix.of_apply,
      Matrix.cons_val_zero, Matrix.cons_val_one, Matrix.cons_val, Matrix.sub_apply,
      Matrix.smul_apply, smul_eq_mul, Matrix.diagonal_mul, Matrix.one_apply, Fin.reduceEq, if_true,
      if_false, zero_sub]
  · linear_combination e00
  · linear_combination e01
  · linear_combination e02
  · linear_combination e10
  · linear_combination e11
  · linear_combination e12
  · linear_combination e20
  · linear_combination e21
  · linear_combination e22

theorem relT3M_eq_Trel (r : Fin 3 → ℝ) (hr : ∀ i, 0 < r i) (K : Matrix (Fin 3) (Fin 3) ℂ)
    (hK : K.IsHermitian) : relT3M (fun i => ((r i : ℝ) : ℂ)) K = Trel r K := by
  unfold Trel
  rw [← relTh3M_eq_That _ K (isUnit_iff_ne_zero.1 (isUnit_det_rel r hr hK))]
  obtain ⟨e00, e01, e02, e10, e11, e12, e20, e21, e22⟩ :=
    relT3_eq (r 0) (r 1) (r 2) (K 0 0) (K 0 1) (K 0 2) (K 1 0) (K 1 1) (K 1 2) (K 2 0) (K 2 1) (K 2 2)
  refine eq_sqrtDiag_conj r (fun i => (hr i).le) fun i j => ?_
  fin_cases i <;> fin_cases j <;>
    simp only [relT3M, relTh3M, Fin.zero_eta, Fin.mk_one, Fin.reduceFinMk, Matrix.of_apply,
      Matrix.cons_val_zero, Matrix.cons_val_one, Matrix.cons_val]
  exacts [e00, e01, e02, e10, e11, e12, e20, e21, e22]

/-- **n = 3: the regenerated T-matrices are unitary and symmetric** for real symmetric K (and positive ρ). -/
theorem nrT3M_unitary_symmetric (K : Matrix (Fin 3) (Fin 3) ℂ) (hK : K.IsHermitian) (hs : Kᵀ = K) :
    (1 + (2 * Complex.I) • nrT3M K)ᴴ * (1 + (2 * Complex.I) • nrT3M K) = 1
      ∧ (nrT3M K)ᵀ = nrT3M K :=
  unitary_symmetric_of_eq_T hK hs (nrT3M_eq_T K (isUnit_iff_ne_zero.1 (isUnit_det_D hK)))

theorem relT3M_unitary_symmetric (r : Fin 3 → ℝ) (hr : ∀ i, 0 < r i)
    (K : Matrix (Fin 3) (Fin 3) ℂ) (hK : K.IsHermitian) (hs : Kᵀ = K) :
    (1 + (2 * Complex.I) • relT3M (fun i => ((r i : ℝ) : ℂ)) K)ᴴ
        * (1 + (2 * Complex.I) • relT3M (fun i => ((r i : ℝ) : ℂ)) K) = 1
      ∧ (relT3M (fun i => ((r i : ℝ) : ℂ)) K)ᵀ = relT3M (fun i => ((r i : ℝ) : ℂ)) K :=
  unitary_symmetric_of_eq_Trel r hr hK hs (relT3M_eq_Trel r hr K hK)

end Ampverif.Props.C09N3
