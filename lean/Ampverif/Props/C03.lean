/-
C03 — parity partners carry exactly the parity sign of the flipped nodes.

* `Model/C03Parity.lean` is a line-by-line executable model of ampform's suffix generation, of the
  parity-partner registration loop and of `__generate_amplitude_prefactor`; it is compared with
  the working tree on every run (T2, `tools/props/C03.py`).
* `Gen/C03CG.lean` is the exact Clebsch–Gordan table of the installed SymPy for spins ≤ 3,
  regenerated on every run (T3).
-/
import Ampverif.Lemmas.C03Parity
import Ampverif.Lemmas.C03ParityRule
import Ampverif.Lemmas.C03CG
import Ampverif.Gen.C03CG

namespace Ampverif.Props.C03
open Ampverif.Model.C03 Ampverif.Lemmas.C03Parity

/-! ### the prefactor rule -/

/-- Under the sound rule the factor of EVERY chain (any number of nodes, any mapping, any flags)
is the product of `η` over exactly its mapped (helicity-flipped) nodes. -/
theorem C03_prefactor_is_flipped_product (v : Variant) (hs : v.sound) (f : Flags) (m : Mapping)
    (c : Chain) : prefactorVal v f m c = flippedProduct f m c :=
  prefactorVal_sound v hs f m c

/-- The registration loop of ANY reaction whose printed names are consistent (decidable
`partnerInjective`, evaluated by the harness on every case) produces a mapping in which a suffix
has at most one non-trivially mapped partner. -/
theorem C03_register_unique_partner (f : Flags) (ts : List Chain)
    (hwf : partnerInjective f ts.flatten = true) : UniquePartner (registerAll f ts) :=
  unique_of_inv f ts.flatten (wf_of_check f _ hwf) _ (inv_registerAll f ts (wf_of_check f _ hwf))

/-- **C03 (ratio).** For every reaction `ts` (any number of transitions and nodes, any spins, any
registration order), all naming flags, and any two chains `c₁ c₂` that get the same coefficient
symbol and have the same `η = ±1` node by node: the ratio of their prefactors is the product of
`η` over exactly the nodes at which the two chains differ. -/
theorem C03_ratio (v : Variant) (hs : v.sound) (f : Flags) (ts : List Chain)
    (hwf : partnerInjective f ts.flatten = true) (c₁ c₂ : Chain)
    (hc : compatible c₁ c₂ = true) (hsame : sameCoefficient f (registerAll f ts) c₁ c₂ = true) :
    (prefactorVal v f (registerAll f ts) c₁ : ℚ) / (prefactorVal v f (registerAll f ts) c₂ : ℚ)
      = (differingProduct f c₁ c₂ : ℚ) := by
  have hb := flippedProduct_sq_right f (registerAll f ts) c₁ c₂ hc
  rw [← prefactorVal_sound v hs] at hb
  have hb0 : (prefactorVal v f (registerAll f ts) c₂ : ℚ) ≠ 0 :=
    Int.cast_ne_zero.mpr fun h0 => by rw [h0] at hb; exact absurd hb (by decide)
  rw [ratio_of_unique v hs f _ (C03_register_unique_partner f ts hwf) c₁ c₂ hc hsame, Int.cast_mul,
    mul_div_cancel_left₀ _ hb0]

/-- multiplicative form over `ℤ` (no division). -/
theorem C03_ratio_int (v : Variant) (hs : v.sound) (f : Flags) (ts : List Chain)
    (hwf : partnerInjective f ts.flatten = true) (c₁ c₂ : Chain)
    (hc : compatible c₁ c₂ = true) (hsame : sameCoefficient f (registerAll f ts) c₁ c₂ = true) :
    prefactorVal v f (registerAll f ts) c₁
      = prefactorVal v f (registerAll f ts) c₂ * differingProduct f c₁ c₂ :=
  ratio_of_unique v hs f _ (C03_register_unique_partner f ts hwf) c₁ c₂ hc hsame

/-! ### the product runs over the NODES of the chain (multiplicities count) -/

/-- **C03 (ratio), three-switch rule.** As `C03_ratio_int`, for the rule the harness drives
(`Model/C03ParityRule.lean`): `sound` also demands one factor per flipped NODE. -/
theorem C03_ratio_rule (r : Rule) (hs : r.sound) (f : Flags) (ts : List Chain)
    (hwf : partnerInjective f ts.flatten = true) (c₁ c₂ : Chain)
    (hc : compatible c₁ c₂ = true) (hsame : sameCoefficient f (registerAll f ts) c₁ c₂ = true) :
    prefactorValR r f (registerAll f ts) c₁
      = prefactorValR r f (registerAll f ts) c₂ * differingProduct f c₁ c₂ := by
  rw [prefactorValR_sound r hs, prefactorValR_sound r hs,
    ← prefactorVal_sound r.v hs.1, ← prefactorVal_sound r.v hs.1]
  exact C03_ratio_int r.v hs.1 f ts hwf c₁ c₂ hc hsame

/-- Under the sound rule the factor of a chain is multiplicative over its list of nodes: any chain
`c₁ ++ c₂` (any lengths) gets the product of the factors of its two parts. -/
theorem C03_prefactor_append (r : Rule) (hs : r.sound) (f : Flags) (m : Mapping) (c₁ c₂ : Chain) :
    prefactorValR r f m (c₁ ++ c₂) = prefactorValR r f m c₁ * prefactorValR r f m c₂ := by
  simp only [prefactorValR_sound r hs]
  exact flippedProduct_append f m c₁ c₂

/-- **Multiplicity.** Under the sound rule a two-body decay `n` that occurs at `k` nodes of one chain
contributes its factor `k` times (`η^k` if it is a mapped partner): equal decays are NOT merged. -/
theorem C03_prefactor_multiplicity (r : Rule) (hs : r.sound) (f : Flags) (m : Mapping) (n : Node)
    (k : Nat) (c : Chain) :
    prefactorValR r f m (List.replicate k n ++ c)
      = (if isFlipped f m n then etaVal n else 1) ^ k * prefactorValR r f m c := by
  rw [C03_prefactor_append r hs, prefactorValR_sound r hs f m (List.replicate k n),
    flippedProduct_replicate]
  rfl

/-! ### witnesses for the unsound rules (replayable on the real code) -/

namespace Witness

def flags : Flags := ⟨false, true, false⟩

def jpsi : St := ⟨"J/psi(1S)", "J/\\psi(1S)", 2⟩
def sigmaBar (h : Int) : St := ⟨"Sigma(1750)~-", "\\overline{\\Sigma}(1750)^{-}", h⟩
def sigmaP (h : Int) : St := ⟨"Sigma+", "\\Sigma^{+}", h⟩
def k0 : St := ⟨"K0", "K^{0}", 0⟩
def pbar (h : Int) : St := ⟨"p~", "\\overline{p}", h⟩

/-- J/ψ → Σ̄(1750)⁻ Σ⁺, Σ̄ → K⁰ p̄ with helicities `(a, b; c)`; `η₀ = −1`, `η₁ = +1`. -/
def sigmaChain (a b c : Int) : Chain :=
  [⟨jpsi, sigmaP b, sigmaBar a, some (-1), none⟩, ⟨sigmaBar a, k0, pbar c, some 1, none⟩]

def chic1 : St := ⟨"chi(c1)(1P)", "\\chi_{c1}(1P)", 2⟩
def nBar (h : Int) : St := ⟨"N(1440)~-", "\\overline{N}(1440)^{-}", h⟩
def prot (h : Int) : St := ⟨"p", "p", h⟩
def pi0 : St := ⟨"pi0", "\\pi^{0}", 0⟩

/-- χc1 → N̄(1440)⁻ p, N̄ → π⁰ p̄ with helicities `(a, b; c)`; `η₀ = η₁ = −1`. -/
def nChain (a b c : Int) : Chain :=
  [⟨chic1, prot b, nBar a, some (-1), none⟩, ⟨nBar a, pbar c, pi0, some (-1), none⟩]

def chic0 : St := ⟨"chi(c0)(1P)", "\\chi_{c0}(1P)", 0⟩
def omega (h : Int) : St := ⟨"omega(782)", "\\omega(782)", h⟩
def gamma (h : Int) : St := ⟨"gamma", "\\gamma", h⟩

/-- χc0 → ω ω, ω → γ π⁰ (twice) with helicities `(h, h; g₀, g₁)`; `η₀ = +1`, `η₁ = η₂ = −1`
(corpus reaction `chic0_vv.hel.json`). -/
def vvChain (h g0 g1 : Int) : Chain :=
  [⟨chic0, omega h, omega h, some 1, none⟩, ⟨omega h, gamma g0, pi0, some (-1), none⟩,
   ⟨omega h, gamma g1, pi0, some (-1), none⟩]

end Witness

open Witness in
/-- The rule of the tree before ef9564d (product over ALL nodes): chain `(+½,+½;−½)` differs from
`(+½,+½;+½)` at node 1 only (`η₁ = +1`) but gets `−1`. -/
theorem C03_witness_all_nodes :
    let ts := [sigmaChain 1 1 1, sigmaChain 1 1 (-1)]
    let m := registerAll flags ts
    sameCoefficient flags m (sigmaChain 1 1 (-1)) (sigmaChain 1 1 1) = true
    ∧ compatible (sigmaChain 1 1 (-1)) (sigmaChain 1 1 1) = true
    ∧ differingProduct flags (sigmaChain 1 1 (-1)) (sigmaChain 1 1 1) = 1
    ∧ prefactorVal ⟨false, false⟩ flags m (sigmaChain 1 1 1) = 1
    ∧ prefactorVal ⟨false, false⟩ flags m (sigmaChain 1 1 (-1)) = -1 := by
  decide +kernel

open Witness in
/-- The guard of ef9564d (`get_prefactor(transition) != 1.0`): with `η₀ = η₁ = −1` the chain
`(+½,+½;−½)` differs from `(+½,+½;+½)` at node 1 only (`η₁ = −1`) but gets `+1`. -/
theorem C03_witness_guard :
    let ts := [nChain 1 1 1, nChain 1 1 (-1)]
    let m := registerAll flags ts
    sameCoefficient flags m (nChain 1 1 (-1)) (nChain 1 1 1) = true
    ∧ compatible (nChain 1 1 (-1)) (nChain 1 1 1) = true
    ∧ differingProduct flags (nChain 1 1 (-1)) (nChain 1 1 1) = -1
    ∧ prefactorVal ⟨true, false⟩ flags m (nChain 1 1 1) = 1
    ∧ prefactorVal ⟨true, false⟩ flags m (nChain 1 1 (-1)) = 1 := by
  decide +kernel

open Witness in
/-- A rule that collects the factors of the flipped nodes under their coefficient suffix (a dict) and
multiplies the dict values: the chain `(+1,+1;−1,−1)` differs from `(+1,+1;+1,+1)` at nodes 1 and 2, which
are the same two-body decay `ω → γ₋₁ π⁰` (`η = −1` each, product `+1`), but it gets `−1`. The sound
rule gives `+1` on the same input. -/
theorem C03_witness_suffix_keyed :
    let ts := [vvChain 2 2 2, vvChain 2 (-2) (-2)]
    let m := registerAll flags ts
    partnerInjective flags ts.flatten = true
    ∧ sameCoefficient flags m (vvChain 2 (-2) (-2)) (vvChain 2 2 2) = true
    ∧ compatible (vvChain 2 (-2) (-2)) (vvChain 2 2 2) = true
    ∧ differingProduct flags (vvChain 2 (-2) (-2)) (vvChain 2 2 2) = 1
    ∧ repeatedFlipped flags m (vvChain 2 (-2) (-2)) [] = 1
    ∧ prefactorValR ⟨⟨true, true⟩, false⟩ flags m (vvChain 2 2 2) = 1
    ∧ prefactorValR ⟨⟨true, true⟩, false⟩ flags m (vvChain 2 (-2) (-2)) = -1
    ∧ prefactorValR ⟨⟨true, true⟩, true⟩ flags m (vvChain 2 (-2) (-2)) = 1 := by
  decide +kernel

open Witness in
/-- Non-vacuity: the hypotheses of `C03_ratio` hold on the two-node J/ψ reaction (all 8 chains
of one initial helicity), and its conclusion is the non-trivial value `−1` for the chains
`(−½,−½;−½)` / `(+½,+½;−½)`… under the sound rule. -/
example :
    let ts := [sigmaChain (-1) (-1) (-1), sigmaChain 1 (-1) (-1), sigmaChain (-1) (-1) 1,
               sigmaChain 1 (-1) 1, sigmaChain (-1) 1 (-1), sigmaChain 1 1 (-1),
               sigmaChain (-1) 1 1, sigmaChain 1 1 1]
    partnerInjective flags ts.flatten = true
    ∧ sameCoefficient flags (registerAll flags ts) (sigmaChain (-1) (-1) (-1)) (sigmaChain 1 1 1) = true
    ∧ compatible (sigmaChain (-1) (-1) (-1)) (sigmaChain 1 1 1) = true
    ∧ differingProduct flags (sigmaChain (-1) (-1) (-1)) (sigmaChain 1 1 1) = -1
    ∧ prefactorVal ⟨true, true⟩ flags (registerAll flags ts) (sigmaChain (-1) (-1) (-1)) = -1
    ∧ prefactorVal ⟨true, true⟩ flags (registerAll flags ts) (sigmaChain 1 1 (-1)) = 1 := by
  decide +kernel

/-! ### Clebsch–Gordan parity symmetry (table-bounded: spins ≤ 3) -/

open Ampverif.Model.C03CG Ampverif.Lemmas.C03CG in
/-- The regenerated SymPy table passes the mirror check (kernel-evaluated). -/
theorem C03_cg_table_symmetric_partial : Ampverif.Gen.C03CG.table.symmetric = true :=
  symmetric_of_tableMirrorCheck _ (by decide +kernel)

open Ampverif.Model.C03CG Ampverif.Lemmas.C03CG in
/-- `⟨j₁ −m₁; j₂ −m₂ | J −M⟩ = (−1)^(j₁+j₂−J) ⟨j₁ m₁; j₂ m₂ | J M⟩` for every entry of SymPy's
table with `j₁, j₂ ≤ 3` (arguments doubled; `cg` reads 0 outside the table, so the statement is
only informative within the bound — hence `_partial`). -/
theorem C03_cg_parity_partial (j1 : Nat) (m1 : Int) (j2 : Nat) (m2 : Int) (J : Nat) (M : Int)
    (_hb : j1 ≤ Ampverif.Gen.C03CG.maxSpin2 ∧ j2 ≤ Ampverif.Gen.C03CG.maxSpin2) :
    cg Ampverif.Gen.C03CG.table j1 (-m1) j2 (-m2) J (-M)
      = (phase ((j1 : Int) + (j2 : Int) - (J : Int)) : ℝ) * cg Ampverif.Gen.C03CG.table j1 m1 j2 m2 J M :=
  cg_flip _ C03_cg_table_symmetric_partial j1 m1 j2 m2 J M

open Ampverif.Model.C03CG Ampverif.Lemmas.C03CG in
/-- **The "equivalently" clause.** Helicity couplings obtained from ANY LS coefficients by the
expansion ampform's canonical builder writes,
`F_{λ₁λ₂} = Σ_{LS} a_{LS} ⟨L 0; S δ | J δ⟩ ⟨s₁ λ₁; s₂ −λ₂ | S δ⟩`, with all `L` of the parity
`(−1)^L = P·P₁·P₂ =: PP`, satisfy `F_{−λ₁,−λ₂} = η · F_{λ₁λ₂}` with `η = PP·(−1)^(s₁+s₂−J)`
(`= P P₁ P₂ (−1)^(J−s₁−s₂)`), for SymPy's CG values; `_partial`: `L, S, s₁ ≤ 3` (table bound). -/
theorem C03_helicity_coupling_parity_partial (J s1 s2 : Nat) (PP : Int) (terms : List LSTerm)
    (_hb : s1 ≤ Ampverif.Gen.C03CG.maxSpin2 ∧ s2 ≤ Ampverif.Gen.C03CG.maxSpin2
      ∧ ∀ x ∈ terms, x.L ≤ Ampverif.Gen.C03CG.maxSpin2 ∧ x.S ≤ Ampverif.Gen.C03CG.maxSpin2)
    (hL : ∀ x ∈ terms, phase (x.L : Int) = PP ∧ (x.L : Int) % 2 = 0
      ∧ ((x.L : Int) + (x.S : Int) - (J : Int)) % 2 = 0
      ∧ ((s1 : Int) + (s2 : Int) - (x.S : Int)) % 2 = 0)
    (l1 l2 : Int) :
    coupling Ampverif.Gen.C03CG.table J s1 s2 terms (-l1) (-l2)
      = ((PP * phase ((s1 : Int) + (s2 : Int) - (J : Int)) : Int) : ℂ)
          * coupling Ampverif.Gen.C03CG.table J s1 s2 terms l1 l2 :=
  couplingF_flip _ (cg_flip _ C03_cg_table_symmetric_partial) J s1 s2 PP terms hL l1 l2

/-- The full-strength statement of the CG symmetry: ALL spins, CG given by Racah's closed formula
`Lemmas.C03CG.racah` (the formula SymPy's `clebsch_gordan` implements:
`C03Racah.C03_racah_is_sympy_cg_partial` evaluates it in the kernel and finds the regenerated
table, exactly, on every key with spins ≤ 3). -/
def C03_cg_parity_full_statement : Prop :=
  ∀ (j1 : Nat) (m1 : Int) (j2 : Nat) (m2 : Int) (J : Nat) (M : Int),
    Ampverif.Lemmas.C03CG.racah j1 (-m1) j2 (-m2) J (-M)
      = (Ampverif.Model.C03CG.phase ((j1 : Int) + (j2 : Int) - (J : Int)) : ℝ)
          * Ampverif.Lemmas.C03CG.racah j1 m1 j2 m2 J M

/-- **The mirror symmetry for ALL spins** (Racah's formula; reflection `k ↦ j₁+j₂−J−k` of the sum). -/
theorem C03_cg_parity_all_spins : C03_cg_parity_full_statement :=
  Ampverif.Lemmas.C03CG.racah_flip

open Ampverif.Model.C03CG Ampverif.Lemmas.C03CG in
/-- **The "equivalently" clause for ALL spins**, with the CG values of Racah's formula: helicity
couplings expanded from ANY LS coefficients with `(−1)^L = P·P₁·P₂` satisfy
`F_{−λ₁,−λ₂} = η F_{λ₁λ₂}`, `η = P P₁ P₂ (−1)^(s₁+s₂−J)`. -/
theorem C03_helicity_coupling_parity_all_spins (J s1 s2 : Nat) (PP : Int) (terms : List LSTerm)
    (hL : ∀ x ∈ terms, phase (x.L : Int) = PP ∧ (x.L : Int) % 2 = 0
      ∧ ((x.L : Int) + (x.S : Int) - (J : Int)) % 2 = 0
      ∧ ((s1 : Int) + (s2 : Int) - (x.S : Int)) % 2 = 0)
    (l1 l2 : Int) :
    couplingF racah J s1 s2 terms (-l1) (-l2)
      = ((PP * phase ((s1 : Int) + (s2 : Int) - (J : Int)) : Int) : ℂ)
          * couplingF racah J s1 s2 terms l1 l2 :=
  couplingF_flip racah racah_flip J s1 s2 PP terms hL l1 l2

/-- Non-vacuity of the table: `⟨½ ½; ½ −½ | 0 0⟩ = +√(1/2)` and its mirror `−√(1/2)`. -/
example :
    Ampverif.Gen.C03CG.table.get ⟨1, 1, 1, -1, 0, 0⟩ = ⟨1, 1, 2⟩
    ∧ Ampverif.Gen.C03CG.table.get ⟨1, -1, 1, 1, 0, 0⟩ = ⟨-1, 1, 2⟩
    ∧ Ampverif.Gen.C03CG.table.size = 2408 := by
  decide +kernel

end Ampverif.Props.C03
