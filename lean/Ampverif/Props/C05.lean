/-
C05 — spin alignment never changes a single-topology intensity.

The models are
`Model/C05Spin.lean` (`create_spin_range`) and `Model/C05Align.lean` (skeletons of the aligned
amplitude); `Gen/C05Wigner.lean` is regenerated from the installed SymPy.
-/
import Ampverif.Lemmas.C05Range
import Ampverif.Lemmas.C05Wiring
import Ampverif.Lemmas.C05Unitary
import Ampverif.Lemmas.C05Tensor
import Ampverif.Lemmas.C05Model
import Ampverif.Lemmas.C05Wigner
import Ampverif.Lemmas.C05Pools

namespace Ampverif.Props.C05
open Ampverif.Model.C05Spin Ampverif.Model.C05Align
open Ampverif.Lemmas.C05Wiring Ampverif.Lemmas.C05Unitary Ampverif.Lemmas.C05Model
open Ampverif.Lemmas.C05Range Ampverif.Lemmas.C05Wigner Ampverif.Lemmas.C05Tensor
open Ampverif.Gen.C05Wigner

/-! ### `create_spin_range`: total, and exactly `-s, -s+1, …, s` (minus 0 iff asked for and present) -/

/-- For the repaired guard (6cd7ef9) and EVERY spin `s = s2/2`, every flag: the call returns
(no exception, the `while` loop ends by its own condition) the list `-s, …, s` in unit steps,
without `0` iff `no_zero_spin` and `s` is a positive integer. -/
theorem C05_range (v : Variant) (hv : v.sound) (s2 : ℕ) (flag : Bool) :
    spinRange v (s2 : ℤ) flag = .ok (specRange s2 flag) :=
  spinRange_sound v hv s2 flag

/-- … in particular the pool is the complete range unless the particle is a massless boson. -/
theorem C05_range_complete (v : Variant) (hv : v.sound) (s2 : ℕ) (flag : Bool)
    (h : ¬ (flag = true ∧ s2 % 2 = 0 ∧ 0 < s2)) :
    spinRange v (s2 : ℤ) flag = .ok (fullRange s2) := by
  rw [spinRange_sound v hv, specRange_full s2 flag h]

/-- The pinned guard (`len > 1` only) raises `ValueError` for spin 1/2 with `no_zero_spin`:
the massless spin-1/2 final state of the property statement. Replayable on the real function. -/
theorem C05_witness_range_pinned : spinRange pinned 1 true = .valueError := by decide

/-- … and for every half-integer spin. -/
theorem C05_witness_range_pinned_all (k : ℕ) : spinRange pinned ((2 * k + 1 : ℕ) : ℤ) true = .valueError := by
  unfold spinRange
  rw [loop_full]
  have hmem : (0 : ℤ) ∉ fullRange (2 * k + 1) := fun h => by
    have := (zero_mem_fullRange (2 * k + 1)).mp h; omega
  simp [pinned, length_fullRange, pyRemove_eq, hmem]

example : spinRange fixed 2 true = .ok [-2, 2] := by decide
example : spinRange fixed 1 true = .ok [-1, 1] := by decide
example : spinRange fixed 5 false = .ok [-5, -3, -1, 1, 3, 5] := by decide
example : spinRange fixed 0 true = .ok [0] := by decide

/-! ### unitary product: `Σ_m |Σ_λ Πᵢ Uᵢ(mᵢ,λᵢ) A_λ|² = Σ_λ |A_λ|²` -/

/-- Mathlib form: any finite family of states `ι`, any finite index types `d i`, unitary `U i`. -/
theorem C05_unitary_product {ι : Type*} [Fintype ι] [DecidableEq ι] {d : ι → Type*}
    [∀ i, Fintype (d i)] [∀ i, DecidableEq (d i)]
    (U : ∀ i, Matrix (d i) (d i) ℂ) (hU : ∀ i, U i ∈ Matrix.unitaryGroup (d i) ℂ)
    (A : (∀ i, d i) → ℂ) :
    ∑ m : (∀ i, d i), Complex.normSq (∑ l : (∀ i, d i), (∏ i, U i (m i) (l i)) * A l)
      = ∑ l : (∀ i, d i), Complex.normSq (A l) := by
  have h := unitary_normSq (tensor U) (tensor_mem_unitary U hU) A
  simpa [Matrix.mulVec, dotProduct, tensor] using h

/-- List form used for the skeletons: one chain matrix per state, applied state by state, pools
as lists of doubled projections. Any number of states, any pools without duplicates. -/
theorem C05_unitary_product_lists (D : ℕ → Angle → ℤ → ℤ → ℂ) (specs : List Spec)
    (hnd : (specs.map Spec.state).Nodup) (hiso : ∀ s ∈ specs, SpecIso D s)
    (A : List ℤ → ℂ) (env : Env) :
    psum (flatten specs).outer (fun e => Complex.normSq (alignedS D specs A e)) env
      = totalNorm (specs.map specPool) A :=
  alignedS_norm D specs hnd hiso A env

/-! ### wiring: the flat skeleton IS the product of per-state chain matrices -/

/-- For every list of per-state descriptions (any number of states, any chain lengths), every
interpretation `D` of the Wigner factors, every amplitude tensor and every commutative semiring:
the inner `PoolSum` over the named indices of the flat skeleton equals the state-by-state
contraction of `A` with the chain matrices; a negated amplitude index is the index permutation
`λ ↦ -λ`. -/
theorem C05_wiring {R : Type*} [CommSemiring R] (D : ℕ → Angle → ℤ → ℤ → R) (specs : List Spec)
    (hnd : (specs.map Spec.state).Nodup) (A : List ℤ → R) (env : Env) :
    amplitude D A (flatten specs) env = alignedS D specs A env :=
  wiring D specs hnd A env

/-! ### Wigner small-d from the installed SymPy: `d dᵀ = 1` and `dᵀ d = 1` for j ≤ 5/2 -/

theorem C05_d_unitary (j2 : ℕ) (hj : j2 ≤ 5) (β : ℝ) (a b : ℕ) (ha : a ≤ j2) (hb : b ≤ j2) :
    (∑ k ∈ Finset.range (j2 + 1),
        dtab j2 (Real.cos (β / 2)) (Real.sin (β / 2)) (Real.sqrt 2) (Real.sqrt 3) (Real.sqrt 5) a k
        * dtab j2 (Real.cos (β / 2)) (Real.sin (β / 2)) (Real.sqrt 2) (Real.sqrt 3) (Real.sqrt 5) b k
      = if a = b then 1 else 0)
    ∧ (∑ k ∈ Finset.range (j2 + 1),
        dtab j2 (Real.cos (β / 2)) (Real.sin (β / 2)) (Real.sqrt 2) (Real.sqrt 3) (Real.sqrt 5) k a
        * dtab j2 (Real.cos (β / 2)) (Real.sin (β / 2)) (Real.sqrt 2) (Real.sqrt 3) (Real.sqrt 5) k b
      = if a = b then 1 else 0) :=
  ⟨dAt_row j2 hj β a b (by omega) (by omega), dAt_col j2 hj β a b (by omega) (by omega)⟩

/-- `D^j(α,β,γ) = e^{-imα} d^j(β) e^{-im'γ}` is unitary on the complete range, j ≤ 5/2, all real angles. -/
theorem C05_D_unitary (j2 : ℕ) (hj : j2 ≤ 5) (α β γ : ℝ) :
    PoolIso (fullRange j2) (Dmat j2 α β γ) ∧ PoolIso (fullRange j2) (fun m m' => Dmat j2 α β γ m' m) :=
  ⟨Dmat_iso j2 hj α β γ, Dmat_iso_transpose j2 hj α β γ⟩

example : dtab 1 1 0 0 0 0 0 0 = 1 := by simp [dtab, d1]

/-! ### the three alignments have the same intensity (skeleton level) -/

/-- **Axis-angle.** For every topology, every list of outer states with distinct edge ids and
complete helicity sets, none of them a massless boson, every interpretation of the Wigner factors
that is unitary on complete ranges, every amplitude tensor: the axis-angle skeleton and the
unaligned skeleton have the same intensity. -/
theorem C05_axis_invariant (D : ℕ → Angle → ℤ → ℤ → ℂ) {ok : ℕ → Prop} (hD : DUnitary ok D)
    (v : Variant) (hv : v.sound) (t : Tree) (states : List StateInfo) (specs : List Spec)
    (hids : (states.map StateInfo.e).Nodup)
    (hst : ∀ s ∈ states, ok s.s2 ∧ Complete s ∧ ¬ MasslessBoson s)
    (h : axisSpecs v t states = some specs) (A : List ℤ → ℂ) (env : Env) :
    intensity D A (flatten specs) env = intensity D A (flatten (noneSpecs states)) env :=
  intensity_invariant D hids (axisSpecs_iso D hD v hv t states specs hst h) A env

/-- **Dalitz-plot decomposition**, any reference subsystem: same statement (massless particles
are not special here; the hypothesis is completeness of the helicity sets). -/
theorem C05_dpd_invariant (D : ℕ → Angle → ℤ → ℤ → ℂ) {ok : ℕ → Prop} (hD : DUnitary ok D)
    (ref : ℤ) (t : Tree) (states : List StateInfo) (specs : List Spec)
    (hids : (states.map StateInfo.e).Nodup) (hst : ∀ s ∈ states, ok s.s2 ∧ Complete s)
    (h : dpdSpecs ref t states = some specs) (A : List ℤ → ℂ) (env : Env) :
    intensity D A (flatten specs) env = intensity D A (flatten (noneSpecs states)) env :=
  intensity_invariant D hids (dpdSpecs_iso D hD ref t states specs hst h) A env

/-- the Wigner functions built from the regenerated tables, for any assignment of real Euler
angles to the rotations of the skeleton -/
noncomputable def wignerD (ang : Angle → ℝ × ℝ × ℝ) (j2 : ℕ) (a : Angle) : ℤ → ℤ → ℂ :=
  Dmat j2 (ang a).1 (ang a).2.1 (ang a).2.2

theorem wignerD_unitary (ang : Angle → ℝ × ℝ × ℝ) : DUnitary (· ≤ 5) (wignerD ang) :=
  fun j2 _ hj => C05_D_unitary j2 hj _ _ _

/-- **Axis-angle with the actual Wigner-D functions, spins ≤ 5/2, all angles.** No hypothesis on
`D` is left: the only input from outside Lean is that the skeleton is the one the code builds
(correspondence run) and that `Dmat` is what SymPy's `Rotation.D` evaluates to. -/
theorem C05_axis_invariant_wigner (ang : Angle → ℝ × ℝ × ℝ)
    (v : Variant) (hv : v.sound) (t : Tree) (states : List StateInfo) (specs : List Spec)
    (hids : (states.map StateInfo.e).Nodup)
    (hst : ∀ s ∈ states, s.s2 ≤ 5 ∧ Complete s ∧ ¬ MasslessBoson s)
    (h : axisSpecs v t states = some specs) (A : List ℤ → ℂ) (env : Env) :
    intensity (wignerD ang) A (flatten specs) env
      = intensity (wignerD ang) A (flatten (noneSpecs states)) env :=
  C05_axis_invariant (wignerD ang) (wignerD_unitary ang) v hv t states specs hids hst h A env

theorem C05_dpd_invariant_wigner (ang : Angle → ℝ × ℝ × ℝ)
    (ref : ℤ) (t : Tree) (states : List StateInfo) (specs : List Spec)
    (hids : (states.map StateInfo.e).Nodup) (hst : ∀ s ∈ states, s.s2 ≤ 5 ∧ Complete s)
    (h : dpdSpecs ref t states = some specs) (A : List ℤ → ℂ) (env : Env) :
    intensity (wignerD ang) A (flatten specs) env
      = intensity (wignerD ang) A (flatten (noneSpecs states)) env :=
  C05_dpd_invariant (wignerD ang) (wignerD_unitary ang) ref t states specs hids hst h A env

/-! ### the pools of the DPD-aligned amplitude are the reaction's helicity sets -/

/-- For every topology, reference subsystem and list of outer states: the inner sums of the
DPD skeleton run, state by state, over the helicities that occur in the reaction, and so does the
outer incoherent sum. The aligned amplitude therefore depends on the helicity sets, not only on
topology, particles and reference subsystem (the correspondence run drives the real
`_formulate_aligned_amplitude` through histories of reactions that differ in nothing else). -/
theorem C05_dpd_pools (ref : ℤ) (t : Tree) (states : List StateInfo) (specs : List Spec)
    (h : dpdSpecs ref t states = some specs) :
    (flatten specs).sums = states.map (fun s => (Var.inner 0 s.e, s.observed)) ∧
    (flatten specs).outer = states.map (fun s => (Var.outer s.e, s.observed)) :=
  ⟨Ampverif.Lemmas.C05Pools.dpd_sums ref t states specs h,
   Ampverif.Lemmas.C05Pools.dpd_outer ref t states specs h⟩

/-- Two reactions whose DPD skeletons have the same summed pools — whatever their topologies,
spins and reference subsystems — have the same helicity sets, state by state. Contrapositive: an
aligned amplitude formulated for one helicity set is never the aligned amplitude of another. -/
theorem C05_dpd_helicity_sets_injective (ref ref' : ℤ) (t t' : Tree)
    (states states' : List StateInfo) (specs specs' : List Spec)
    (h : dpdSpecs ref t states = some specs) (h' : dpdSpecs ref' t' states' = some specs')
    (heq : (flatten specs).sums = (flatten specs').sums) :
    states.map (fun s => (s.e, s.observed)) = states'.map (fun s => (s.e, s.observed)) := by
  open Ampverif.Lemmas.C05Pools Ampverif.Lemmas.C05Spec in
  rw [dpd_sums ref t states specs h, dpd_sums ref' t' states' specs' h'] at heq
  have := congrArg (List.map fun p : Var × List Int => (varState p.1, p.2)) heq
  simpa [List.map_map, Function.comp_def, varState] using this

/-- non-vacuity: J/psi (spin 1) → three pseudoscalars, J/psi from e⁺e⁻ (helicities −1, +1) vs.
unpolarised (−1, 0, +1): same topology, same particles, same reference — different sums -/
example :
    (dpdSpecs 1 (.node 0 (.node 4 (.leaf 1) (.leaf 2)) (.leaf 3))
        [⟨0, 2, false, [-2, 2]⟩, ⟨1, 0, false, [0]⟩, ⟨2, 0, false, [0]⟩, ⟨3, 0, false, [0]⟩]).map
        (fun s => (flatten s).sums)
      ≠ (dpdSpecs 1 (.node 0 (.node 4 (.leaf 1) (.leaf 2)) (.leaf 3))
        [⟨0, 2, false, [-2, 0, 2]⟩, ⟨1, 0, false, [0]⟩, ⟨2, 0, false, [0]⟩, ⟨3, 0, false, [0]⟩]).map
        (fun s => (flatten s).sums) := by decide

/-! ### formulating succeeds -/

/-- With the repaired `create_spin_range`, the rotation chain of EVERY final state below the
initial edge is formulated (no exception), whatever its spin and mass. -/
theorem C05_axis_formulates (v : Variant) (hv : v.sound) (t : Tree) (s : StateInfo)
    (path : List Tree) (hp : pathTo t s.e = some path) (hlen : 2 ≤ path.length) :
    (axisChain v t s).isSome = true := by
  unfold axisChain
  rw [hp, spinRange_sound v hv]
  simp only
  match path, hlen with
  | p :: q :: rest, _ =>
    have : rotationsAlong (p :: q :: rest) ≠ [] := by simp [rotationsAlong]
    split
    · rename_i h; exact absurd h this
    · rfl

/-- J/ψ → ν K π-like skeleton with a massless spin-1/2 final state: the pinned guard makes the
axis-angle formulation fail, the repaired one formulates it. -/
def witnessTree : Tree := .node (-1) (.leaf 0) (.node 3 (.leaf 1) (.leaf 2))

def masslessFermionStates : List StateInfo :=
  [⟨-1, 1, false, [-1, 1]⟩, ⟨0, 1, true, [-1, 1]⟩, ⟨1, 0, false, [0]⟩, ⟨2, 0, false, [0]⟩]

theorem C05_witness_formulate_pinned : axisSpecs pinned witnessTree masslessFermionStates = none := by
  decide

example : (axisSpecs fixed witnessTree masslessFermionStates).isSome = true := by decide

/-! ### the excluded point: a massless boson under axis-angle (known finding) -/

/-- J/ψ[-1,0,1] → γ π⁰ π⁰: the photon pool is `{-1,+1}` (doubled `[-2, 2]`). -/
def photonStates : List StateInfo :=
  [⟨-1, 2, false, [-2, 0, 2]⟩, ⟨0, 2, true, [-2, 2]⟩, ⟨1, 0, false, [0]⟩, ⟨2, 0, false, [0]⟩]

/-- an integer rotation by 90° in the (0, +1) plane of spin 1 (orthogonal), identity for spin 0 -/
def rotZ : ℕ → Angle → ℤ → ℤ → ℤ
  | 2, _, m, m' =>
    if m = -2 ∧ m' = -2 then 1 else if m = 0 ∧ m' = 2 then -1 else if m = 2 ∧ m' = 0 then 1 else 0
  | _, _, m, m' => if m = m' then 1 else 0

/-- amplitude tensor with the single entry `A[0, +1, 0, 0] = 1` -/
def deltaAmp : List ℤ → ℤ
  | [0, 2, 0, 0] => 1
  | _ => 0

/-- intensity over ℤ (squares instead of squared moduli; `rotZ` and `deltaAmp` are real) -/
def intensityZ (D : ℕ → Angle → ℤ → ℤ → ℤ) (A : List ℤ → ℤ) (sk : Skeleton) (env : Env) : ℤ :=
  psum sk.outer (fun e => (amplitude D A sk e) ^ 2) env

/-- `rotZ 2` is orthogonal on the COMPLETE range … -/
theorem rotZ_orthogonal : ∀ l ∈ fullRange 2, ∀ l' ∈ fullRange 2,
    ((fullRange 2).map fun m => rotZ 2 (.hel 0) m l * rotZ 2 (.hel 0) m l').sum = if l = l' then 1 else 0 := by
  decide

/-- … but on the photon pool `{-1,+1}` the aligned intensity is 0 while the unaligned one is 1:
with an incomplete pool a rotation that mixes in the projection 0 does not preserve the
intensity. (Real code: 49 % at J/ψ → γ π⁰ π⁰ under `AxisAngleAlignment`.) -/
theorem C05_witness_massless :
    ∃ specs, axisSpecs fixed witnessTree photonStates = some specs ∧
      intensityZ rotZ deltaAmp (flatten specs) (fun _ => 0) = 0 ∧
      intensityZ rotZ deltaAmp (flatten (noneSpecs photonStates)) (fun _ => 0) = 1 := by
  refine ⟨_, rfl, ?_, ?_⟩ <;> decide

end Ampverif.Props.C05
