/-
C03 — the object of the all-spin Clebsch–Gordan mirror theorem (`Lemmas.C03CG.racah`, Racah's closed
formula) IS the coefficient SymPy computes, exactly, on the whole regenerated table.

Without this tie `C03_cg_parity_all_spins` would be a theorem about a formula whose relation to the
library's `CG(...)` values is only a numeric 1e-12 comparison of a Python transcription. Here the Lean
definition itself is brought to exact arithmetic (`racah = sign·√(A·B·S²)` over ℚ, `racah_eq_exact`,
ALL arguments; over a common denominator an equation between integers, `racah_eq_of_certifies`),
evaluated in the kernel and compared with the table regenerated from the installed SymPy on every
admissible key with `2j₁, 2j₂ ≤ 6` — 49 blocks, every `(m₁, m₂, J)`, absent keys read as 0.
-/
import Ampverif.Lemmas.C03RacahBlocks

namespace Ampverif.Props.C03Racah
open Ampverif.Model.C03CG Ampverif.Lemmas.C03CG Ampverif.Gen.C03CG

/-- **Racah's formula, exactly** (all arguments): `racah = sign · √sq` with the executable rational
`racahSign`, `racahSq`. -/
theorem C03_racah_exact (j1 : Nat) (m1 : Int) (j2 : Nat) (m2 : Int) (J : Nat) (M : Int) :
    racah j1 m1 j2 m2 J M
      = ((racahSign j1 m1 j2 m2 J M : Int) : ℝ) * Real.sqrt ((racahSq j1 m1 j2 m2 J M : ℚ) : ℝ) :=
  racah_eq_exact j1 m1 j2 m2 J M

/-- **Racah's formula = SymPy's Clebsch–Gordan table** on every admissible key within the table's spin
bound (`2j₁, 2j₂ ≤ maxSpin2`): `m₁ = 2a − j₁ (a ≤ j₁)`, `m₂ = 2b − j₂ (b ≤ j₂)`,
`J = |j₁−j₂| + 2c (c ≤ min j₁ j₂)`, `M = m₁ + m₂` (everything doubled). Table-bounded (`_partial` in
the spin bound only). -/
theorem C03_racah_is_sympy_cg_partial (j1 j2 a b c : Nat) (h1 : j1 ≤ maxSpin2) (h2 : j2 ≤ maxSpin2)
    (ha : a ≤ j1) (hb : b ≤ j2) (hc : c ≤ min j1 j2) :
    racah j1 (2 * (a : Int) - j1) j2 (2 * (b : Int) - j2) ((max j1 j2 - min j1 j2) + 2 * c)
        ((2 * (a : Int) - j1) + (2 * (b : Int) - j2))
      = cg table j1 (2 * (a : Int) - j1) j2 (2 * (b : Int) - j2) ((max j1 j2 - min j1 j2) + 2 * c)
          ((2 * (a : Int) - j1) + (2 * (b : Int) - j2)) :=
  Ampverif.Lemmas.C03RacahBlocks.racah_eq_cg table maxSpin2 Ampverif.Lemmas.C03RacahBlocks.table_isRacah
    j1 j2 a b c h1 h2 ha hb hc

/-- Non-vacuity: `⟨1 0; 1 0 | 2 0⟩ = √(2/3)` (doubled arguments `2,0,2,0,4,0`) read from the table and
reproduced by the formula's exact twin. -/
example :
    table.get ⟨2, 0, 2, 0, 4, 0⟩ = ⟨1, 2, 3⟩
    ∧ racahSign 2 0 2 0 4 0 = 1 ∧ racahSq 2 0 2 0 4 0 = 2 / 3 := by
  decide +kernel

end Ampverif.Props.C03Racah
