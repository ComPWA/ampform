/-
C14 — unevaluated expressions obey substitution, equality and folding laws.

Generic theorems about the decorator model (`Ampverif.Model`: `__new__`, `_get_arguments`,
`_hashable_content`, `_xreplace_method`, `_eval_subs_method`, `evaluate` through class templates)
for EVERY well-formed class table, plus the proof that the table REGENERATED from the working
tree (`Ampverif.Gen.C14.classTable`, every class produced by `@unevaluated` in the package) is
well-formed. `v.sound` = `_get_arguments` is shallow (1c47dce) and PoolSum protects bound indices.
-/
import Ampverif.Lemmas.C14Keys
import Ampverif.Gen.C14Table

namespace Ampverif.Props.C14
open Ampverif.Model Ampverif.Lemmas.C14 Ampverif.Lemmas.C18

/-! ### 0. the regenerated class table is well-formed -/

/-- Every class found in the package today: placeholders match the SymPy fields, templates are
closed over placeholders and private dummies, contain no pool sum, defaults have the kind of their
field, class names are unique. Re-checked by the kernel against the regenerated table on every run. -/
theorem classTable_wf : wfTable Ampverif.Gen.C14.classTable = true :=
  wfTable_of_keys (by decide +kernel)

/-! ### 1. substitution commutes with unfolding -/

/-- `expr.xreplace(σ)` then `evaluate()` equals `evaluate()` then `xreplace(σ)`: for every
well-formed table, every class in it (or not in it), arbitrary arguments — nested unevaluated
instances and non-SymPy attributes included —, every replacement map that does not touch the
private dummies of `evaluate`. -/
theorem unfold_xreplace_commute (tbl : ClassTable) (hw : wfTable tbl = true) (v : Variant)
    (hv : v.sound) (c : String) (es : List Expr) (t : List Attr) (σ : List (Sym × Expr))
    (harity : ∀ ci, tbl.find c = some ci → es.length = ci.nSympy)
    (hlocals : ∀ ci, tbl.find c = some ci → ∀ s ∈ ci.locals, lookup σ s = none) :
    unfold v tbl (xreplace v (.node c es t) σ) = xreplace v (unfold v tbl (.node c es t)) σ := by
  rw [xreplace_node hv]
  by_cases h : ∃ ci T, tbl.find c = some ci ∧ ci.implementDoit = true ∧ templateFor ci t = some T
  · obtain ⟨ci, T, hf, hd, hT⟩ := h
    obtain ⟨hlen, hnp, hsyms⟩ := wfTable_template tbl hw c ci hf t T hT
    rw [unfold_node_of_template hf hd hT, unfold_node_of_template hf hd hT, xreplace_comp v hv _ σ T hnp,
      zip_map_snd ci.placeholders (fun e => xreplace v e σ) es, xreplaceList_eq_map]
    intro s hs hnone
    rcases hsyms s hs with hp | hl
    · obtain ⟨a, ha⟩ := lookup_zip_some ci.placeholders es s hp (Nat.le_of_eq (hlen.trans (harity ci hf).symm))
      rw [ha] at hnone
      cases hnone
    · exact hlocals ci hf s hl
  · rw [unfold_node_of_no_template h, unfold_node_of_no_template h, xreplace_node hv]

/-- the same for `subs(x, a)`. -/
theorem unfold_subs_commute (tbl : ClassTable) (hw : wfTable tbl = true) (v : Variant)
    (hv : v.sound) (c : String) (es : List Expr) (t : List Attr) (x : Sym) (a : Expr)
    (harity : ∀ ci, tbl.find c = some ci → es.length = ci.nSympy)
    (hlocals : ∀ ci, tbl.find c = some ci → x ∉ ci.locals) :
    unfold v tbl (subst1 v x a (.node c es t)) = subst1 v x a (unfold v tbl (.node c es t)) := by
  rw [subst1_eq_xreplace v hv, subst1_eq_xreplace v hv]
  apply unfold_xreplace_commute tbl hw v hv c es t [(x, a)] harity
  intro ci hf s hs
  have : s ≠ x := fun h => hlocals ci hf (h ▸ hs)
  simp [lookup, this]

/-- instance on the regenerated table: it applies to every class of the package. -/
theorem unfold_xreplace_commute_package (v : Variant) (hv : v.sound) (c : String) (es : List Expr)
    (t : List Attr) (σ : List (Sym × Expr))
    (harity : ∀ ci, Ampverif.Gen.C14.classTable.find c = some ci → es.length = ci.nSympy)
    (hlocals : ∀ ci, Ampverif.Gen.C14.classTable.find c = some ci → ∀ s ∈ ci.locals, lookup σ s = none) :
    unfold v Ampverif.Gen.C14.classTable (xreplace v (.node c es t) σ)
      = xreplace v (unfold v Ampverif.Gen.C14.classTable (.node c es t)) σ :=
  unfold_xreplace_commute _ classTable_wf v hv c es t σ harity hlocals

/-! ### 2. substitution KEYS that are terms (array symbols, applied functions, indexed symbols, folded instances)

`substT`/`xreplaceT` model `Basic._subs`/`_xreplace` for an arbitrary key: `_aresame`/`in rule` at
every node, `PoolSum._eval_subs`/`_xreplace` (bound index symbols only), `_eval_subs_method`, else
the arguments — pool values included. -/

/-- with a symbol as key they are the symbol-keyed `subs`… -/
theorem subs_term_key_symbol (v : Variant) (hv : v.sound) (x : Sym) (a e : Expr) :
    substT v (.sym x) a e = subst1 v x a e :=
  substT_sym v hv x a e

/-- …and `xreplace` (so every theorem about those applies to them). -/
theorem xreplace_term_keys_symbols (v : Variant) (hv : v.sound) (e : Expr) (σ : List (Sym × Expr)) :
    xreplaceT v e (symKeys σ) = xreplace v e σ :=
  xreplaceT_symKeys v hv e σ

/-- `expr.subs(old, new)` then `evaluate()` equals `evaluate()` then `subs(old, new)` for a key
`old` that is an uninterpreted node (an `ArraySymbol` four-momentum, an applied function, an indexed
symbol, a folded instance of another class) whose head does not occur in the class template, and
that is not the instance itself: for every well-formed table, arbitrary arguments and attributes,
arbitrary replacement `new`. -/
theorem unfold_subs_term_key_commute (tbl : ClassTable) (hw : wfTable tbl = true) (v : Variant)
    (hv : v.sound) (c : String) (es : List Expr) (t : List Attr) (old new : Expr) (h : String)
    (ho : headOf old = some h) (hne : Expr.eqv (.node c es t) old = false)
    (hfresh : ∀ ci T, tbl.find c = some ci → templateFor ci t = some T → h ∉ heads T) :
    unfold v tbl (substT v old new (.node c es t)) = substT v old new (unfold v tbl (.node c es t)) := by
  have hx : substT v old new (.node c es t) = .node c (substTList v old new es) t := by
    simp [substT, hne, hv.1]
  rw [hx]
  by_cases h' : ∃ ci T, tbl.find c = some ci ∧ ci.implementDoit = true ∧ templateFor ci t = some T
  · obtain ⟨ci, T, hf, hd, hT⟩ := h'
    rw [unfold_node_of_template hf hd hT, unfold_node_of_template hf hd hT,
      substT_xreplace_template v hv old new h ho _ T (wfTable_template tbl hw c ci hf t T hT).2.1
        (hfresh ci T hf hT),
      zip_map_snd ci.placeholders (substT v old new) es, substTList_eq_map]
  · rw [unfold_node_of_no_template h', unfold_node_of_no_template h', hx]

/-- the head `h` occurs in no template of the regenerated table. -/
def headFresh (h : String) : Bool :=
  Ampverif.Gen.C14.classTable.all (fun ci => ci.templates.all (fun p => !(heads p.2).contains h))

/-- instance on the regenerated table: every class of the package, every key whose head is fresh. -/
theorem unfold_subs_term_key_commute_package (v : Variant) (hv : v.sound) (c : String) (es : List Expr)
    (t : List Attr) (old new : Expr) (h : String) (ho : headOf old = some h) (hh : headFresh h = true)
    (hne : Expr.eqv (.node c es t) old = false) :
    unfold v Ampverif.Gen.C14.classTable (substT v old new (.node c es t))
      = substT v old new (unfold v Ampverif.Gen.C14.classTable (.node c es t)) := by
  apply unfold_subs_term_key_commute _ classTable_wf v hv c es t old new h ho hne
  intro ci T hf hT
  have hm := (find_mem _ c ci hf).1
  have hmem := templateFor_mem ci t T hT
  simp only [headFresh, List.all_eq_true] at hh
  have := hh ci hm (t, T) hmem
  simpa using this

def arraySymbolHead : String := "app:h:sympy.tensor.array.expressions.array_expressions.ArraySymbol"

/-- no template mentions an `ArraySymbol`, the applied function `H` or the indexed base `B` (the key
kinds the correspondence and the oracle run): re-checked on the regenerated table on every run. -/
theorem term_key_heads_fresh :
    headFresh arraySymbolHead = true ∧ headFresh "app:f:H" = true ∧ headFresh "idx:B" = true := by
  decide +kernel

/-! ### 3. equality and hash -/

/-- `a == b` holds exactly when `hash` sees the same content (`_hashable_content`, recursively). -/
theorem eq_iff_same_hash_content (a b : Expr) : Expr.eqv a b = true ↔ hashKey a = hashKey b :=
  eqvWith_iff hashable a b

/-- Two instances are equal exactly when class, arguments and non-SymPy attributes are equal —
provided `_get_hashable_object` is injective on the attributes that occur (the proof forces this
hypothesis; `hash_corner_witness` shows it cannot be dropped). -/
theorem eq_iff_fields_equal (P : Attr → Prop)
    (hinj : ∀ x y, P x → P y → hashable x = hashable y → x = y) (a b : Expr)
    (ha : ∀ x ∈ attrsOf a, P x) (hb : ∀ y ∈ attrsOf b, P y) :
    Expr.eqv a b = true ↔ a = b :=
  ⟨eqvWith_eq hashable hinj a b ha hb, fun h => h ▸ eqvWith_refl hashable a⟩

/-- `_get_hashable_object` is injective on `None`, classes and every string that is not the
qualified name of a class that occurs nor `"builtins.NoneType"`: e.g. on this standard set. -/
theorem hashable_injective_standard (x y : Attr)
    (hx : x = .none ∨ (∃ s, x = .str s ∧ s ≠ "builtins.NoneType") ∨ ∃ r, x = .obj r)
    (hy : y = .none ∨ (∃ s, y = .str s ∧ s ≠ "builtins.NoneType") ∨ ∃ r, y = .obj r)
    (h : hashable x = hashable y) : x = y := by
  rcases hx with rfl | ⟨s, rfl, hs⟩ | ⟨r, rfl⟩ <;> rcases hy with rfl | ⟨s', rfl, hs'⟩ | ⟨r', rfl⟩ <;>
    simp_all [hashable]

def ws : Sym := ⟨"s", []⟩
def wm1 : Sym := ⟨"m1", []⟩
def wm2 : Sym := ⟨"m2", []⟩
def wx : Sym := ⟨"x", []⟩
def cBMS : String := "ampform.dynamics.phasespace.BreakupMomentumSquared"
def cPSF : String := "ampform.dynamics.phasespace.PhaseSpaceFactor"

/-- the excluded point: `name=None` and `name="builtins.NoneType"` compare (and hash) equal. -/
theorem hash_corner_witness :
    Expr.eqv (.node cBMS [.sym ws, .sym wm1, .sym wm2] [.none])
             (.node cBMS [.sym ws, .sym wm1, .sym wm2] [.str "builtins.NoneType"]) = true ∧
    Expr.beq (.node cBMS [.sym ws, .sym wm1, .sym wm2] [.none])
             (.node cBMS [.sym ws, .sym wm1, .sym wm2] [.str "builtins.NoneType"]) = false := by
  decide +kernel

/-- function-valued attributes are opaque tokens with the identity of the Python object: two closures
of one factory (same qualified name, `#0`/`#1`) are different attributes, hence different instances;
the same function twice gives equal instances. (A `_get_hashable_object` that maps functions to their
qualified name would identify the first pair: the correspondence and the oracle run such pairs.) -/
example :
    Expr.eqv (.node cBMS [.sym ws] [.obj "fn:tools.corr.C14.make_phsp_factor.<locals>.phsp_factor#0"])
             (.node cBMS [.sym ws] [.obj "fn:tools.corr.C14.make_phsp_factor.<locals>.phsp_factor#1"]) = false ∧
    Expr.eqv (.node cBMS [.sym ws] [.obj "fn:tools.corr.C14.make_phsp_factor.<locals>.phsp_factor#0"])
             (.node cBMS [.sym ws] [.obj "fn:tools.corr.C14.make_phsp_factor.<locals>.phsp_factor#0"]) = true := by
  decide +kernel

/-! ### 4. rebuilding from own arguments -/

/-- `expr.func(*expr.args)` reproduces an instance of a class whose fields are all SymPy arguments. -/
theorem rebuild_all_sympy (tbl : ClassTable) (c : String) (ci : ClassInfo) (hf : tbl.find c = some ci)
    (hall : ∀ f ∈ ci.fields, f.sympify = true) (es : List Expr) (he : es.length = ci.fields.length) :
    rebuild tbl (.node c es []) = some (.node c es []) := by
  have hn := counts_all_sympy ci hall
  have := new_interleave tbl c ci hf es [] (he.trans hn.1.symm) hn.2.symm
  rw [interleave_all_sympy ci.fields es hall he] at this
  simpa [rebuild] using this

/-- …while a class with a non-SymPy field is rebuilt with the DEFAULT attribute (the clause is
restricted to all-SymPy-field classes for that reason): on the regenerated table. -/
example :
    rebuild Ampverif.Gen.C14.classTable (.node cBMS [.sym ws, .sym wm1, .sym wm2] [.str "q"])
      = some (.node cBMS [.sym ws, .sym wm1, .sym wm2] [.none]) := by decide +kernel

/-! ### 5. witness for the unsound variant (`dataclasses.astuple`) -/

def vAstuple : Variant := ⟨true, true⟩
/-- `PhaseSpaceFactor(BreakupMomentumSquared(s, m1, m2), m1, m2)` -/
def wNested : Expr :=
  .node cPSF [.node cBMS [.sym ws, .sym wm1, .sym wm2] [.none], .sym wm1, .sym wm2] [.none]
def wNestedReplaced : Expr :=
  .node cPSF [.node cBMS [.sym ws, .sym wx, .sym wm2] [.none], .sym wx, .sym wm2] [.none]

/-- recursive `_get_arguments`: `.xreplace({m1: x})` does not produce the replaced instance
(the nested argument becomes a Tuple and is not rewritten); the shallow variant does. -/
theorem witness_astuple :
    Expr.beq (xreplace vAstuple wNested [(wm1, .sym wx)]) wNestedReplaced = false ∧
    Expr.beq (xreplace Variant.current wNested [(wm1, .sym wx)]) wNestedReplaced = true := by
  decide +kernel

/-! ### term keys: a four-momentum `ArraySymbol` replaced inside a pool sum and inside an instance -/

def cEnergy : String := "ampform.kinematics.lorentz.Energy"
def wp : Expr := .app "h:sympy.tensor.array.expressions.array_expressions.ArraySymbol" [.sym ⟨"p0", []⟩, .app "a:Tuple()" []]
def wq : Expr := .app "h:sympy.tensor.array.expressions.array_expressions.ArraySymbol" [.sym ⟨"q1", []⟩, .app "a:Tuple()" []]
def wlam : Sym := ⟨"lambda", ["integer"]⟩
/-- `PoolSum((lambda + 2) * x * Energy(p0), (lambda, (-1, 0, 1)))` -/
def wPoolEnergy : Expr :=
  .psum (.mul [.add [.sym wlam, .rat 2], .sym wx, .node cEnergy [wp] []]) [(wlam, [.rat (-1), .rat 0, .rat 1])]

/-- `.subs(p0, q1)` reaches the summand of the pool sum although `p0` is not one of its
`free_symbols` (those hold the inner name symbol only)… -/
example :
    Expr.beq (substT Variant.current wp wq wPoolEnergy)
      (.psum (.mul [.add [.sym wlam, .rat 2], .sym wx, .node cEnergy [wq] []])
        [(wlam, [.rat (-1), .rat 0, .rat 1])]) = true := by decide +kernel
/-- …and commutes with unfolding `Energy` on the regenerated table. -/
example :
    unfold Variant.current Ampverif.Gen.C14.classTable (substT Variant.current wp wq (.node cEnergy [wp] []))
      = substT Variant.current wp wq (unfold Variant.current Ampverif.Gen.C14.classTable (.node cEnergy [wp] [])) :=
  unfold_subs_term_key_commute_package _ (by decide) cEnergy _ _ wp wq arraySymbolHead (by decide +kernel)
    term_key_heads_fresh.1 (by decide +kernel)

/-! ### non-vacuity on the regenerated table -/

example : wfTerm Ampverif.Gen.C14.classTable wNested = true := by decide +kernel
/-- unfolding really happens for this class (the template is not the identity). -/
example : Expr.beq (unfold Variant.current Ampverif.Gen.C14.classTable wNested) wNested = false := by
  decide +kernel
example :
    unfold Variant.current Ampverif.Gen.C14.classTable (xreplace Variant.current wNested [(wm1, .sym wx)])
      = xreplace Variant.current (unfold Variant.current Ampverif.Gen.C14.classTable wNested) [(wm1, .sym wx)] :=
  unfold_xreplace_commute_package _ (by decide) cPSF _ _ _
    (by intro ci h; revert ci; decide +kernel) (by intro ci h; revert ci; decide +kernel)

/-! ### substitutions that identify arguments / pool entries (multiplicity) -/

/-- non-vacuity for substitutions that IDENTIFY two arguments of an instance / two entries of a pool
(`{m1: x, m2: x}`): the commutation law holds on the regenerated table, and the pool sum keeps both
entries (multiplicity; `PoolSum.__new__` storing its values unchanged is `C18.new_stores_given_values`). -/
example :
    Expr.beq (unfold Variant.current Ampverif.Gen.C14.classTable
        (xreplace Variant.current (.node cBMS [.sym ws, .sym wm1, .sym wm2] [.none]) [(wm1, .sym wx), (wm2, .sym wx)]))
      (xreplace Variant.current (unfold Variant.current Ampverif.Gen.C14.classTable
        (.node cBMS [.sym ws, .sym wm1, .sym wm2] [.none])) [(wm1, .sym wx), (wm2, .sym wx)]) = true := by
  decide +kernel

example :
    Expr.beq (xreplace Variant.current
        (.psum (.node cBMS [.sym ws, .sym ⟨"i", []⟩, .sym wm2] [.none]) [(⟨"i", []⟩, [.sym wm1, .sym wm2])])
        [(wm1, .sym wx), (wm2, .sym wx)])
      (.psum (.node cBMS [.sym ws, .sym ⟨"i", []⟩, .sym wx] [.none]) [(⟨"i", []⟩, [.sym wx, .sym wx])]) = true := by
  decide +kernel

end Ampverif.Props.C14
