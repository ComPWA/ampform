/-
C12 — call HISTORIES with the phase-space FACTOR OBJECT as part of the call: the builder, the function
API and `EnergyDependentWidth` stay the pure function of (resonance, variables, L, factor object)
that the property quantifies over, whatever was built before in the same process.

Model: `Model/C12Factor.lean` (a call consults a process-global constructor cache keyed on
`(resonance, pool, L, κ factor)`; the stored width carries the factor OBJECT of the call that stored
it). Tie: `tools/corr/C12_factor.py` drives the real constructors and the model's driver through the
same seeded histories on every run and compares the skeletons call by call.
-/
import Ampverif.Model.C12Factor
import Ampverif.Lemmas.MemoRun

namespace Ampverif.Props.C12Factor
open Ampverif.C12Factor

/-- Every entry of the cache was stored under the key of the factor it carries. -/
def CacheOk {α : Type} (κ : Factor → α) (c : List (Entry α)) : Prop :=
  ∀ e ∈ c, e.key = κ e.stored

theorem cacheOk_nil {α : Type} (κ : Factor → α) : CacheOk κ ([] : List (Entry α)) :=
  fun _ he => nomatch he

theorem lookup_key {α : Type} [DecidableEq α] (κ : Factor → α) (c : List (Entry α)) (hc : CacheOk κ c)
    (r p l : Nat) (k : α) (g : Factor) (h : lookup c r p l k = some g) : κ g = k := by
  obtain ⟨e, he, hp, rfl⟩ :=
    Lemmas.MemoRun.lookup_mem (lookup · r p l k) _ Entry.stored rfl (fun _ _ => rfl) c g h
  rw [← hc e he]
  exact hp.2.2.2

/-- One call with an injective key: the fresh result, and the cache stays consistent. -/
theorem call_pure {α : Type} [DecidableEq α] (κ : Factor → α) (hκ : ∀ f g, κ f = κ g → f = g)
    (c : List (Entry α)) (hc : CacheOk κ c) (a : Args) :
    (call κ c a).1 = freshOut a ∧ CacheOk κ (call κ c a).2 := by
  unfold call
  split
  · split
    · next g hl =>
      rw [hκ _ _ (lookup_key κ c hc _ _ _ _ g hl)]
      exact ⟨rfl, hc⟩
    · exact ⟨rfl, List.forall_mem_cons.2 ⟨rfl, hc⟩⟩
  · exact ⟨rfl, hc⟩

/-- **Purity over histories, factor object included.** With a key that is injective on factor
objects, every call of every history in one process — builder objects of all four flag combinations,
the function API, `EnergyDependentWidth` — returns exactly what a fresh process returns for that
call's (resonance, variables, L, factor object). -/
theorem factor_history_pure {α : Type} [DecidableEq α] (κ : Factor → α) (hκ : ∀ f g, κ f = κ g → f = g)
    (hist : List Args) (c : List (Entry α)) (hc : CacheOk κ c) :
    (run κ c hist).1 = fresh hist :=
  (Lemmas.MemoRun.run_eq_map (call κ) (run κ) (fun _ => rfl) (fun _ _ _ => rfl) (CacheOk κ) freshOut
    hist (fun c hc a _ => call_pure κ hκ c hc a) c hc).1

/-- The clean tree's key for functions (the object itself), from the empty cache of a new process. -/
theorem factor_history_pure_identity (hist : List Args) : (run id [] hist).1 = fresh hist :=
  factor_history_pure id (fun _ _ h => h) hist [] (cacheOk_nil id)

/-- …so the result of call `k` depends only on the arguments of call `k`. -/
theorem factor_call_k (hist : List Args) (k : Nat) (hk : k < hist.length) :
    (run id [] hist).1[k]? = some (freshOut hist[k]) := by
  rw [factor_history_pure_identity]
  simp [fresh, hk]

/-- The fresh result carries the factor OBJECT of the call (when it has a width at all). -/
theorem fresh_honours (a : Args) : (freshOut a).honours a = true := by
  simp [freshOut, out, Out.honours]

/-- **Honouring over histories**: in every call of every history the width carries the factor object
passed to THAT call. -/
theorem factor_history_honours (hist : List Args) (k : Nat) (hk : k < hist.length) :
    ∃ o, (run id [] hist).1[k]? = some o ∧ o.honours hist[k] = true :=
  ⟨freshOut hist[k], factor_call_k hist k hk, fresh_honours hist[k]⟩

/-- Not vacuous: every API with an energy-dependent width has a carried factor, the passed one. -/
theorem fresh_carries (a : Args) (h : a.api.hasWidth = true) : (freshOut a).carried = some a.phsp := by
  simp [freshOut, out, h]

/-- Two closures returned by one factory (or two lambdas of one scope): different objects, one
qualified name (`⟨ident, qual⟩`). -/
def closure1 : Factor := ⟨1, 7⟩
def closure2 : Factor := ⟨2, 7⟩

def witnessHistory : List Args :=
  [⟨.builder true true, closure1, 0, 0, 1⟩, ⟨.builder true true, closure2, 0, 0, 1⟩]

/-- With the qualified name as key the second builder does not return what a fresh process returns
(replayable on the real code: the factor-history oracle of `tools/corr/C12_factor.py`). -/
theorem qualname_key_witness : (run Factor.qual [] witnessHistory).1 ≠ fresh witnessHistory := by
  decide

/-- …its width carries the factor of the FIRST call — a factor the caller did not pass. -/
theorem qualname_key_dishonours :
    ∃ o, (run Factor.qual [] witnessHistory).1[1]? = some o ∧
      o.honours ⟨.builder true true, closure2, 0, 0, 1⟩ = false := by
  refine ⟨_, rfl, ?_⟩
  decide

/-- The confusion crosses the APIs: the function API after a builder of the other closure. -/
theorem qualname_key_crosses_apis :
    (run Factor.qual [] [⟨.builder false true, closure1, 2, 1, 0⟩, ⟨.function, closure2, 2, 1, 0⟩]).1
      ≠ fresh [⟨.builder false true, closure1, 2, 1, 0⟩, ⟨.function, closure2, 2, 1, 0⟩] := by
  decide

/-- Another resonance, pool or angular momentum: the two closures do not meet in the cache. -/
theorem qualname_key_needs_same_call :
    (run Factor.qual [] [⟨.builder true true, closure1, 0, 0, 1⟩, ⟨.builder true true, closure2, 1, 0, 1⟩,
        ⟨.builder true true, closure2, 0, 1, 1⟩, ⟨.builder true true, closure2, 0, 0, 2⟩]).1
      = fresh [⟨.builder true true, closure1, 0, 0, 1⟩, ⟨.builder true true, closure2, 1, 0, 1⟩,
        ⟨.builder true true, closure2, 0, 1, 1⟩, ⟨.builder true true, closure2, 0, 0, 2⟩] := by
  decide

example : (run id [] witnessHistory).1 = fresh witnessHistory := by decide

end Ampverif.Props.C12Factor
