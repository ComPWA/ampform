/-
C04 / C05 — the Wigner rotation of the axis-angle alignment is a rotation, and the angles
`compute_wigner_angles` extracts from it are its ZYZ Euler angles.

Source: `kinematics/angles.py: compute_wigner_rotation_matrix, compute_wigner_angles`,
`kinematics/lorentz.py: compute_boost_chain, BoostMatrix, NegativeMomentum`.

Tie to the source, re-established on every run:
* `Gen.C04.WignerAlpha/WignerBeta/WignerGamma` are REGENERATED from `compute_wigner_angles`
  (the sliced entries of the matrix become the arguments `w<i><j>`; which entries are sliced is a
  checked fact, and that the sliced object is exactly `compute_wigner_rotation_matrix(...)` is
  checked on every topology by the T2 correspondence);
* `Lemmas.C04.wignerMatrix` is the matrix product `B(−p)·B₁⋯B_n` over the REGENERATED explicit
  boost matrices `Gen.C08.boostEx / boostNegEx`, with the chain wiring of `compute_boost_chain`;
  the wiring itself (which momentum sums are boosted by which boosts, in which order, for every
  final state of every topology) is compared with the real expression trees through the line
  protocol (`wchain`, Model/C04Frames.lean).
-/
import Ampverif.Lemmas.C04Wigner

namespace Ampverif.Props.C04Wigner
open Matrix Ampverif.Gen.C04 Ampverif.Lemmas.C04

/-- **A proper Lorentz matrix that fixes the time axis is a spatial rotation** `1 ⊕ R`
(all real 4×4 matrices). -/
theorem C04_lorentz_fixing_time_axis_is_rotation (L : M4) (hL : IsLorentz L) (hdet : L.det = 1)
    (h0 : L *ᵥ e0 = e0) : IsRot (spat L) ∧ L = emb (spat L) :=
  lorentz_fix_e0 L hL hdet h0

/-- **The Wigner rotation matrix is a rotation — for every depth of the decay chain.**
`wignerMatrix p qs = B(−p) · B₁ ⋯ B_n` built from the regenerated explicit boost matrices with
the wiring of `compute_boost_chain` (`B_k` boosts with the k-th chain momentum after it has been
boosted by `B_{k−1} ⋯ B₁`); if `p` and every momentum the chain boosts with is time-like with
non-zero three-momentum (the guards under which the source's boost matrix is finite, C08) and
the chain ends at `p`, then `W = 1 ⊕ Rᵀ` with `R := spat Wᵀ` a PROPER ROTATION. -/
theorem C04_wigner_matrix_is_rotation (p : Fin 4 → ℝ) (qs : List (Fin 4 → ℝ)) (hp : Timelike p)
    (hadm : AdmissibleFrom 1 qs) (hlast : qs.getLast? = some p) :
    IsRot (spat (wignerMatrix p qs)ᵀ)
      ∧ wignerMatrix p qs = emb (spat (wignerMatrix p qs)ᵀ)ᵀ :=
  wigner_is_rotation p qs hp hadm hlast

/-- **ZYZ Euler decomposition with the regenerated angle formulas.** For EVERY 4×4 matrix `W`
whose transposed spatial block is a proper rotation and is off the gimbal-lock set
(`W₃₃² < 1`), the three expressions of `compute_wigner_angles`
(`alpha = atan2(W₃₂, W₃₁)`, `beta = acos(W₃₃)`, `gamma = atan2(W₂₃, −W₁₃)`) are Euler angles of
that rotation: `spat Wᵀ = Rz(alpha) · Ry(beta) · Rz(gamma)`. -/
theorem C04_wigner_angles_are_euler_angles (W : M4) (hR : IsRot (spat Wᵀ))
    (hpole : W 3 3 ^ 2 < 1) :
    spat Wᵀ = euler (WignerAlpha (W 3 1) (W 3 2)) (WignerBeta (W 3 3))
                (WignerGamma (W 1 3) (W 2 3)) := by
  have h := euler_decomposition (spat Wᵀ) hR (by simpa [spat] using hpole)
  have e02 : spat Wᵀ 0 2 = W 3 1 := by simp [spat]
  have e12 : spat Wᵀ 1 2 = W 3 2 := by simp [spat]
  have e22 : spat Wᵀ 2 2 = W 3 3 := by simp [spat]
  have e20 : spat Wᵀ 2 0 = W 1 3 := by simp [spat]
  have e21 : spat Wᵀ 2 1 = W 2 3 := by simp [spat]
  rw [e02, e12, e22, e20, e21] at h
  have hα : WignerAlpha (W 3 1) (W 3 2) = PhiOf (W 3 1) (W 3 2) := rfl
  have hβ : WignerBeta (W 3 3) = Real.arccos (W 3 3) := rfl
  have hγ : WignerGamma (W 1 3) (W 2 3) = PhiOf (-(W 1 3)) (W 2 3) := by
    unfold WignerGamma PhiOf; rw [neg_one_mul]
  rw [hα, hβ, hγ]
  exact h

/-- **The two together: what `compute_wigner_angles` returns.** For an admissible chain ending
at `p`, off the gimbal-lock set, the Wigner rotation matrix of the source is
`1 ⊕ (Rz(alpha) Ry(beta) Rz(gamma))ᵀ` with `alpha, beta, gamma` exactly the regenerated
expressions evaluated on its own entries. -/
theorem C04_wigner_rotation_from_its_angles (p : Fin 4 → ℝ) (qs : List (Fin 4 → ℝ))
    (hp : Timelike p) (hadm : AdmissibleFrom 1 qs) (hlast : qs.getLast? = some p)
    (hpole : wignerMatrix p qs 3 3 ^ 2 < 1) :
    wignerMatrix p qs
      = emb (euler (WignerAlpha (wignerMatrix p qs 3 1) (wignerMatrix p qs 3 2))
                   (WignerBeta (wignerMatrix p qs 3 3))
                   (WignerGamma (wignerMatrix p qs 1 3) (wignerMatrix p qs 2 3)))ᵀ := by
  obtain ⟨hrot, hemb⟩ := wigner_is_rotation p qs hp hadm hlast
  rw [← C04_wigner_angles_are_euler_angles _ hrot hpole]
  exact hemb

/-- a final state attached directly to the initial state: the chain is `[p]` and `W = 1`
(no Wigner rotation) -/
theorem C04_wigner_trivial_chain (p : Fin 4 → ℝ) (hp : Timelike p) : wignerMatrix p [p] = 1 := by
  have h1 : (1 : M4) *ᵥ p = p := Matrix.one_mulVec p
  simp only [wignerMatrix, boostChain, boostChainFrom, List.foldl_cons, List.foldl_nil, h1]
  exact boostNegOf_inverse hp

/-- Non-vacuity: the hypotheses of `C04_wigner_matrix_is_rotation` are satisfiable — a two-step
chain (resonance `q = (5,0,0,3)`, then the particle `p = (2,1,0,1)` inside it) is admissible as
soon as the boosted particle momentum is time-like with non-zero three-momentum. -/
example : Timelike ![5, 0, 0, 3] ∧ Timelike ![2, 1, 0, 1] := by
  constructor <;> refine ⟨?_, ?_, ?_⟩ <;> simp <;> norm_num

/-- Non-vacuity of the Euler theorem: `W = 1 ⊕ Ry(π/2)ᵀ` is off the gimbal-lock set. -/
example : (emb (Ry3 (Real.pi / 2))ᵀ) 3 3 ^ 2 < 1 := by
  simp [emb, Ry3]

end Ampverif.Props.C04Wigner
