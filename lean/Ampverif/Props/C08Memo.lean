/-
C08 — call HISTORIES of the matrix expression classes: `evaluate()` (hence `doit()`, the generated
code, the LaTeX form) stays a function of the expression it is called on, whatever was unfolded
before in the same process.

Model: `Model/C08Memo.lean` (a call consults a process-global memo keyed by `key expr`; a hit returns
the stored implementation object, which carries the arguments of the expression that stored it).
Tie: `tools/corr/C08_history.py` drives the real classes (fresh processes, forked histories in both
orders, and the check's own process) and this model through the same histories on every run.
-/
import Ampverif.Lemmas.C08Memo

namespace Ampverif.Props.C08Memo
open Ampverif.C08Memo Ampverif.Lemmas.C08Memo

/-- **Purity over histories.** With a key that separates the expressions of `S`, every call of every
history over `S` returns exactly what a fresh process returns for that call's expression. -/
theorem memo_pure {κ : Type} [DecidableEq κ] (key : MExpr → κ) (S : MExpr → Prop)
    (hinj : InjOn key S) (hist : List MExpr) (hS : ∀ e ∈ hist, S e)
    (m : List (κ × Impl)) (hm : MemoOk key S m) :
    (run key m hist).1 = fresh hist :=
  (Lemmas.MemoRun.run_eq_map (call key) (run key) (fun _ => rfl) (fun _ _ _ => rfl) (MemoOk key S) build
    hist (fun m hm e he => call_pure key S hinj m hm e (hS e he)) m hm).1

/-- The clean tree: the expression itself is the key (equivalently: no memo). -/
theorem memo_pure_identity (hist : List MExpr) : (run id [] hist).1 = fresh hist :=
  memo_pure id (fun _ => True) (fun _ _ _ _ h => h) hist (fun _ _ => trivial) [] (memoOk_nil id _)

/-- …so the result of call `k` depends only on the expression of call `k`. -/
theorem memo_call_k (hist : List MExpr) (k : Nat) (hk : k < hist.length) :
    (run id [] hist).1[k]? = some (build hist[k]) := by
  rw [memo_pure_identity]
  simp [fresh, hk]

/-- **Converse.** Two different expressions with the same key: in the history `a; b` the second call
returns `a`'s implementation, which is not what a fresh process returns for `b`. -/
theorem memo_impure_of_collision {κ : Type} [DecidableEq κ] (key : MExpr → κ) (a b : MExpr)
    (hk : key a = key b) (hab : a ≠ b) :
    (run key [] [a, b]).1 = [build a, build a] ∧ (run key [] [a, b]).1 ≠ fresh [a, b] := by
  have h := run_collision key a b hk
  refine ⟨h, ?_⟩
  rw [h]
  intro hc
  simp only [fresh, List.map_cons, List.map_nil, List.cons.injEq, and_true, true_and] at hc
  exact hab (build_injective a b hc)

/-- **Transparent iff injective**, on any set of expressions. -/
theorem memo_pure_iff_injective {κ : Type} [DecidableEq κ] (key : MExpr → κ) (S : MExpr → Prop) :
    (∀ hist : List MExpr, (∀ e ∈ hist, S e) → (run key [] hist).1 = fresh hist) ↔ InjOn key S := by
  constructor
  · intro h a b ha hb hk
    by_cases hab : a = b
    · exact hab
    · have h1 := h [a, b] (by
        intro e he
        simp only [List.mem_cons, List.not_mem_nil, or_false] at he
        rcases he with rfl | rfl
        · exact ha
        · exact hb)
      exact absurd h1 (memo_impure_of_collision key a b hk hab).2
  · intro hinj hist hS
    exact memo_pure key S hinj hist hS [] (memoOk_nil key S)

/-- CPython: `hash(-1) == hash(-2)`. -/
theorem pyHash_collision : pyHash (-1) = pyHash (-2) := by decide

/-- …and nothing else collides in the model of the integer hash. -/
theorem pyHash_only_collision (n k : Int) (h : pyHash n = pyHash k) (hne : n ≠ k) :
    (n = -1 ∧ k = -2) ∨ (n = -2 ∧ k = -1) := by
  unfold pyHash at h
  by_cases h1 : n = -1 <;> by_cases h2 : k = -1
  · exact absurd (h1.trans h2.symm) hne
  · rw [if_pos h1, if_neg h2] at h
    exact Or.inl ⟨h1, h.symm⟩
  · rw [if_neg h1, if_pos h2] at h
    exact Or.inr ⟨h, h2⟩
  · rw [if_neg h1, if_neg h2] at h
    exact absurd h hne

/-- The hash key: `R_z(-φ)` then `R_z(-2φ)` in one process — the second call returns the
implementation of the first (kernel-checked history). -/
theorem hash_key_witness :
    (run hashKey [] [⟨.rotZ, 0, -1, 0⟩, ⟨.rotZ, 0, -2, 0⟩]).1
      = [⟨.rotZ, 0, -1, 0⟩, ⟨.rotZ, 0, -1, 0⟩]
    ∧ fresh [⟨.rotZ, 0, -1, 0⟩, ⟨.rotZ, 0, -2, 0⟩] = [⟨.rotZ, 0, -1, 0⟩, ⟨.rotZ, 0, -2, 0⟩] := by
  decide

/-- …in the opposite order the OTHER expression is the wrong one. -/
theorem hash_key_witness_reversed :
    (run hashKey [] [⟨.boostZ, 0, -2, 0⟩, ⟨.boostZ, 0, -1, 0⟩]).1
      = [⟨.boostZ, 0, -2, 0⟩, ⟨.boostZ, 0, -2, 0⟩] := by
  decide

/-- The hash key confuses two expressions only if they differ exactly in the integers `-1`/`-2`. -/
theorem hash_key_only_collision (a b : MExpr) (h : hashKey a = hashKey b) (hab : a ≠ b) :
    a.cls = b.cls ∧ a.shape = b.shape ∧ a.nEvents = b.nEvents
      ∧ ((a.coeff = -1 ∧ b.coeff = -2) ∨ (a.coeff = -2 ∧ b.coeff = -1)) := by
  cases a with
  | mk c1 s1 k1 n1 =>
    cases b with
    | mk c2 s2 k2 n2 =>
      simp only [hashKey, HKey.mk.injEq] at h
      rcases h with ⟨hc, hs, hk, hn⟩
      refine ⟨hc, hs, hn, ?_⟩
      apply pyHash_only_collision k1 k2 hk
      intro hkk
      apply hab
      subst hc hs hn hkk
      rfl

/-- One table for the four classes keyed by the arguments: `R_y(a)` then `R_z(a)`. -/
theorem arg_key_witness :
    (run argKey [] [⟨.rotY, 0, 1, 0⟩, ⟨.rotZ, 0, 1, 0⟩]).1 = [⟨.rotY, 0, 1, 0⟩, ⟨.rotY, 0, 1, 0⟩] := by
  decide

/-- A key without `n_events`: same angle, different event-count argument. -/
theorem noEvents_key_witness :
    (run noEventsKey [] [⟨.rotZ, 0, 1, 0⟩, ⟨.rotZ, 0, 1, 1⟩]).1 = [⟨.rotZ, 0, 1, 0⟩, ⟨.rotZ, 0, 1, 0⟩] := by
  decide

/-- Non-vacuity: a three-call history through the identity key, computed. -/
example : (run id [] [⟨.rotZ, 0, -1, 0⟩, ⟨.rotZ, 0, -2, 0⟩, ⟨.rotZ, 0, -1, 0⟩]).1
    = [⟨.rotZ, 0, -1, 0⟩, ⟨.rotZ, 0, -2, 0⟩, ⟨.rotZ, 0, -1, 0⟩] := by decide

end Ampverif.Props.C08Memo
