/-
C06 — formulate() is a pure function of (reaction, configuration).

Theorems about the state-machine model `Ampverif.Model.C06Purity` (process-global heap of memoised
results held by reference, per-builder ingredients / configuration / adapter topology set,
`formulate` with its in-place updates).  `tools/props/C06.py` runs the same histories through this
model and through the real builders on every run.
-/
import Ampverif.Lemmas.C06Witness

namespace Ampverif.Props.C06
open Ampverif.C06 Ampverif.C06.Witness

/-- **C06_pure.**  In the sound variant (`define_symbols` returns a copy, `formulate` resets the
ingredients, configurations are per builder, sort ties are broken by the name), for EVERY world
whose topology maps are pairwise consistent and whose symbols have distinct names, and for EVERY
history — any number of builders on any reactions, any interleaving of `configure`,
`register_topology`, `formulate`, rejected assignments and cache evictions, any iteration order of
the adapter's topology set after each change (= any hash seed, any registration order) —
every `formulate` returns `F (its reaction) (what the user configured on that builder)`, where
`F` mentions neither heap nor history. -/
theorem C06_pure (v : Variant) (hv : v.sound) (w : World) (hw : WorldOK w) (ops : List Op) :
    OutputsPure v w State.init ops :=
  outputsPure_of_inv hv hw ops State.init (SInv.init w)

/-- Two `formulate` calls with the same reaction and the same user configuration return the same
model, in whatever states (histories, processes: any two invariant-satisfying states), on
whatever builders, with whatever set iteration orders they are made. -/
theorem C06_same_configuration_same_model (v : Variant) (hv : v.sound) (w : World) (hw : WorldOK w)
    (s₁ s₂ : State) (h₁ : SInv w s₁) (h₂ : SInv w s₂) (i₁ i₂ : Nat) (o₁ o₂ : List Nat)
    (a₁ a₂ : List (List Nat))
    (b₁ b₂ : Builder) (hb₁ : s₁.builders[i₁]? = some b₁) (hb₂ : s₂.builders[i₂]? = some b₂)
    (hr : b₁.reaction = b₂.reaction) (hc : b₁.user = b₂.user) :
    (step v w s₁ (.formulate i₁ o₁ a₁)).2 = (step v w s₂ (.formulate i₂ o₂ a₂)).2 := by
  rw [step_output hv hw h₁ i₁ o₁ a₁ b₁ hb₁, step_output hv hw h₂ i₂ o₂ a₂ b₂ hb₂, hr, hc]

/-- The invariant behind `C06_pure`: after any history every cache entry still refers to the
pure value of its key (in particular the memoised DPD symbol dict is never modified). -/
theorem C06_cache_entries_stay_pure (v : Variant) (hv : v.sound) (w : World) (hw : WorldOK w) :
    ∀ (ops : List Op) (s : State), SInv w s →
      HeapInv w (ops.foldl (fun st op => (step v w st op).1) s).heap :=
  fun ops _ hs => (List.foldlRecOn ops _ hs fun _ h op _ => step_inv hv hw h op).heap

/-- **C06_order** (general form).  `out = {}; for m in maps: out.update(m)` followed by a stable
sort on a linear order of the keys does not depend on the order of the maps, provided any two maps
agree on common keys (C07's no-collision premise). -/
theorem C06_order_linear {κ β : Type} [DecidableEq κ] (keyLe : κ → κ → Bool)
    (total : ∀ a b, keyLe a b = true ∨ keyLe b a = true)
    (anti : ∀ a b, keyLe a b = true → keyLe b a = true → a = b)
    (trans : ∀ a b c, keyLe a b = true → keyLe b c = true → keyLe a c = true)
    (maps maps' : List (List (κ × β))) (hc : Consistent maps) (hp : maps.Perm maps') :
    isort (fun a b => keyLe a.1 b.1) (dmerge maps) = isort (fun a b => keyLe a.1 b.1) (dmerge maps') :=
  isort_eq_of_dequiv ⟨total, anti, trans⟩ (f := id) (fun _ _ => id) (NodupKeys.dmerge _)
    (NodupKeys.dmerge _) (dmerge_dequiv_of_perm hc hp)

/-- **C06_order** for the modelled converter of `kinematic_variables`
(`sorted(mapping, key=lambda s: (natural_sorting(s.name), s.name))`, names as code points):
unconditional in the names — the key is a linear order on names (`nameLe_linOrd`),
so no "no ties" premise is left. -/
theorem C06_order {β : Type} (maps maps' : List (List (List Nat × β))) (hc : Consistent maps)
    (hp : maps.Perm maps') :
    isort (fun a b => nameLe a.1 b.1) (dmerge maps) = isort (fun a b => nameLe a.1 b.1) (dmerge maps') :=
  C06_order_linear nameLe nameLe_linOrd.total nameLe_linOrd.anti nameLe_linOrd.trans maps maps' hc hp

/-- Without the tie-break the statement is false: `m_1` and `m_01` have the same natural-sort key
(`['m_', 1.0, '']`) and the stable sort keeps the merge order. -/
theorem C06_order_needs_tie_break :
    let m1 : List (List Nat × Nat) := [([109, 95, 49], 0)]        -- {"m_1": 0}
    let m01 : List (List Nat × Nat) := [([109, 95, 48, 49], 1)]   -- {"m_01": 1}
    Consistent [m1, m01] ∧ [m1, m01].Perm [m01, m1] ∧
      isort (fun a b => natKeyLe (natKey a.1) (natKey b.1)) (dmerge [m1, m01]) ≠
        isort (fun a b => natKeyLe (natKey a.1) (natKey b.1)) (dmerge [m01, m1]) := by
  exact ⟨consistent_of_agreeB (by decide), List.Perm.swap _ _ _, by decide⟩

/-- **C06_witness_alias.**  `define_symbols` returns the memoised dict (tree before b218b43):
[stable ids; formulate; default; formulate; stable ids again; formulate] — the first and the third
model belong to the same configuration and differ (the ζ definitions lost `m_0`, `m_1`, … after the
default model replaced them in place).  Under the sound variant they are equal. -/
theorem C06_witness_alias :
    (run aliasedVariant w0 State.init aliasHistory)[3]? ≠ (run aliasedVariant w0 State.init aliasHistory)[7]? ∧
    (run soundVariant w0 State.init aliasHistory)[3]? = (run soundVariant w0 State.init aliasHistory)[7]? := by
  decide +kernel

/-- the witness is a violation of the property statement itself -/
theorem C06_witness_alias_not_pure : ¬ OutputsPure aliasedVariant w0 State.init aliasHistory := by
  rw [← outputsPureB_iff]
  decide +kernel

/-- **C06_witness_noreset.**  Without `ingredients.reset()` the parameters of an earlier
configuration survive: a builder that had helicity couplings switched on and off again returns a
model different from a fresh builder's. -/
theorem C06_witness_noreset :
    (run noResetVariant w0 State.init noResetHistory)[4]? ≠ (run noResetVariant w0 State.init noResetHistory)[6]? ∧
    (run soundVariant w0 State.init noResetHistory)[4]? = (run soundVariant w0 State.init noResetHistory)[6]? := by
  decide +kernel

/-- **C06_witness_shared.**  With one module-level configuration object, configuring builder 0
changes what builder 1 formulates. -/
theorem C06_witness_shared :
    (run sharedVariant w0 State.init sharedHistory)[2]? ≠ (run sharedVariant w0 State.init sharedHistory)[5]? ∧
    (run soundVariant w0 State.init sharedHistory)[2]? = (run soundVariant w0 State.init sharedHistory)[5]? := by
  decide +kernel

/-- **C06_witness_ties.**  Sorting by `natural_sorting(name)` alone (tree before 043d8fb): two
builders of the un-relabelled reaction whose topology sets iterate in opposite orders (two hash
seeds) return `kinematic_variables` in different key orders (`m_01, m_1` vs `m_1, m_01`). -/
theorem C06_witness_ties :
    (run tiesVariant w0 State.init tiesHistory)[2]? ≠ (run tiesVariant w0 State.init tiesHistory)[3]? ∧
    (run soundVariant w0 State.init tiesHistory)[2]? = (run soundVariant w0 State.init tiesHistory)[3]? := by
  decide +kernel

/-- **C06_missing_order.**  `__define_missing_amplitudes` followed by the amplitudes converter:
when the atoms are visited in `sorted(..., key=str)` order (any linear order `strLe` on the keys),
the final key order of `model.amplitudes` does not depend on the iteration order of the atoms
set — for ANY converter order `convLe`, ties included. -/
theorem C06_missing_order {κ β : Type} [DecidableEq κ] (strLe : κ → κ → Bool)
    (total : ∀ a b, strLe a b = true ∨ strLe b a = true)
    (anti : ∀ a b, strLe a b = true → strLe b a = true → a = b)
    (trans : ∀ a b c, strLe a b = true → strLe b c = true → strLe a c = true)
    (convLe : κ × β → κ × β → Bool) (registered : List (κ × β)) (zero : β)
    (iter iter' : List κ) (hp : iter.Perm iter') :
    isort convLe (ddefaults registered zero (isort strLe iter)) =
      isort convLe (ddefaults registered zero (isort strLe iter')) := by
  exact congrArg (fun l => isort convLe (ddefaults registered zero l))
    (isort_eq_of_perm ⟨total, anti, trans⟩ id (fun _ _ _ _ e => e) hp)

/-- Without the inner sort the statement is false as soon as two keys tie under the converter's
key: `A[0, -1]` and `A[0, 1]` have the same natural-sort key (the sign is dropped), so the stable
sort keeps the set-iteration order.  With the inner sort (code-point order of `str`) both orders
give the same result. -/
theorem C06_missing_order_needs_inner_sort :
    let a : List Nat := "A[0, -1]".toList.map Char.toNat
    let b : List Nat := "A[0, 1]".toList.map Char.toNat
    let conv : List Nat × Nat → List Nat × Nat → Bool := fun x y => natKeyLe (natKey x.1) (natKey y.1)
    natKey a = natKey b ∧
    isort conv (ddefaults [] 0 [a, b]) ≠ isort conv (ddefaults [] 0 [b, a]) ∧
    isort conv (ddefaults [] 0 (isort (lexLe natLe) [a, b])) =
      isort conv (ddefaults [] 0 (isort (lexLe natLe) [b, a])) := by
  decide +kernel

/-- The key order of `model.amplitudes` for names as code points, with the modelled converter
(stable sort on `natural_sorting(str(a))`, ties!) and the inner `sorted(atoms, key=str)`: it is a
function of the REGISTRATION order of the amplitudes with transitions (which follows
`reaction.transitions` and the configuration) and of the atoms as a SET — nothing else. -/
theorem C06_amplitudes_order_only_registration {β : Type} (registered : List (List Nat × β)) (zero : β)
    (iter iter' : List (List Nat)) (hp : iter.Perm iter') :
    isort (fun x y => natKeyLe (natKey x.1) (natKey y.1)) (ddefaults registered zero (isort (lexLe natLe) iter)) =
      isort (fun x y => natKeyLe (natKey x.1) (natKey y.1)) (ddefaults registered zero (isort (lexLe natLe) iter')) :=
  C06_missing_order (lexLe natLe) natLe_linOrd.lex.total natLe_linOrd.lex.anti natLe_linOrd.lex.trans _ registered
    zero iter iter' hp

/-- … and it does depend on the registration order (observation, outside C06's statement): the
same two amplitudes registered in the two orders come out in the two orders, because
`A[0, -1, -1]` and `A[0, 1, 1]` tie under the converter's key. -/
theorem C06_amplitudes_depend_on_registration_order :
    let a : List Nat := "A[0, -1, -1]".toList.map Char.toNat
    let b : List Nat := "A[0, 1, 1]".toList.map Char.toNat
    let conv : List Nat × Nat → List Nat × Nat → Bool := fun x y => natKeyLe (natKey x.1) (natKey y.1)
    isort conv (ddefaults [(a, 1), (b, 1)] 0 (isort (lexLe natLe) [a, b])) ≠
      isort conv (ddefaults [(b, 1), (a, 1)] 0 (isort (lexLe natLe) [a, b])) := by
  decide +kernel

/-- **C06_witness_missing.**  Zero definitions inserted in set-iteration order (the code before
the `sorted` of e6c0bd9): two builders of one reaction with the same configuration
whose atom sets iterate differently (two hash seeds) return `amplitudes` in different key orders. -/
theorem C06_witness_missing :
    (run missingUnsortedVariant w0 State.init missingHistory)[2]? ≠
      (run missingUnsortedVariant w0 State.init missingHistory)[3]? ∧
    (run soundVariant w0 State.init missingHistory)[2]? = (run soundVariant w0 State.init missingHistory)[3]? := by
  decide +kernel

/-- the premises of `C06_pure` hold for a non-trivial world (two reactions, two topologies each,
DPD symbol dict with mass symbols, names that tie under the plain natural sort) -/
example : WorldOK w0 := w0_ok

/-- … so the theorem applies to an interleaved history of two builders sharing a reaction, with
an eviction, a registration, an alignment error and opposite set iteration orders … -/
example : OutputsPure soundVariant w0 State.init interleavedHistory :=
  C06_pure soundVariant (by decide) w0 w0_ok interleavedHistory

/-- … whose formulate outputs are real models (10, 13, 11, 10 kinematic variables), one error, and
coincide exactly where the configurations coincide (operations 5, 10 and 16). -/
example :
    ((run soundVariant w0 State.init interleavedHistory).map fun o => match o with
      | some (.ok m) => m.kin.length
      | some (.error e) => 1000 + e
      | none => 0) = [0, 0, 0, 0, 0, 10, 13, 0, 11, 0, 10, 0, 0, 1001, 0, 0, 10] ∧
    (run soundVariant w0 State.init interleavedHistory)[5]? = (run soundVariant w0 State.init interleavedHistory)[10]? ∧
    (run soundVariant w0 State.init interleavedHistory)[5]? = (run soundVariant w0 State.init interleavedHistory)[16]? ∧
    (run soundVariant w0 State.init interleavedHistory)[5]? ≠ (run soundVariant w0 State.init interleavedHistory)[6]? := by
  decide +kernel

/-- the modelled natural sort on real names: `z2 < z11`, `A_{-1/2}` and `A_{+1/2}` tie (the sign is
not part of the key), `m_1` and `m_01` tie but are ordered by the tie-break -/
example :
    naturalSort ["z11".toList.map Char.toNat, "z2".toList.map Char.toNat]
      = ["z2".toList.map Char.toNat, "z11".toList.map Char.toNat] ∧
    natKey ("A_{-1/2}".toList.map Char.toNat) = natKey ("A_{+1/2}".toList.map Char.toNat) ∧
    natKey ("m_1".toList.map Char.toNat) = natKey ("m_01".toList.map Char.toNat) ∧
    nameLe ("m_01".toList.map Char.toNat) ("m_1".toList.map Char.toNat) = true ∧
    nameLe ("m_1".toList.map Char.toNat) ("m_01".toList.map Char.toNat) = false := by
  decide +kernel

end Ampverif.Props.C06
