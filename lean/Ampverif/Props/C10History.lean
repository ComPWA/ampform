/-
C10 — call HISTORIES: `formulate` stays the pure function of its arguments that the property
quantifies over, whatever was formulated before in the same process.

Model: `Model/C10History.lean` (a call consults a process-global expression cache keyed on
`(L, d, κ factor)`; the stored energy-dependent widths carry the factor OBJECT of the call that
stored them). Tie: `tools/corr/C10_history.py` drives the real classes and the model's driver through
the same seeded histories on every run and compares the skeletons call by call.
-/
import Ampverif.Lemmas.C10History

namespace Ampverif.Props.C10History
open Ampverif.C10History Ampverif.Lemmas.C10History

/-- **Purity over histories.** With a key that is injective on factor objects, every call of every
history in one process returns exactly what a fresh process returns for that call's arguments. -/
theorem history_pure {α : Type} [DecidableEq α] (κ : Factor → α) (hκ : ∀ f g, κ f = κ g → f = g)
    (hist : List Args) (c : List (Entry α)) (hc : CacheOk κ c) :
    (run κ c hist).1 = fresh hist :=
  (Lemmas.MemoRun.run_eq_map (call κ) (run κ) (fun _ => rfl) (fun _ _ _ => rfl) (CacheOk κ) freshOut
    hist (fun c hc a _ => call_pure κ hκ c hc a) c hc).1

/-- The clean tree's key (the factor object itself), from the empty cache of a new process. -/
theorem history_pure_identity (hist : List Args) : (run id [] hist).1 = fresh hist :=
  history_pure id (fun _ _ h => h) hist [] (cacheOk_nil id)

/-- …so the result of call `k` depends only on the arguments of call `k`. -/
theorem history_call_k (hist : List Args) (k : Nat) (hk : k < hist.length) :
    (run id [] hist).1[k]? = some (freshOut hist[k]) := by
  rw [history_pure_identity]
  simp [fresh, hk]

/-- The fresh result honours its arguments: every width carries the factor OBJECT, angular momentum
and radius of the call; every form factor its `L` and radius; every phase-space node is the node
of the passed factor. -/
theorem fresh_honours (a : Args) : ∀ it ∈ (freshOut a).items, it.honours a = true := by
  intro it hit
  obtain ⟨-, h | h | h⟩ := mem_items_out.mp hit
  · obtain ⟨r, -, i, -, rfl⟩ := mem_widthItems.mp h
    simp [Item.honours]
  · obtain ⟨n, hn, i, -, rfl⟩ := mem_rhoItems.mp h
    simp [Item.honours, hn]
  · obtain ⟨-, i, -, rfl⟩ := mem_ffItems.mp h
    simp [Item.honours]

/-- **Honouring over histories**: in every call of every history, only the factor object / `L` /
radius passed to THAT call occurs. -/
theorem history_honours (hist : List Args) (k : Nat) (hk : k < hist.length) :
    ∃ o, (run id [] hist).1[k]? = some o ∧ ∀ it ∈ o.items, it.honours hist[k] = true :=
  ⟨freshOut hist[k], history_call_k hist k hk, fresh_honours hist[k]⟩

/-- Coverage of the fresh result: a parametrised relativistic result has a width for every
pole × channel (so "only the passed factor occurs" is not vacuous). -/
theorem fresh_covers (a : Args) (hr : a.cls.relativistic = true) (hp : a.parametrize = true)
    (r i : Nat) (hrp : r < a.nPoles) (hi : i < a.nChannels) :
    Item.width (r + 1) i a.phsp a.angMom a.radius ∈ (freshOut a).items :=
  mem_items_out.mpr ⟨⟨hr, hp⟩, Or.inl (mem_widthItems.mpr ⟨r, hrp, i, hi, rfl⟩)⟩

/-- Two closures returned by one factory: different objects, one qualified name
(`⟨ident, qual, node⟩`). -/
def closure1 : Factor := ⟨1, 7, none⟩
def closure2 : Factor := ⟨2, 7, none⟩

/-- Two parametrised `RelativisticPVector` calls, 2 channels × 2 poles, `L = 0`, radius 1, differing in
the factor only (`⟨cls, nChannels, nPoles, parametrize, hat, phsp, angMom, radius⟩`). -/
def witnessHistory : List Args :=
  [⟨Cls.relP, 2, 2, true, false, closure1, 0, 1⟩, ⟨Cls.relP, 2, 2, true, false, closure2, 0, 1⟩]

/-- With the qualified name as key, the second call of the history does not return what a fresh
process returns (replayable on the real code: the history oracle of `tools/corr/C10_history.py`). -/
theorem qualname_key_witness : (run Factor.qual [] witnessHistory).1 ≠ fresh witnessHistory := by
  decide

/-- …its widths carry the factor of the FIRST call — a factor the caller did not pass. -/
theorem qualname_key_dishonours :
    ∃ o, (run Factor.qual [] witnessHistory).1[1]? = some o ∧
      o.items.any (fun it => !it.honours ⟨Cls.relP, 2, 2, true, false, closure2, 0, 1⟩) = true := by
  refine ⟨_, rfl, ?_⟩
  decide

/-- Different angular momentum or radius: the same two closures do not meet in the cache. -/
theorem qualname_key_needs_same_L_d :
    (run Factor.qual [] [⟨Cls.relP, 2, 2, true, false, closure1, 0, 1⟩,
        ⟨Cls.relP, 2, 2, true, false, closure2, 1, 1⟩]).1
      = fresh [⟨Cls.relP, 2, 2, true, false, closure1, 0, 1⟩, ⟨Cls.relP, 2, 2, true, false, closure2, 1, 1⟩] := by
  decide

example : (run id [] witnessHistory).1 = fresh witnessHistory := by decide

example : ((run id [] witnessHistory).1.map (·.items.length)) = [6, 6] := by decide

end Ampverif.Props.C10History
