/-
C15 — pickle round trip is the identity.

Model: `serialise` stores a term as pickle does (built-in SymPy nodes as `func(*args)`; an
`@unevaluated` instance as its class and `__getnewargs__() = _get_arguments(instance)`),
`deserialise` calls the generated `__new__` on the stored values. Theorems for EVERY well-formed
class table (instantiated with the table regenerated from the working tree), every well-formed
term and every model record. pickle's byte format and SymPy's `__reduce_ex__` are executed by
the correspondence, not modelled.
-/
import Ampverif.Lemmas.C15Pickle
import Ampverif.Gen.C14Table
import Ampverif.Gen.C15Hooks

namespace Ampverif.Props.C15
open Ampverif.Model Ampverif.Lemmas.C14 Ampverif.Lemmas.C15

/-- shallow `__getnewargs__` ⇒ loading what was dumped gives the term back: every term whose
nodes are instances of table classes (nested instances, non-SymPy attributes, pool sums,
arbitrary built-in SymPy nodes included). -/
theorem roundtrip (tbl : ClassTable) (v : Variant) (hv : v.sound) :
    ∀ e : Expr, wfTerm tbl e = true → deserialise tbl (serialise v tbl e) = some e := by
  intro e h
  induction e using Expr.induct with
  | sym | rat => rfl
  | pow b n ih | psum b _ ih => simp [serialise, deserialise, ih h]
  | node c es t ih =>
    simp only [wfTerm, Bool.and_eq_true, wfTermList_eq_all, List.all_eq_true] at h
    cases hf : tbl.find c with
    | none => simp [hf] at h
    | some ci =>
      simp only [hf, Bool.and_eq_true, beq_iff_eq] at h
      simp only [serialise, hv.1, hf, Bool.false_eq_true, if_false, deserialise, serialiseList_eq_map,
        deserialiseList_map fun e he => ih e he (h.2 e he), weave_eq_interleave]
      exact new_interleave tbl c ci hf es t h.1.1 h.1.2
  | add es ih | mul es ih | app _ es ih | idx _ es ih =>
    simp only [wfTerm, wfTermList_eq_all, List.all_eq_true] at h
    simp only [serialise, deserialise, serialiseList_eq_map,
      deserialiseList_map fun e he => ih e he (h e he)]

theorem roundtripList (tbl : ClassTable) (v : Variant) (hv : v.sound) :
    ∀ es : List Expr, wfTermList tbl es = true → deserialiseList tbl (serialiseList v tbl es) = some es := by
  intro es h
  simp only [wfTermList_eq_all, List.all_eq_true] at h
  rw [serialiseList_eq_map]
  exact deserialiseList_map fun e he => roundtrip tbl v hv e (h e he)

/-- the same for a formulated model: intensity, amplitudes, parameter defaults, kinematic variables
and components come back attribute by attribute, in the same order. -/
theorem roundtrip_model (tbl : ClassTable) (v : Variant) (hv : v.sound) (m : ModelRec)
    (hw : ∀ e ∈ m.exprs, wfTerm tbl e = true) :
    deserialiseModel tbl (serialiseModel v tbl m) = some m := by
  have hr : ∀ e, e ∈ m.exprs → deserialise tbl (serialise v tbl e) = some e :=
    fun e he => roundtrip tbl v hv e (hw e he)
  simp only [mem_exprs] at hr
  have hi := hr m.intensity (Or.inl rfl)
  have ha := optPairs_map (serialise v tbl) (deserialise tbl) m.amplitudes fun p hp =>
    ⟨hr _ (Or.inr (Or.inl ⟨p, hp, Or.inl rfl⟩)), hr _ (Or.inr (Or.inl ⟨p, hp, Or.inr rfl⟩))⟩
  have hp := optFst_map (serialise v tbl) (deserialise tbl) m.parameterDefaults fun p hp =>
    hr _ (Or.inr (Or.inr (Or.inl ⟨p, hp, rfl⟩)))
  have hk := optPairs_map (serialise v tbl) (deserialise tbl) m.kinematicVariables fun p hp =>
    ⟨hr _ (Or.inr (Or.inr (Or.inr (Or.inl ⟨p, hp, Or.inl rfl⟩)))),
      hr _ (Or.inr (Or.inr (Or.inr (Or.inl ⟨p, hp, Or.inr rfl⟩))))⟩
  have hc := optSnd_map (serialise v tbl) (deserialise tbl) m.components fun p hp =>
    hr _ (Or.inr (Or.inr (Or.inr (Or.inr ⟨p, hp, rfl⟩))))
  simp only [deserialiseModel, serialiseModel, hi, ha, hp, hk, hc]

/-- instance on the table regenerated from the working tree. -/
theorem roundtrip_package (v : Variant) (hv : v.sound) (e : Expr)
    (h : wfTerm Ampverif.Gen.C14.classTable e = true) :
    deserialise Ampverif.Gen.C14.classTable (serialise v Ampverif.Gen.C14.classTable e) = some e :=
  roundtrip _ v hv e h

/-! ### pickling hooks: what `serialise` assumes about the classes of the package

`serialise` = class + `__getnewargs__`. The model knows two kinds of classes: table classes (pickled as
the class and `_get_arguments(instance)`, the decorator's hook) and everything else (SymPy's default:
`func(*args)`; the array/sum helper classes of the package are such uninterpreted heads). The list of
classes that define (or inherit, or get patched with) a pickling hook of their own is regenerated from the
package (`Gen/C15Hooks.lean`); a hook the model does not know about breaks `hooks_as_modelled`. -/

/-- a helper class instance is pickled as `func(*args)`: nothing but its `args`. -/
theorem helper_serialised_by_args (v : Variant) (tbl : ClassTable) (h : String) (es : List Expr) :
    serialise v tbl (.app h es) = .op (.app h) (serialiseList v tbl es) := by
  simp [serialise]

/-- hand-written pickling hooks the model knows about: only the deprecated `UnevaluatedExpression`
base class (`__getnewargs_ex__`; no table class and no helper class derives from it — the hook
list is resolved through the MRO). -/
def expectedOtherHooks : List (String × String × String) :=
  [("ampform.sympy.deprecated.UnevaluatedExpression", "__getnewargs_ex__",
    "ampform.sympy.deprecated.UnevaluatedExpression.__getnewargs_ex__")]

/-- the pickling hooks found in the working tree are the modelled ones: (1) no hand-written hook
besides the expected one; (2) every table class pickles through the decorator's `_get_arguments`;
(3) only table classes do; (4) no helper class (uninterpreted head) has a hook of any kind. -/
theorem hooks_as_modelled :
    Ampverif.Gen.C15.otherHooks = expectedOtherHooks ∧
    (Ampverif.Gen.C14.classTable.all fun ci =>
        Ampverif.Gen.C15.decoratorHookClasses.contains ci.name) = true ∧
    (Ampverif.Gen.C15.decoratorHookClasses.all fun c =>
        (Ampverif.Gen.C14.classTable.find c).isSome) = true ∧
    (Ampverif.Gen.C14.helperClasses.all fun h =>
        !Ampverif.Gen.C15.decoratorHookClasses.contains h
        && !(Ampverif.Gen.C15.otherHooks.map (·.1)).contains h
        && !Ampverif.Gen.C15.attrsStateClasses.contains h) = true := by
  simp only [find_isSome, ← contains_strKey]
  decide +kernel

/-! ### witness for the unsound variant -/

def vAstuple : Variant := ⟨true, true⟩
def wp : Sym := ⟨"p", []⟩
/-- `EuclideanNorm(ThreeMomentum(p))` -/
def wNorm : Expr :=
  .node "ampform.kinematics.lorentz.EuclideanNorm"
    [.node "ampform.kinematics.lorentz.ThreeMomentum" [.sym wp] []] []

/-- recursive `__getnewargs__` (`dataclasses.astuple`): the nested instance is pickled as a
tuple of its fields and comes back as `EuclideanNorm(Tuple(p))`. -/
theorem witness_recursive_getnewargs :
    deserialise Ampverif.Gen.C14.classTable (serialise vAstuple Ampverif.Gen.C14.classTable wNorm)
      = some (.node "ampform.kinematics.lorentz.EuclideanNorm" [.app "Tuple" [.sym wp]] []) ∧
    deserialise Ampverif.Gen.C14.classTable (serialise Variant.current Ampverif.Gen.C14.classTable wNorm)
      = some wNorm := by
  decide +kernel

/-! ### non-vacuity -/

example : wfTerm Ampverif.Gen.C14.classTable wNorm = true := by decide +kernel

/-- a small model record with a nested instance carrying a non-SymPy attribute. -/
def wModel : ModelRec :=
  { intensity := .pow (.app "h:Abs" [.sym ⟨"A", []⟩]) 2
    amplitudes := [(.sym ⟨"A", []⟩,
      .mul [.sym ⟨"c", []⟩, .node "ampform.dynamics.phasespace.PhaseSpaceFactor"
        [.node "ampform.dynamics.phasespace.BreakupMomentumSquared" [.sym ⟨"s", []⟩, .sym ⟨"m1", []⟩, .sym ⟨"m2", []⟩] [.str "q"],
         .sym ⟨"m1", []⟩, .sym ⟨"m2", []⟩] [.none]])]
    parameterDefaults := [(.sym ⟨"c", []⟩, "1+0j")]
    kinematicVariables := [(.sym ⟨"s", []⟩, .node "ampform.kinematics.lorentz.InvariantMass" [.sym wp] [])]
    components := [("I", .sym ⟨"A", []⟩)]
    reactionInfo := "reaction" }

example : deserialiseModel Ampverif.Gen.C14.classTable
    (serialiseModel Variant.current Ampverif.Gen.C14.classTable wModel) = some wModel :=
  roundtrip_model _ _ (by decide) wModel (by decide +kernel)

end Ampverif.Props.C15
