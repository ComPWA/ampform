/-
C07 — kinematic variables mean what their names say, in every topology.

The theorems are about the topology model M2 (`Ampverif/Model/Topology.lean`, a line-by-line mirror
of decay.py / naming.py / lorentz.py / angles.py / kinematics/__init__.py that every run compares
with the real code on all isobar topologies and all permutations) and about `Ampverif.Gen.C07.*`,
which is REGENERATED from the source on every run.

A DESCRIPTOR says what a symbol is computed from: a mass is `InvariantMass(Σ_{i∈ids} p_i)`; an
angle pair is `Phi/Theta` of `Σ_{i∈target} p_i` after boosting successively into the subsystems of
`chain` (each boost being `Bz(β)·Ry(−θ)·Rz(−φ)` of the subsystem's momentum in the previous
frame). Hypotheses that are forced:
* `WF top`            — edge ids pairwise distinct (they are dict keys in qrules);
* `DigitIds top.leaves` — final-state ids are single decimal digits: the names concatenate decimal
  digits, so with an id ≥ 10 the name `m_112` is ambiguous. Only the theorems that read a name
  back need it.
-/
import Ampverif.Lemmas.C07Angles
import Ampverif.Lemmas.C07Polar
import Ampverif.Gen.C07

namespace Ampverif.Props.C07
open Ampverif.Model.Topology Ampverif.Lemmas.C07

/-- For EVERY decay tree and every edge `s` of it: the id-addressed functions of the model
(`determine_attached_final_state`, `get_invariant_mass_symbol`) return the final states below the
edge — a sorted permutation of the leaves of the subtree — and the name `m_<digits>` built from
them; reading the digits of the name back gives exactly that set. So `m_S` denotes
`InvariantMass(Σ_{i∈S} p_i)` with `S` the attached final states. -/
theorem C07_mass (top : Tree) (hw : WF top) (hd : DigitIds top.leaves) :
    ∀ s ∈ top.subtrees,
      determineAttached top s.id = .ok s.attached ∧
      massName top s.id = .ok (massNameOf s.attached) ∧
      parseMassName (massNameOf s.attached) = s.attached ∧
      s.attached.Perm s.leaves ∧ s.attached.Pairwise (· ≤ ·) := by
  intro s hs
  obtain ⟨anc, hat⟩ := exists_at_of_mem_subtrees hs
  have h1 := determineAttached_at hw hat
  refine ⟨h1, ?_, ?_, attached_perm s, attached_sorted s⟩
  · simp [massName, h1, massNameOf]
  · rw [parse_massName ((sortInts_attached s).symm ▸ digitIds_subtree hd hs), sortInts_attached]

/-- every entry of the dictionary returned by `compute_invariant_masses` (any iteration order of
`topology.edges`) is `m_S ↦ InvariantMass(Σ_{i∈S} p_i)` for the final states `S` below an edge -/
theorem C07_mass_dict (top : Tree) (order : List Int) :
    ∀ kv ∈ invariantMasses top order,
      ∃ s ∈ top.subtrees, kv = (massNameOf s.attached, Def.mass s.attached) :=
  fun _ hkv => mem_invariantMasses hkv

/-- Helicity angles, for EVERY decay tree (hence every labelling of its edges).

(a) With the angles sourced from the helicity state the assignments of the recursion are EXACTLY
the documented ones: one pair per decay node, named `_{H}^{…}` after the helicity child `H` (the
child with the smaller sorted id tuple) and the subsystems above it from the nearest to the
farthest (initial state left out), computed in the helicity frame reached by boosting successively
through those subsystems from the outermost inwards, and measuring the momentum of `H`.

(b) The pinned source gives every decay node its symbols with the documented name and the
documented chain of frames; the measured momentum is that of `H`, or — only in the
opposite-helicity branch — that of the DECAYING opposite-helicity child.  -/
theorem C07_angles (top : Tree) (hw : WF top) :
    (∀ v : Variant, v.angleSource = .helicityState →
        ∀ w, w ∈ angleWrites v top ↔ w ∈ docAngles [] top) ∧
    (∀ w ∈ angleWrites Variant.pinned top, ∃ n ∈ nodesOf [] top, WriteOf Variant.pinned n w) ∧
    (∀ n ∈ nodesOf [] top, ∃ w ∈ angleWrites Variant.pinned top, WriteOf Variant.pinned n w) := by
  refine ⟨?_, fun w h => angleWrites_sound hw h, fun n hn => angleWrites_complete hw hn⟩
  intro v hv w
  constructor
  · intro h
    obtain ⟨n, hn, hwn⟩ := angleWrites_sound hw h
    rw [writeOf_documented hv hwn]
    exact List.mem_map.2 ⟨n, hn, rfl⟩
  · intro h
    obtain ⟨n, hn, rfl⟩ := List.mem_map.1 h
    obtain ⟨w', hw', hwn⟩ := angleWrites_complete (v := v) hw hn
    rw [← writeOf_documented hv hwn]; exact hw'

/-- a name determines its descriptor across any two topologies with the same final states -/
def NameDeterminesDescriptor (v : Variant) : Prop :=
  ∀ t1 t2 : Tree, WF t1 → WF t2 → DigitIds t1.leaves → DigitIds t2.leaves →
    t1.attached = t2.attached →
    ∀ w1 ∈ angleWrites v t1, ∀ w2 ∈ angleWrites v t2, w1.suffix = w2.suffix → w1.desc = w2.desc

/-- With the angles sourced from the helicity state a name determines its descriptor, across any
set of topologies (ids < 10). -/
theorem C07_injective (v : Variant) (hv : v.angleSource = .helicityState) :
    NameDeterminesDescriptor v := by
  intro t1 t2 h1 h2 d1 d2 _ w1 m1 w2 m2 e
  obtain ⟨n1, _, n2, _, o1, o2, k1, k2⟩ := same_name_nodes h1 h2 d1 d2 m1 m2 e
  rw [writeOf_documented hv o1, writeOf_documented hv o2]
  simp [docWrite, k2]
  exact k1

/-- … and therefore `HelicityAdapter.create_expressions()` does not depend on the iteration order
of its topology set: the merged dictionary gives every name (angles and masses) the definition
that EVERY registered topology gives it. -/
theorem C07_merge_consistent (v : Variant) (hv : v.angleSource = .helicityState)
    (tops : List (Tree × List Int))
    (hw : ∀ t ∈ tops, WF t.1 ∧ DigitIds t.1.leaves) (hfs : ∀ t ∈ tops, ∀ t' ∈ tops, t.1.attached = t'.1.attached) :
    ∀ kv ∈ createExpressions v tops, ∀ t ∈ tops, ∀ kv' ∈ topologyWrites v t.1 t.2,
      kv'.1 = kv.1 → kv'.2 = kv.2 := by
  -- any two entries of (possibly different) topologies with the same key have the same value
  have key : ∀ t ∈ tops, ∀ t' ∈ tops, ∀ kv ∈ topologyWrites v t.1 t.2,
      ∀ kv' ∈ topologyWrites v t'.1 t'.2, kv'.1 = kv.1 → kv'.2 = kv.2 := by
    intro t ht t' ht' kv hkv kv' hkv' e
    obtain ⟨w1, dd1⟩ := hw t ht
    obtain ⟨w2, dd2⟩ := hw t' ht'
    rcases mem_topologyWrites hkv with ⟨wa, hwa, hk⟩ | ⟨sa, hsa, hk⟩ <;>
      rcases mem_topologyWrites hkv' with ⟨wb, hwb, hk'⟩ | ⟨sb, hsb, hk'⟩
    · have inj := C07_injective v hv t.1 t'.1 w1 w2 dd1 dd2 (hfs t ht t' ht') wa hwa wb hwb
      rcases hk with rfl | rfl <;> rcases hk' with rfl | rfl
      · simp at e; simp [inj e.symm]
      · simp at e
      · simp at e
      · simp at e; simp [inj e.symm]
    · rcases hk with rfl | rfl <;> (subst hk'; simp [massNameOf] at e)
    · rcases hk' with rfl | rfl <;> (subst hk; simp [massNameOf] at e)
    · subst hk; subst hk'
      simp only [massNameOf, List.append_cancel_left_eq] at e
      rw [sortInts_attached, sortInts_attached] at e
      rw [concatDigits_inj (digitIds_subtree dd2 hsb) (digitIds_subtree dd1 hsa) e]
  intro kv hkv t ht kv' hkv' e
  rcases mem_createExpressions v tops [] kv hkv with h | ⟨t0, ht0, h⟩
  · cases h
  · exact key t0 ht0 t ht kv h kv' hkv' e

/-! ## The pinned source: witness and what still holds -/

/-- two isomorphic two-resonance four-body topologies of the permuted set, as qrules has them;
they differ only in which intermediate edge carries id 4 and which id 5 -/
def witnessA : Topo := ⟨[⟨-1, none, some 0⟩, ⟨0, some 1, none⟩, ⟨1, some 2, none⟩, ⟨2, some 2, none⟩,
  ⟨3, some 1, none⟩, ⟨4, some 0, some 1⟩, ⟨5, some 0, some 2⟩]⟩
def witnessB : Topo := ⟨[⟨-1, none, some 0⟩, ⟨0, some 2, none⟩, ⟨1, some 1, none⟩, ⟨2, some 1, none⟩,
  ⟨3, some 2, none⟩, ⟨4, some 0, some 1⟩, ⟨5, some 0, some 2⟩]⟩
def treeA : Tree := .node (-1) (.node 4 (.leaf 0) (.leaf 3)) (.node 5 (.leaf 1) (.leaf 2))
def treeB : Tree := .node (-1) (.node 4 (.leaf 1) (.leaf 2)) (.node 5 (.leaf 0) (.leaf 3))

/-- The pinned source (`angleSource = decaying`): `phi_03` is `Φ(p1+p2)` in one topology and
`Φ(p0+p3)` in an isomorphic one with the same final states; a name does NOT determine its
descriptor. (Replayable: these are two of the 18 permuted four-body topologies.) -/
theorem C07_witness_collision :
    witnessA.toTree = .ok treeA ∧ witnessB.toTree = .ok treeB ∧
    dictGet? (helicityAngles Variant.pinned treeA) ['p', 'h', 'i', '_', '0', '3']
      = some (.phi ⟨[], [1, 2]⟩) ∧
    dictGet? (helicityAngles Variant.pinned treeB) ['p', 'h', 'i', '_', '0', '3']
      = some (.phi ⟨[], [0, 3]⟩) ∧
    ¬ NameDeterminesDescriptor Variant.pinned := by
  refine ⟨by decide +kernel, by decide +kernel, by decide +kernel, by decide +kernel, ?_⟩
  intro h
  have := h treeA treeB (by decide +kernel) (by decide +kernel) (by decide +kernel) (by decide +kernel) (by decide +kernel)
    ⟨['_', '0', '3'], ⟨[], [1, 2]⟩⟩ (by decide +kernel) ⟨['_', '0', '3'], ⟨[], [0, 3]⟩⟩ (by decide +kernel) rfl
  exact absurd this (by decide +kernel)

/-- the same two topologies with the angles sourced from the helicity state: both `Φ(p0+p3)` -/
theorem C07_witness_repaired :
    dictGet? (helicityAngles Variant.documented treeA) ['p', 'h', 'i', '_', '0', '3']
      = some (.phi ⟨[], [0, 3]⟩) ∧
    dictGet? (helicityAngles Variant.documented treeB) ['p', 'h', 'i', '_', '0', '3']
      = some (.phi ⟨[], [0, 3]⟩) := by
  refine ⟨by decide +kernel, by decide +kernel⟩

/-- the unrestricted statement for the pinned source — NOT a theorem: `C07_witness_collision`
refutes it; what holds is `C07_partial` -/
def C07_full_statement : Prop := NameDeterminesDescriptor Variant.pinned

/-- The full statement for the pinned source is false (`C07_witness_collision`); what holds:
among topologies WITHOUT a decay node whose two children both decay, a name determines its
descriptor also with the pinned source. (Cascades of any length qualify; the two-resonance
four-body trees do not.) -/
theorem C07_partial (t1 t2 : Tree) (h1 : WF t1) (h2 : WF t2) (d1 : DigitIds t1.leaves)
    (d2 : DigitIds t2.leaves) (hfs : t1.attached = t2.attached)
    (nd1 : NoDoubleDecay t1) (nd2 : NoDoubleDecay t2) :
    ∀ w1 ∈ angleWrites Variant.pinned t1, ∀ w2 ∈ angleWrites Variant.pinned t2,
      w1.suffix = w2.suffix → w1.desc = w2.desc := by
  intro w1 m1 w2 m2 e
  obtain ⟨n1, hn1, n2, hn2, o1, o2, k1, k2⟩ := same_name_nodes h1 h2 d1 d2 m1 m2 e
  -- the decaying subsystem is the same, hence so is the opposite-helicity child
  obtain ⟨r1, f1, g1⟩ := nodesOf_frame t1 [] n1 hn1
  obtain ⟨r2, f2, g2⟩ := nodesOf_frame t2 [] n2 hn2
  rw [List.nil_append] at f1 f2
  have hr : r1 = r2 := by rw [← f1, ← f2, k2]
  have p1 := hel_opp_perm n1
  rw [g1, hr, hfs, ← g2, k1] at p1
  have ko : (NodeCtx.opp n1).attached = (NodeCtx.opp n2).attached :=
    sorted_perm_eq (attached_sorted _) (attached_sorted _)
      ((List.perm_append_left_iff _).1 (p1.trans (hel_opp_perm n2).symm))
  -- so the two writes carry the same chain and measure the same momentum
  refine desc_ext (by rw [o1.2.1, o2.2.1, k2]) ?_
  rw [writeOf_decaying_target o1 (nodesOf_noDouble t1 [] nd1 n1 hn1),
    writeOf_decaying_target o2 (nodesOf_noDouble t2 [] nd2 n2 hn2), k1, ko]

/-! ## `InvariantMass` (regenerated) is the Minkowski norm -/

open Ampverif.Gen.C07 in
/-- The unfolding of `InvariantMass(p0 + p1)` — through `Energy`, `ThreeMomentum`, `EuclideanNorm`
and `ComplexSqrt` — is `√(E² − |p⃗|²)` of the summed momentum for time-like (or light-like) sums:
real part the root, imaginary part 0; and it is built from the regenerated `Energy` and
`EuclideanNorm(ThreeMomentum(·))`. -/
theorem C07_norm (E0 x0 y0 z0 E1 x1 y1 z1 : ℝ)
    (h : (x0 + x1) ^ 2 + (y0 + y1) ^ 2 + (z0 + z1) ^ 2 ≤ (E0 + E1) ^ 2) :
    invMassRe E0 x0 y0 z0 E1 x1 y1 z1
        = Real.sqrt ((E0 + E1) ^ 2 - ((x0 + x1) ^ 2 + (y0 + y1) ^ 2 + (z0 + z1) ^ 2)) ∧
    invMassIm E0 x0 y0 z0 E1 x1 y1 z1 = 0 ∧
    invMassRe E0 x0 y0 z0 E1 x1 y1 z1
        = Real.sqrt (energy E0 x0 y0 z0 E1 x1 y1 z1 ^ 2 - normP E0 x0 y0 z0 E1 x1 y1 z1 ^ 2) := by
  have hc := mt spacelike_iff.1 h.not_gt
  refine ⟨?_, ?_, ?_⟩
  · unfold invMassRe
    rw [if_neg hc, neg_one_mul, ← sub_eq_add_neg]
  · unfold invMassIm
    rw [if_neg hc]
  · unfold invMassRe energy normP
    rw [if_neg hc, neg_one_mul, ← sub_eq_add_neg,
      Real.sq_sqrt (add_nonneg (add_nonneg (sq_nonneg _) (sq_nonneg _)) (sq_nonneg _))]

open Ampverif.Gen.C07 in
/-- space-like sums: purely imaginary, `i·√(|p⃗|² − E²)` (the `ComplexSqrt` branch) -/
theorem C07_norm_spacelike (E0 x0 y0 z0 E1 x1 y1 z1 : ℝ)
    (h : (E0 + E1) ^ 2 < (x0 + x1) ^ 2 + (y0 + y1) ^ 2 + (z0 + z1) ^ 2) :
    invMassRe E0 x0 y0 z0 E1 x1 y1 z1 = 0 ∧
    invMassIm E0 x0 y0 z0 E1 x1 y1 z1
        = Real.sqrt (((x0 + x1) ^ 2 + (y0 + y1) ^ 2 + (z0 + z1) ^ 2) - (E0 + E1) ^ 2) := by
  have hc := spacelike_iff.2 h
  refine ⟨?_, ?_⟩
  · unfold invMassRe; rw [if_pos hc]
  · unfold invMassIm; rw [if_pos hc, neg_one_mul, neg_add_eq_sub]

/-! ## `Theta` and `Phi` (regenerated) are the polar and the azimuthal angle -/

open Ampverif.Gen.C07 in
/-- The unfolding of `Theta(p0 + p1)` is `arccos(p_z/|p⃗|)`: it lies in `[0, π]`, and for `p⃗ ≠ 0`
`|p⃗| cos θ = p_z`, `|p⃗| sin θ = p_T` (the transverse momentum `√(p_x²+p_y²)`). -/
theorem C07_theta_polar (E0 x0 y0 z0 E1 x1 y1 z1 : ℝ)
    (hp : 0 < (x0 + x1) ^ 2 + (y0 + y1) ^ 2 + (z0 + z1) ^ 2) :
    theta E0 x0 y0 z0 E1 x1 y1 z1
        = Real.arccos ((z0 + z1) / Real.sqrt ((x0 + x1) ^ 2 + (y0 + y1) ^ 2 + (z0 + z1) ^ 2)) ∧
    0 ≤ theta E0 x0 y0 z0 E1 x1 y1 z1 ∧ theta E0 x0 y0 z0 E1 x1 y1 z1 ≤ Real.pi ∧
    Real.sqrt ((x0 + x1) ^ 2 + (y0 + y1) ^ 2 + (z0 + z1) ^ 2) * Real.cos (theta E0 x0 y0 z0 E1 x1 y1 z1)
        = z0 + z1 ∧
    Real.sqrt ((x0 + x1) ^ 2 + (y0 + y1) ^ 2 + (z0 + z1) ^ 2) * Real.sin (theta E0 x0 y0 z0 E1 x1 y1 z1)
        = Real.sqrt ((x0 + x1) ^ 2 + (y0 + y1) ^ 2) := by
  have hn := polar_of_norm (Real.sqrt_pos.2 hp) (Real.sq_sqrt hp.le)
  refine ⟨?_, Real.arccos_nonneg _, Real.arccos_le_pi _, hn.1, hn.2⟩
  unfold theta
  rw [inv_mul_eq_div]

open Ampverif.Gen.C07 in
/-- The unfolding of `Phi(p0 + p1)` is `atan2(p_y, p_x)`, the argument of `p_x + i·p_y`: it lies in
`(−π, π]`, and for `p_T ≠ 0`: `p_T cos φ = p_x`, `p_T sin φ = p_y`. Together with
`C07_theta_polar`: `p⃗ = |p⃗| (sin θ cos φ, sin θ sin φ, cos θ)`. -/
theorem C07_phi_azimuth (E0 x0 y0 z0 E1 x1 y1 z1 : ℝ)
    (hpt : 0 < (x0 + x1) ^ 2 + (y0 + y1) ^ 2) :
    phi E0 x0 y0 z0 E1 x1 y1 z1 = Complex.arg ⟨x0 + x1, y0 + y1⟩ ∧
    -Real.pi < phi E0 x0 y0 z0 E1 x1 y1 z1 ∧ phi E0 x0 y0 z0 E1 x1 y1 z1 ≤ Real.pi ∧
    Real.sqrt ((x0 + x1) ^ 2 + (y0 + y1) ^ 2) * Real.cos (phi E0 x0 y0 z0 E1 x1 y1 z1) = x0 + x1 ∧
    Real.sqrt ((x0 + x1) ^ 2 + (y0 + y1) ^ 2) * Real.sin (phi E0 x0 y0 z0 E1 x1 y1 z1) = y0 + y1 := by
  have ha := azimuth (x0 + x1) (y0 + y1)
  exact ⟨rfl, Complex.neg_pi_lt_arg _, Complex.arg_le_pi _, ha.1, ha.2⟩

open Ampverif.Gen.C07 in
/-- spherical decomposition of the summed three-momentum by the regenerated `Theta` and `Phi` -/
theorem C07_theta_phi_spherical (E0 x0 y0 z0 E1 x1 y1 z1 : ℝ)
    (hpt : 0 < (x0 + x1) ^ 2 + (y0 + y1) ^ 2) :
    let n := Real.sqrt ((x0 + x1) ^ 2 + (y0 + y1) ^ 2 + (z0 + z1) ^ 2)
    let θ := theta E0 x0 y0 z0 E1 x1 y1 z1
    let φ := phi E0 x0 y0 z0 E1 x1 y1 z1
    x0 + x1 = n * Real.sin θ * Real.cos φ ∧ y0 + y1 = n * Real.sin θ * Real.sin φ ∧
    z0 + z1 = n * Real.cos θ := by
  intro n θ φ
  obtain ⟨_, _, _, hc, hs⟩ := C07_theta_polar E0 x0 y0 z0 E1 x1 y1 z1
    (add_pos_of_pos_of_nonneg hpt (sq_nonneg _))
  obtain ⟨_, _, _, hcφ, hsφ⟩ := C07_phi_azimuth E0 x0 y0 z0 E1 x1 y1 z1 hpt
  refine ⟨?_, ?_, hc.symm⟩
  · show x0 + x1 = n * Real.sin θ * Real.cos φ
    rw [hs, hcφ]
  · show y0 + y1 = n * Real.sin θ * Real.sin φ
    rw [hs, hsφ]

/-- a five-body tree with a two-resonance node below a cascade step -/
def exampleTree : Tree :=
  .node (-1) (.leaf 0) (.node 7 (.node 5 (.leaf 1) (.leaf 4)) (.node 6 (.leaf 3) (.leaf 2)))

example : WF exampleTree ∧ DigitIds exampleTree.leaves := by decide +kernel

/-- the documented angles of the example -/
example : (docAngles [] exampleTree).map (fun w => (String.ofList w.suffix, w.desc.chain, w.desc.target))
    = [("_0", [], [0]), ("_14^1234", [[1, 2, 3, 4]], [1, 4]),
       ("_1^14,1234", [[1, 2, 3, 4], [1, 4]], [1]), ("_2^23,1234", [[1, 2, 3, 4], [2, 3]], [2])] := by
  decide +kernel

/-- … and the pinned source on the same tree: `_0 ↦ Φ(p1+p2+p3+p4)` (decaying opposite-helicity
child, as in the docstring of `compute_helicity_angles`) and `_14^1234 ↦ Φ(p2+p3)` (the last
write of the both-decay node) -/
example : (helicityAngles Variant.pinned exampleTree).map (fun kv => (String.ofList kv.1, kv.2))
    = [("phi_0", .phi ⟨[], [1, 2, 3, 4]⟩), ("theta_0", .theta ⟨[], [1, 2, 3, 4]⟩),
       ("phi_14^1234", .phi ⟨[[1, 2, 3, 4]], [2, 3]⟩), ("theta_14^1234", .theta ⟨[[1, 2, 3, 4]], [2, 3]⟩),
       ("phi_1^14,1234", .phi ⟨[[1, 2, 3, 4], [1, 4]], [1]⟩),
       ("theta_1^14,1234", .theta ⟨[[1, 2, 3, 4], [1, 4]], [1]⟩),
       ("phi_2^23,1234", .phi ⟨[[1, 2, 3, 4], [2, 3]], [2]⟩),
       ("theta_2^23,1234", .theta ⟨[[1, 2, 3, 4], [2, 3]], [2]⟩)] := by
  decide +kernel

example : massName exampleTree 7 = .ok ['m', '_', '1', '2', '3', '4'] := by decide +kernel

/-- `C07_partial` is not vacuous: a four-body cascade has no both-decay node -/
example : NoDoubleDecay (.node (-1) (.leaf 0) (.node 4 (.leaf 1) (.node 5 (.leaf 2) (.leaf 3)))) := by
  decide +kernel

/-! ### registration histories (exception safety of `HelicityAdapter.register_topology`) -/

open Ampverif.Model.Topology in
/-- A REJECTED `register_topology` call (any error) leaves the registered set exactly as it was —
for every history before it. (The code checks before it adds; the correspondence drives the real
adapter through such histories and compares what stays registered and what `create_expressions()`
then returns.) -/
theorem C07_rejected_registration_is_noop (ts : List Topo) (t : Topo) (e : Err)
    (h : registerTopology (registerHistory ts).1 t = .error e) :
    registerHistory (ts ++ [t]) = ((registerHistory ts).1, (registerHistory ts).2 + 1) := by
  unfold registerHistory at *
  rw [List.foldl_append]
  simp only [List.foldl_cons, List.foldl_nil]
  rw [h]

open Ampverif.Model.Topology in
/-- an ACCEPTED call registers exactly what `register_topology` returns and counts no rejection -/
theorem C07_accepted_registration (ts : List Topo) (t : Topo) (reg : List Topo)
    (h : registerTopology (registerHistory ts).1 t = .ok reg) :
    registerHistory (ts ++ [t]) = (reg, (registerHistory ts).2) := by
  unfold registerHistory at *
  rw [List.foldl_append]
  simp only [List.foldl_cons, List.foldl_nil]
  rw [h]

end Ampverif.Props.C07
