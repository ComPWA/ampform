/-
C20 — phase-space boundary functions classify three-body kinematics correctly.

All theorems are about `Ampverif.Gen.C20.*`, which is REGENERATED from
`/repo/src/ampform/kinematics/phasespace.py` on every run.
-/
import Ampverif.Gen.C20
import Ampverif.Lemmas.C20Frame
import Mathlib.Analysis.Real.Sqrt
import Mathlib.Tactic.Ring
import Mathlib.Tactic.Linarith
import Mathlib.Tactic.FieldSimp
import Mathlib.Tactic.LinearCombination
import Mathlib.Tactic.Positivity

namespace Ampverif.Props.C20
open Ampverif.Gen.C20

theorem kallen_symm_xy (x y z : ℝ) : Kallen x y z = Kallen y x z := by
  unfold Kallen; ring

theorem kallen_symm_yz (x y z : ℝ) : Kallen x y z = Kallen x z y := by
  unfold Kallen; ring

theorem kallen_symm_cyc (x y z : ℝ) : Kallen x y z = Kallen y z x := by
  unfold Kallen; ring

/-- `λ(x,y,z) = (x − (√y+√z)²)(x − (√y−√z)²)` for `y, z ≥ 0`. -/
theorem kallen_factor (x y z : ℝ) (hy : 0 ≤ y) (hz : 0 ≤ z) :
    Kallen x y z
      = (x - (Real.sqrt y + Real.sqrt z) ^ 2) * (x - (Real.sqrt y - Real.sqrt z) ^ 2) := by
  have h1 : Real.sqrt y ^ 2 = y := Real.sq_sqrt hy
  have h2 : Real.sqrt z ^ 2 = z := Real.sq_sqrt hz
  unfold Kallen
  generalize Real.sqrt y = a at *
  generalize Real.sqrt z = b at *
  subst h1 h2
  ring

/-! ### Events

A four-momentum is given by its components; `msq` is the Minkowski square. An event is three
final-state momenta; nothing else is assumed for the Mandelstam sum rule. -/

def msq (E x y z : ℝ) : ℝ := E ^ 2 - x ^ 2 - y ^ 2 - z ^ 2

/-- For EVERY three four-momenta (no frame condition), the third Mandelstam variable computed by
the library from `σ₁ = (p₂+p₃)²`, `σ₂ = (p₁+p₃)²` equals the true `σ₃ = (p₁+p₂)²`. -/
theorem third_mandelstam_event
    (E1 x1 y1 z1 E2 x2 y2 z2 E3 x3 y3 z3 m0 m1 m2 m3 : ℝ)
    (h0 : m0 ^ 2 = msq (E1 + E2 + E3) (x1 + x2 + x3) (y1 + y2 + y3) (z1 + z2 + z3))
    (h1 : m1 ^ 2 = msq E1 x1 y1 z1) (h2 : m2 ^ 2 = msq E2 x2 y2 z2)
    (h3 : m3 ^ 2 = msq E3 x3 y3 z3) :
    thirdMandelstam (msq (E2 + E3) (x2 + x3) (y2 + y3) (z2 + z3))
        (msq (E1 + E3) (x1 + x3) (y1 + y3) (z1 + z3)) m0 m1 m2 m3
      = msq (E1 + E2) (x1 + x2) (y1 + y2) (z1 + z2) := by
  unfold thirdMandelstam
  rw [h0, h1, h2, h3]
  unfold msq
  ring

/-- The indicator sees the third Mandelstam variable of `thirdMandelstam` (structure of the
generated Piecewise) -/
theorem indicator_def (σ1 σ2 m0 m1 m2 m3 ov : ℝ) :
    isWithinPhasespace σ1 σ2 m0 m1 m2 m3 ov
      = if Kibble σ1 σ2 (thirdMandelstam σ1 σ2 m0 m1 m2 m3) m0 m1 m2 m3 ≤ 0 then 1 else ov := by
  unfold isWithinPhasespace thirdMandelstam
  rfl

/-! ### Events in any frame

Three four-momenta whose sum is time-like; the rest-frame statements after this section are the
case `P⃗ = 0`. -/

section AnyFrame
open Ampverif.Lemmas.C20Frame

/-- In any frame, `Kibble = 64 (H₂₃² − H₂₂H₃₃)` with `H_ij = ⟨P,p_i⟩⟨P,p_j⟩ − ⟨P,P⟩⟨p_i,p_j⟩`. -/
theorem kibble_any_frame_eq (p1 p2 p3 : V4) (m0 m1 m2 m3 : ℝ)
    (h0 : m0 ^ 2 = V4.sq (p1 + p2 + p3)) (h1 : m1 ^ 2 = V4.sq p1) (h2 : m2 ^ 2 = V4.sq p2)
    (h3 : m3 ^ 2 = V4.sq p3) :
    Kibble (V4.sq (p2 + p3)) (V4.sq (p1 + p3)) (V4.sq (p1 + p2)) m0 m1 m2 m3
      = 64 * (H (p1 + p2 + p3) p2 p3 ^ 2
          - H (p1 + p2 + p3) p2 p2 * H (p1 + p2 + p3) p3 p3) := by
  -- everything is a polynomial in the six products `⟨p_i,p_j⟩` (degree 4)
  unfold Kibble Kallen H
  rw [h0, h1, h2, h3]
  simp only [V4.sq, V4.dot_add_left, V4.dot_add_right, V4.dot_comm p2 p1,
    V4.dot_comm p3 p1, V4.dot_comm p3 p2]
  ring

/-- `Kibble ≤ 0` for every three four-momenta with a time-like sum, in any frame. -/
theorem kibble_event_nonpos_any_frame (p1 p2 p3 : V4) (m0 m1 m2 m3 : ℝ)
    (hpos : 0 < V4.sq (p1 + p2 + p3))
    (h0 : m0 ^ 2 = V4.sq (p1 + p2 + p3)) (h1 : m1 ^ 2 = V4.sq p1) (h2 : m2 ^ 2 = V4.sq p2)
    (h3 : m3 ^ 2 = V4.sq p3) :
    Kibble (V4.sq (p2 + p3)) (V4.sq (p1 + p3)) (V4.sq (p1 + p2)) m0 m1 m2 m3 ≤ 0 := by
  rw [kibble_any_frame_eq p1 p2 p3 m0 m1 m2 m3 h0 h1 h2 h3]
  have := H_cauchy_schwarz (p1 + p2 + p3) p2 p3 hpos
  linarith

/-- The third Mandelstam variable and the indicator, in any frame. -/
theorem indicator_event_any_frame (p1 p2 p3 : V4) (m0 m1 m2 m3 ov : ℝ)
    (hpos : 0 < V4.sq (p1 + p2 + p3))
    (h0 : m0 ^ 2 = V4.sq (p1 + p2 + p3)) (h1 : m1 ^ 2 = V4.sq p1) (h2 : m2 ^ 2 = V4.sq p2)
    (h3 : m3 ^ 2 = V4.sq p3) :
    thirdMandelstam (V4.sq (p2 + p3)) (V4.sq (p1 + p3)) m0 m1 m2 m3 = V4.sq (p1 + p2) ∧
    isWithinPhasespace (V4.sq (p2 + p3)) (V4.sq (p1 + p3)) m0 m1 m2 m3 ov = 1 := by
  have ht : thirdMandelstam (V4.sq (p2 + p3)) (V4.sq (p1 + p3)) m0 m1 m2 m3 = V4.sq (p1 + p2) := by
    unfold thirdMandelstam
    rw [h0, h1, h2, h3]
    unfold V4.sq V4.dot
    simp only [V4.add_t, V4.add_x, V4.add_y, V4.add_z]
    ring
  refine ⟨ht, ?_⟩
  rw [indicator_def, ht,
    if_pos (kibble_event_nonpos_any_frame p1 p2 p3 m0 m1 m2 m3 hpos h0 h1 h2 h3)]

example : ∃ p1 p2 p3 : V4, 0 < V4.sq (p1 + p2 + p3) ∧ 0 < V4.sq p1 ∧ p1.z ≠ 0 :=
  ⟨⟨13, -3, -4, 2⟩, ⟨5, 3, 0, 0⟩, ⟨5, 0, 4, 0⟩, by norm_num [V4.sq, V4.dot], by norm_num [V4.sq, V4.dot],
    by norm_num⟩

end AnyFrame

/-- In the rest frame of the decaying particle (`p⃗₁+p⃗₂+p⃗₃ = 0`, `m₀ = E₁+E₂+E₃`) the Kibble
function is `−64 m₀⁴ |p⃗₂ × p⃗₃|²`. -/
theorem kibble_event_eq
    (E1 E2 x2 y2 z2 E3 x3 y3 z3 m0 m1 m2 m3 : ℝ)
    (h0 : m0 = E1 + E2 + E3)
    (h1 : m1 ^ 2 = msq E1 (-(x2 + x3)) (-(y2 + y3)) (-(z2 + z3)))
    (h2 : m2 ^ 2 = msq E2 x2 y2 z2) (h3 : m3 ^ 2 = msq E3 x3 y3 z3) :
    Kibble (msq (E2 + E3) (x2 + x3) (y2 + y3) (z2 + z3))
        (msq (E1 + E3) (-(x2 + x3) + x3) (-(y2 + y3) + y3) (-(z2 + z3) + z3))
        (msq (E1 + E2) (-(x2 + x3) + x2) (-(y2 + y3) + y2) (-(z2 + z3) + z2))
        m0 m1 m2 m3
      = -64 * m0 ^ 4 * ((y2 * z3 - z2 * y3) ^ 2 + (z2 * x3 - x2 * z3) ^ 2 + (x2 * y3 - y2 * x3) ^ 2) := by
  have e : ∀ E x y z : ℝ, msq E x y z = Lemmas.C20Frame.V4.sq ⟨E, x, y, z⟩ := fun E x y z => by
    unfold msq Lemmas.C20Frame.V4.sq Lemmas.C20Frame.V4.dot; ring
  rw [e] at h1 h2 h3
  rw [e, e, e]
  -- in this frame `H P u v = m₀² (u⃗·v⃗)`, and the Cauchy–Schwarz defect is Lagrange's identity
  have hH : ∀ u v : Lemmas.C20Frame.V4,
      Lemmas.C20Frame.H (⟨E1, -(x2 + x3), -(y2 + y3), -(z2 + z3)⟩ + ⟨E2, x2, y2, z2⟩ + ⟨E3, x3, y3, z3⟩)
        u v = m0 ^ 2 * (u.x * v.x + u.y * v.y + u.z * v.z) := fun u v => by
    rw [Lemmas.C20Frame.H_rest _ u v (by show -(x2 + x3) + x2 + x3 = 0; ring)
      (by show -(y2 + y3) + y2 + y3 = 0; ring) (by show -(z2 + z3) + z2 + z3 = 0; ring), h0]
    rfl
  refine (kibble_any_frame_eq ⟨E1, -(x2 + x3), -(y2 + y3), -(z2 + z3)⟩ ⟨E2, x2, y2, z2⟩
    ⟨E3, x3, y3, z3⟩ m0 m1 m2 m3 ?_ h1 h2 h3).trans ?_
  · rw [h0]
    show _ = Lemmas.C20Frame.V4.sq ⟨E1 + E2 + E3, -(x2 + x3) + x2 + x3, -(y2 + y3) + y2 + y3,
      -(z2 + z3) + z2 + z3⟩
    rw [← e]; unfold msq; ring
  · rw [hH, hH, hH]; dsimp only; ring

/-- `Kibble ≤ 0` on every physical three-body event (rest frame of the parent). -/
theorem kibble_event_nonpos
    (E1 E2 x2 y2 z2 E3 x3 y3 z3 m0 m1 m2 m3 : ℝ)
    (h0 : m0 = E1 + E2 + E3)
    (h1 : m1 ^ 2 = msq E1 (-(x2 + x3)) (-(y2 + y3)) (-(z2 + z3)))
    (h2 : m2 ^ 2 = msq E2 x2 y2 z2) (h3 : m3 ^ 2 = msq E3 x3 y3 z3) :
    Kibble (msq (E2 + E3) (x2 + x3) (y2 + y3) (z2 + z3))
        (msq (E1 + E3) (-(x2 + x3) + x3) (-(y2 + y3) + y3) (-(z2 + z3) + z3))
        (msq (E1 + E2) (-(x2 + x3) + x2) (-(y2 + y3) + y2) (-(z2 + z3) + z2))
        m0 m1 m2 m3 ≤ 0 := by
  rw [kibble_event_eq E1 E2 x2 y2 z2 E3 x3 y3 z3 m0 m1 m2 m3 h0 h1 h2 h3]
  have : 0 ≤ m0 ^ 4 * ((y2 * z3 - z2 * y3) ^ 2 + (z2 * x3 - x2 * z3) ^ 2 + (x2 * y3 - y2 * x3) ^ 2) := by
    positivity
  linarith

/-- The indicator is 1 on every physical three-body event. -/
theorem indicator_event
    (E1 E2 x2 y2 z2 E3 x3 y3 z3 m0 m1 m2 m3 ov : ℝ)
    (h0 : m0 = E1 + E2 + E3)
    (h1 : m1 ^ 2 = msq E1 (-(x2 + x3)) (-(y2 + y3)) (-(z2 + z3)))
    (h2 : m2 ^ 2 = msq E2 x2 y2 z2) (h3 : m3 ^ 2 = msq E3 x3 y3 z3) :
    isWithinPhasespace (msq (E2 + E3) (x2 + x3) (y2 + y3) (z2 + z3))
        (msq (E1 + E3) (-(x2 + x3) + x3) (-(y2 + y3) + y3) (-(z2 + z3) + z3))
        m0 m1 m2 m3 ov = 1 := by
  rw [indicator_def]
  have hm0 : m0 ^ 2 = msq (E1 + E2 + E3) (-(x2 + x3) + x2 + x3) (-(y2 + y3) + y2 + y3)
      (-(z2 + z3) + z2 + z3) := by
    rw [h0]; unfold msq; ring
  rw [third_mandelstam_event E1 (-(x2 + x3)) (-(y2 + y3)) (-(z2 + z3)) E2 x2 y2 z2 E3 x3 y3 z3
    m0 m1 m2 m3 hm0 h1 h2 h3]
  rw [if_pos (kibble_event_nonpos E1 E2 x2 y2 z2 E3 x3 y3 z3 m0 m1 m2 m3 h0 h1 h2 h3)]

/-! ### Dalitz-plot limits (PDG kinematics review)

For fixed `σ₁ = m₂₃²`, in the (23) rest frame `E₃* = (σ₁ − m₂² + m₃²)/(2√σ₁)`,
`E₁* = (m₀² − σ₁ − m₁²)/(2√σ₁)` and `σ₂ = m₁₃²` ranges over
`(E₁*+E₃*)² − (√(E₁*²−m₁²) ± √(E₃*²−m₃²))²`. -/

noncomputable def E1s (σ1 m0 m1 : ℝ) : ℝ := (m0 ^ 2 - σ1 - m1 ^ 2) / (2 * Real.sqrt σ1)
noncomputable def E3s (σ1 m2 m3 : ℝ) : ℝ := (σ1 - m2 ^ 2 + m3 ^ 2) / (2 * Real.sqrt σ1)
noncomputable def sigma2Min (σ1 m0 m1 m2 m3 : ℝ) : ℝ :=
  (E1s σ1 m0 m1 + E3s σ1 m2 m3) ^ 2
    - (Real.sqrt (E1s σ1 m0 m1 ^ 2 - m1 ^ 2) + Real.sqrt (E3s σ1 m2 m3 ^ 2 - m3 ^ 2)) ^ 2
noncomputable def sigma2Max (σ1 m0 m1 m2 m3 : ℝ) : ℝ :=
  (E1s σ1 m0 m1 + E3s σ1 m2 m3) ^ 2
    - (Real.sqrt (E1s σ1 m0 m1 ^ 2 - m1 ^ 2) - Real.sqrt (E3s σ1 m2 m3 ^ 2 - m3 ^ 2)) ^ 2

/-- With the `σ₃` constraint inserted, Kibble factorises over the PDG limits. -/
theorem kibble_pdg_factor (σ1 σ2 m0 m1 m2 m3 : ℝ) (hσ1 : 0 < σ1)
    (ha : 0 ≤ E1s σ1 m0 m1 ^ 2 - m1 ^ 2) (hb : 0 ≤ E3s σ1 m2 m3 ^ 2 - m3 ^ 2) :
    Kibble σ1 σ2 (thirdMandelstam σ1 σ2 m0 m1 m2 m3) m0 m1 m2 m3
      = 16 * m0 ^ 2 * σ1 * ((σ2 - sigma2Min σ1 m0 m1 m2 m3) * (σ2 - sigma2Max σ1 m0 m1 m2 m3)) := by
  have hs : Real.sqrt σ1 ^ 2 = σ1 := Real.sq_sqrt hσ1.le
  have hspos : 0 < Real.sqrt σ1 := Real.sqrt_pos.mpr hσ1
  have hA := Real.sq_sqrt ha
  have hB := Real.sq_sqrt hb
  unfold sigma2Min sigma2Max
  generalize Real.sqrt (E1s σ1 m0 m1 ^ 2 - m1 ^ 2) = a at *
  generalize Real.sqrt (E3s σ1 m2 m3 ^ 2 - m3 ^ 2) = b at *
  -- (σ2 - A + (a+b)²)(σ2 - A + (a-b)²) = (σ2-A)² + 2(σ2-A)(a²+b²) + (a²-b²)²
  have key : (σ2 - ((E1s σ1 m0 m1 + E3s σ1 m2 m3) ^ 2 - (a + b) ^ 2))
        * (σ2 - ((E1s σ1 m0 m1 + E3s σ1 m2 m3) ^ 2 - (a - b) ^ 2))
      = (σ2 - (E1s σ1 m0 m1 + E3s σ1 m2 m3) ^ 2) ^ 2
        + 2 * (σ2 - (E1s σ1 m0 m1 + E3s σ1 m2 m3) ^ 2)
            * ((E1s σ1 m0 m1 ^ 2 - m1 ^ 2) + (E3s σ1 m2 m3 ^ 2 - m3 ^ 2))
        + ((E1s σ1 m0 m1 ^ 2 - m1 ^ 2) - (E3s σ1 m2 m3 ^ 2 - m3 ^ 2)) ^ 2 := by
    rw [← hA, ← hB]; ring
  rw [key]
  unfold E1s E3s Kibble Kallen thirdMandelstam
  generalize Real.sqrt σ1 = r at *
  subst hs
  field_simp
  ring

/-- Inside the bounding box the starred energies are physical. -/
theorem box_energies (σ1 m0 m1 m2 m3 : ℝ) (hσ1 : 0 < σ1)
    (hm1 : 0 ≤ m1) (hm2 : 0 ≤ m2) (hm3 : 0 ≤ m3)
    (hlo : (m2 + m3) ^ 2 ≤ σ1) (hhi : σ1 ≤ (m0 - m1) ^ 2) (hm0 : m1 ≤ m0) :
    0 ≤ E1s σ1 m0 m1 ^ 2 - m1 ^ 2 ∧ 0 ≤ E3s σ1 m2 m3 ^ 2 - m3 ^ 2 := by
  have hs : Real.sqrt σ1 ^ 2 = σ1 := Real.sq_sqrt hσ1.le
  have hspos : 0 < Real.sqrt σ1 := Real.sqrt_pos.mpr hσ1
  have hr_lo : m2 + m3 ≤ Real.sqrt σ1 := by
    rw [show m2 + m3 = Real.sqrt ((m2 + m3) ^ 2) from (Real.sqrt_sq (by linarith)).symm]
    exact Real.sqrt_le_sqrt hlo
  have hr_hi : Real.sqrt σ1 ≤ m0 - m1 := by
    rw [show m0 - m1 = Real.sqrt ((m0 - m1) ^ 2) from (Real.sqrt_sq (by linarith)).symm]
    exact Real.sqrt_le_sqrt hhi
  unfold E1s E3s
  generalize Real.sqrt σ1 = r at *
  subst hs
  -- `2 r m ≤ N` is `(r + m₁)² ≤ m₀²`, resp. `m₂² ≤ (r − m₃)²`
  exact ⟨Lemmas.C20Frame.sq_div_sub_sq_nonneg hspos hm1
      (by linarith [mul_self_le_mul_self (by linarith : 0 ≤ r + m1) (by linarith : r + m1 ≤ m0)]),
    Lemmas.C20Frame.sq_div_sub_sq_nonneg hspos hm3
      (by linarith [mul_self_le_mul_self hm2 (by linarith : m2 ≤ r - m3)])⟩

/-- The lower limit is below the upper one. -/
theorem sigma2Min_le_Max (σ1 m0 m1 m2 m3 : ℝ) :
    sigma2Min σ1 m0 m1 m2 m3 ≤ sigma2Max σ1 m0 m1 m2 m3 := by
  unfold sigma2Min sigma2Max
  have ha := Real.sqrt_nonneg (E1s σ1 m0 m1 ^ 2 - m1 ^ 2)
  have hb := Real.sqrt_nonneg (E3s σ1 m2 m3 ^ 2 - m3 ^ 2)
  nlinarith [mul_nonneg ha hb]

/-- Inside the bounding box, the indicator is 1 exactly between the Dalitz-plot limits and the
caller's outside value elsewhere (the `σ₂` box is not even needed). -/
theorem indicator_iff_pdg (σ1 σ2 m0 m1 m2 m3 ov : ℝ) (hσ1 : 0 < σ1) (h0 : 0 < m0)
    (hm1 : 0 ≤ m1) (hm2 : 0 ≤ m2) (hm3 : 0 ≤ m3)
    (hlo : (m2 + m3) ^ 2 ≤ σ1) (hhi : σ1 ≤ (m0 - m1) ^ 2) (hm0 : m1 ≤ m0) :
    isWithinPhasespace σ1 σ2 m0 m1 m2 m3 ov
      = if sigma2Min σ1 m0 m1 m2 m3 ≤ σ2 ∧ σ2 ≤ sigma2Max σ1 m0 m1 m2 m3 then 1 else ov := by
  obtain ⟨ha, hb⟩ := box_energies σ1 m0 m1 m2 m3 hσ1 hm1 hm2 hm3 hlo hhi hm0
  rw [indicator_def, kibble_pdg_factor σ1 σ2 m0 m1 m2 m3 hσ1 ha hb]
  exact if_congr (Lemmas.C20Frame.mul_sub_mul_sub_nonpos_iff (by positivity)
    (sigma2Min_le_Max σ1 m0 m1 m2 m3)) rfl rfl

/-! ### Calling conventions

`Gen.C20` also contains the definitions regenerated from the SAME four public objects reached by
keywords in declaration order (`KwDecl`), reversed (`KwRev`), rotated — e.g. the masses written
before the invariants — (`KwRot`), and with leading positional + trailing out-of-order keyword
arguments (`Mixed`); for the two `@unevaluated` classes additionally the unevaluated node itself
(`Node…`, i.e. its `.args` order). How the caller writes the arguments must not matter: each is
the positional definition, definitionally. (`Kibble.evaluate` unpacks `.args` by position, so a
constructor that orders `.args` by the caller's keywords breaks exactly these.) -/

theorem kallen_kw_decl (x y z : ℝ) :
    KallenKwDecl x y z = Kallen x y z := rfl

theorem kallen_kw_rev (x y z : ℝ) :
    KallenKwRev x y z = Kallen x y z := rfl

theorem kallen_kw_rot (x y z : ℝ) :
    KallenKwRot x y z = Kallen x y z := rfl

theorem kallen_mixed (x y z : ℝ) :
    KallenMixed x y z = Kallen x y z := rfl

theorem kallen_node_kw_rev (x y z : ℝ) :
    KallenNodeKwRev x y z = Kallen x y z := rfl

theorem kallen_node_mixed (x y z : ℝ) :
    KallenNodeMixed x y z = Kallen x y z := rfl

theorem kibble_kw_decl (σ1 σ2 σ3 m0 m1 m2 m3 : ℝ) :
    KibbleKwDecl σ1 σ2 σ3 m0 m1 m2 m3 = Kibble σ1 σ2 σ3 m0 m1 m2 m3 := rfl

theorem kibble_kw_rev (σ1 σ2 σ3 m0 m1 m2 m3 : ℝ) :
    KibbleKwRev σ1 σ2 σ3 m0 m1 m2 m3 = Kibble σ1 σ2 σ3 m0 m1 m2 m3 := rfl

theorem kibble_kw_rot (σ1 σ2 σ3 m0 m1 m2 m3 : ℝ) :
    KibbleKwRot σ1 σ2 σ3 m0 m1 m2 m3 = Kibble σ1 σ2 σ3 m0 m1 m2 m3 := rfl

theorem kibble_mixed (σ1 σ2 σ3 m0 m1 m2 m3 : ℝ) :
    KibbleMixed σ1 σ2 σ3 m0 m1 m2 m3 = Kibble σ1 σ2 σ3 m0 m1 m2 m3 := rfl

theorem kibble_node_kw_rev (σ1 σ2 σ3 m0 m1 m2 m3 : ℝ) :
    KibbleNodeKwRev σ1 σ2 σ3 m0 m1 m2 m3 = Kibble σ1 σ2 σ3 m0 m1 m2 m3 := rfl

theorem kibble_node_mixed (σ1 σ2 σ3 m0 m1 m2 m3 : ℝ) :
    KibbleNodeMixed σ1 σ2 σ3 m0 m1 m2 m3 = Kibble σ1 σ2 σ3 m0 m1 m2 m3 := rfl

theorem third_mandelstam_kw_decl (σ1 σ2 m0 m1 m2 m3 : ℝ) :
    thirdMandelstamKwDecl σ1 σ2 m0 m1 m2 m3 = thirdMandelstam σ1 σ2 m0 m1 m2 m3 := rfl

theorem third_mandelstam_kw_rev (σ1 σ2 m0 m1 m2 m3 : ℝ) :
    thirdMandelstamKwRev σ1 σ2 m0 m1 m2 m3 = thirdMandelstam σ1 σ2 m0 m1 m2 m3 := rfl

theorem third_mandelstam_kw_rot (σ1 σ2 m0 m1 m2 m3 : ℝ) :
    thirdMandelstamKwRot σ1 σ2 m0 m1 m2 m3 = thirdMandelstam σ1 σ2 m0 m1 m2 m3 := rfl

theorem third_mandelstam_mixed (σ1 σ2 m0 m1 m2 m3 : ℝ) :
    thirdMandelstamMixed σ1 σ2 m0 m1 m2 m3 = thirdMandelstam σ1 σ2 m0 m1 m2 m3 := rfl

theorem indicator_kw_decl (σ1 σ2 m0 m1 m2 m3 ov : ℝ) :
    isWithinPhasespaceKwDecl σ1 σ2 m0 m1 m2 m3 ov = isWithinPhasespace σ1 σ2 m0 m1 m2 m3 ov := rfl

theorem indicator_kw_rev (σ1 σ2 m0 m1 m2 m3 ov : ℝ) :
    isWithinPhasespaceKwRev σ1 σ2 m0 m1 m2 m3 ov = isWithinPhasespace σ1 σ2 m0 m1 m2 m3 ov := rfl

theorem indicator_kw_rot (σ1 σ2 m0 m1 m2 m3 ov : ℝ) :
    isWithinPhasespaceKwRot σ1 σ2 m0 m1 m2 m3 ov = isWithinPhasespace σ1 σ2 m0 m1 m2 m3 ov := rfl

theorem indicator_mixed (σ1 σ2 m0 m1 m2 m3 ov : ℝ) :
    isWithinPhasespaceMixed σ1 σ2 m0 m1 m2 m3 ov = isWithinPhasespace σ1 σ2 m0 m1 m2 m3 ov := rfl

example : ∃ E1 E2 x2 y2 z2 E3 x3 y3 z3 m0 m1 m2 m3 : ℝ,
    m0 = E1 + E2 + E3 ∧ m1 ^ 2 = msq E1 (-(x2 + x3)) (-(y2 + y3)) (-(z2 + z3)) ∧
    m2 ^ 2 = msq E2 x2 y2 z2 ∧ m3 ^ 2 = msq E3 x3 y3 z3 ∧ 0 < m1 ∧ x2 * y3 - y2 * x3 ≠ 0 :=
  -- p2 = (5; 3,0,0), m2 = 4; p3 = (5; 0,4,0), m3 = 3; p1 = (13; -3,-4,0), m1 = 12; m0 = 23
  ⟨13, 5, 3, 0, 0, 5, 0, 4, 0, 23, 12, 4, 3, by norm_num, by norm_num [msq], by norm_num [msq],
    by norm_num [msq], by norm_num, by norm_num⟩

example : ∃ σ1 m0 m1 m2 m3 : ℝ, 0 < σ1 ∧ 0 < m0 ∧ 0 ≤ m1 ∧ 0 ≤ m2 ∧ 0 ≤ m3 ∧
    (m2 + m3) ^ 2 ≤ σ1 ∧ σ1 ≤ (m0 - m1) ^ 2 ∧ m1 ≤ m0 :=
  ⟨4, 5, 1, 1, 0, by norm_num, by norm_num, by norm_num, by norm_num, by norm_num, by norm_num,
    by norm_num, by norm_num⟩

end Ampverif.Props.C20
