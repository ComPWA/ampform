/-
C17 — `HelicityModel.rename_symbols` is a consistent renaming of the whole model.

All theorems are about the executable model `Ampverif.Model.C17Rename` (`rename`, modelled line by
line on `/repo/src/ampform/helicity/__init__.py`; tied to the source on every run by the
correspondence harness `tools/corr/C17_corr.py`). A symbol is (name, COMPLETE assumption declaration = ternary
numeral of `assumptions0`, all True- and False-valued facts). `v : Variant` carries the two switches of fix
137fbcb and the switch of fix c9b6eb9; theorems that need a fix assume `v.sound` (or the one switch
they need), and for each unsound switch there is a kernel-checked witness whose input is replayed
on the real code.

Notation: `σ = sigma v m ρ` is the ONE symbol map (`symbol_mapping`, totalised by the identity)
that `rename v m ρ` applies; `renameOf ρ n` is `dict(renames).get(n)`; `nameMap ρ n` the final
name of a symbol called `n`.
-/
import Ampverif.Lemmas.C17Rename

namespace Ampverif.Props.C17
open Ampverif.Model.C17

/-- `if not renames: return self` -/
theorem rename_empty (v : Variant) (m : Model) : rename v m [] = m := by
  simp [rename]

/-- Every attribute of `rename v m ρ` is the original with the one map `σ` applied: expressions by
`xreplace σ`, dictionary keys by `σ` (then Python's dict semantics and the attrs converters). -/
theorem rename_attributes (v : Variant) (m : Model) (ρ : List (Name × Name)) (hρ : ρ ≠ []) :
    (rename v m ρ).expr = m.expr.xreplace (sigma v m ρ) ∧
    (rename v m ρ).intensity = m.intensity.xreplace (sigma v m ρ) ∧
    (rename v m ρ).amplitudes =
      orderAmplitudes (m.amplitudes.map (fun a => { a with defn := a.defn.xreplace (sigma v m ρ) })) ∧
    (rename v m ρ).params = dictOfList (m.params.map (fun kv => (sigma v m ρ kv.1, kv.2))) ∧
    (rename v m ρ).components =
      orderComponentMapping (m.components.map (fun c => (c.1, c.2.xreplace (sigma v m ρ)))) ∧
    (rename v m ρ).kinvars =
      orderSymbolMapping (dictOfList (m.kinvars.map (fun kv => (sigma v m ρ kv.1, kv.2.xreplace (sigma v m ρ))))) := by
  rw [rename_of_ne_nil v m hρ]
  exact ⟨rfl, rfl, rfl, rfl, rfl, rfl⟩

/-- No amplitude is lost, duplicated or left unrenamed: the amplitudes of the result are a
permutation (the converter's sort) of the originals with `σ` applied to the definitions. -/
theorem amplitudes_perm (v : Variant) (m : Model) (ρ : List (Name × Name)) (hρ : ρ ≠ []) :
    (rename v m ρ).amplitudes.Perm
      (m.amplitudes.map (fun a => { a with defn := a.defn.xreplace (sigma v m ρ) })) := by
  rw [rename_of_ne_nil v m hρ]
  exact isort_perm _ _

theorem components_perm (v : Variant) (m : Model) (ρ : List (Name × Name)) (hρ : ρ ≠ []) :
    (rename v m ρ).components.Perm
      (m.components.map (fun c => (c.1, c.2.xreplace (sigma v m ρ)))) := by
  rw [rename_of_ne_nil v m hρ]
  exact isort_perm _ _

/-- The parameter keys of the result are exactly the images of the original keys. -/
theorem param_keys_image (v : Variant) (m : Model) (ρ : List (Name × Name)) (hρ : ρ ≠ []) (k : Sym) :
    k ∈ (rename v m ρ).paramKeys ↔ ∃ k₀, k₀ ∈ m.paramKeys ∧ k = sigma v m ρ k₀ := by
  rw [rename_of_ne_nil v m hρ]
  exact mem_keys_dictOfList_map (sigma v m ρ) id m.params k

/-- Every value in the result's `parameter_defaults` is the value of an original key with that image. -/
theorem param_values_carried (v : Variant) (m : Model) (ρ : List (Name × Name)) (hρ : ρ ≠ [])
    (k : Sym) (val : Nat) (h : (k, val) ∈ (rename v m ρ).params) :
    ∃ k₀, (k₀, val) ∈ m.params ∧ k = sigma v m ρ k₀ := by
  rw [rename_of_ne_nil v m hρ] at h
  obtain ⟨kv, hkv, rfl, rfl⟩ := mem_dictOfList_map (g := id) h
  exact ⟨kv.1, hkv, rfl⟩

/-- Without a key collision `parameter_defaults` keeps its order and all its values. -/
theorem params_no_collision (v : Variant) (m : Model) (ρ : List (Name × Name)) (hρ : ρ ≠ [])
    (hnd : m.paramKeys.Nodup) (hinj : InjOn (sigma v m ρ) m.paramKeys) :
    (rename v m ρ).params = m.params.map (fun kv => (sigma v m ρ kv.1, kv.2)) := by
  rw [rename_of_ne_nil v m hρ]
  exact dictOfList_map_of_injOn id hnd hinj

/-- The kinematic-variable keys of the result are exactly the images of the original keys. -/
theorem kin_keys_image (v : Variant) (m : Model) (ρ : List (Name × Name)) (hρ : ρ ≠ []) (k : Sym) :
    k ∈ (rename v m ρ).kinKeys ↔ ∃ k₀, k₀ ∈ m.kinKeys ∧ k = sigma v m ρ k₀ := by
  rw [rename_of_ne_nil v m hρ]
  exact ((isort_perm _ _).map _).mem_iff.trans
    (mem_keys_dictOfList_map (sigma v m ρ) (Expr.xreplace (sigma v m ρ)) m.kinvars k)

/-- Every definition in the result's `kinematic_variables` is an original definition with `σ`
applied to key and expression. -/
theorem kin_defs_carried (v : Variant) (m : Model) (ρ : List (Name × Name)) (hρ : ρ ≠ [])
    (k : Sym) (e : Expr) (h : (k, e) ∈ (rename v m ρ).kinvars) :
    ∃ k₀ e₀, (k₀, e₀) ∈ m.kinvars ∧ k = sigma v m ρ k₀ ∧ e = e₀.xreplace (sigma v m ρ) := by
  rw [rename_of_ne_nil v m hρ] at h
  obtain ⟨kv, hkv, rfl, rfl⟩ := mem_dictOfList_map ((mem_isort _ _ _).mp h)
  exact ⟨kv.1, kv.2, hkv, rfl, rfl⟩

/-- Precondition (iii) of the design: when `σ` is injective on the kinematic-variable keys (a
dictionary cannot hold two definitions for one name), no definition is dropped — the result's
`kinematic_variables` are a permutation of all the original definitions with `σ` applied. -/
theorem kin_no_definition_lost (v : Variant) (m : Model) (ρ : List (Name × Name)) (hρ : ρ ≠ [])
    (hnd : m.kinKeys.Nodup) (hinj : InjOn (sigma v m ρ) m.kinKeys) :
    (rename v m ρ).kinvars.Perm
      (m.kinvars.map (fun kv => (sigma v m ρ kv.1, kv.2.xreplace (sigma v m ρ)))) := by
  rw [rename_of_ne_nil v m hρ]
  refine (isort_perm _ _).trans ?_
  rw [dictOfList_map_of_injOn _ hnd hinj]

/-- `σ` renames exactly the collected symbols whose name is in the map, to the requested name;
everything else is untouched (unrelated symbols, unknown names). -/
theorem sigma_spec (v : Variant) (m : Model) (ρ : List (Name × Name)) (s : Sym) :
    (s ∉ collect v m → sigma v m ρ s = s) ∧
    (renameOf ρ s.name = none → sigma v m ρ s = s) ∧
    (s ∈ collect v m → ∀ n', renameOf ρ s.name = some n' → (sigma v m ρ s).name = n') := by
  refine ⟨sigma_of_not_mem v m ρ s, ?_, ?_⟩
  · intro h
    by_cases hs : s ∈ collect v m
    · rw [sigma_of_mem v m ρ s hs, target_of_none h]
    · exact sigma_of_not_mem v m ρ s hs
  · intro hs n' h
    rw [sigma_of_mem v m ρ s hs]; exact target_name h

/-- Hypothesis (i) of the design, proved for the sound variant: every symbol that any attribute
mentions (expression, kinematic-variable keys and definitions, AND `parameter_defaults` keys) and
whose name is in the map ends up with the requested name. -/
theorem every_mention_renamed (v : Variant) (hv : v.sound) (m : Model) (ρ : List (Name × Name))
    (s : Sym) (hs : m.mentions s) (n' : Name) (h : renameOf ρ s.name = some n') :
    (sigma v m ρ s).name = n' :=
  (sigma_spec v m ρ s).2.2 ((mem_collect_of_collectsParams v hv.1 m s).mpr hs) n' h

/-- … so no parameter key keeps a name it was asked to give up: every key of the result carries the
final name of an original key. -/
theorem no_stale_parameter_name (v : Variant) (hv : v.sound) (m : Model) (ρ : List (Name × Name))
    (hρ : ρ ≠ []) (k : Sym) (hk : k ∈ (rename v m ρ).paramKeys) :
    ∃ k₀, k₀ ∈ m.paramKeys ∧ k.name = nameMap ρ k₀.name := by
  obtain ⟨k₀, hk₀, rfl⟩ := (param_keys_image v m ρ hρ k).mp hk
  refine ⟨k₀, hk₀, ?_⟩
  have hc : k₀ ∈ collect v m :=
    (mem_collect_of_collectsParams v hv.1 m k₀).mpr (Or.inr (Or.inr (Or.inl hk₀)))
  rw [sigma_of_mem v m ρ k₀ hc, target_nameMap]

/-- Witness for the unsound switch `collectsParams = false` (the tree before 137fbcb): the
parameter `m_0`, which occurs only in `parameter_defaults`, keeps its name although the map says
`m_0 ↦ mgamma`. Replayed on the real code by `tools/props/C17.py: witness_models()`. -/
theorem witness_params_not_collected :
    (rename Witness.unsoundNoParams Witness.witnessModel [(Witness.nM0, Witness.nMgamma)]).paramKeys
      = [Witness.a, Witness.d, Witness.m0] := by decide +kernel

/-- A symbol renamed to a name that no unrenamed collected symbol carries becomes the symbol of the
new name with the SAME assumptions — provided every symbol sent to that name has those assumptions
(always true when only one symbol is sent there). -/
theorem assumptions_preserved (v : Variant) (m : Model) (ρ : List (Name × Name)) (s : Sym)
    (hs : s ∈ collect v m) (n' : Name) (h : renameOf ρ s.name = some n')
    (hfresh : ∀ t, t ∈ collect v m → renameOf ρ t.name = none → t.name ≠ n')
    (hsame : ∀ t, t ∈ collect v m → renameOf ρ t.name = some n' → t.asm = s.asm) :
    sigma v m ρ s = ⟨n', s.asm⟩ := by
  obtain ⟨a₀, ha₀, hr, he, _⟩ := freshTarget_spec (v := v) hs h
  rw [sigma_fresh hs h hfresh, ordered, he, hsame a₀ ha₀ hr]

/-- The same in terms of the facts: `Sym.asm` is the complete declaration `assumptions0`, so the symbol
made for a single source under a fresh name carries EXACTLY the facts of its source — every fact that is
declared or derived True, every fact that is declared or derived False (`zero=False`, `real=False`,
`integer=False`, `positive=False`, `commutative=False`, …), and no other: fact by fact (`factDigit`:
False / True / absent) and as the list `sorted(assumptions0.items())` (`declFacts`). -/
theorem renamed_symbol_has_source_declaration (v : Variant) (m : Model) (ρ : List (Name × Name)) (s : Sym)
    (hs : s ∈ collect v m) (n' : Name) (h : renameOf ρ s.name = some n')
    (hfresh : ∀ t, t ∈ collect v m → renameOf ρ t.name = none → t.name ≠ n')
    (honly : ∀ t, t ∈ collect v m → renameOf ρ t.name = some n' → t = s) :
    (sigma v m ρ s).name = n' ∧ (sigma v m ρ s).asm = s.asm ∧
      (∀ i, factDigit i (sigma v m ρ s).asm = factDigit i s.asm) ∧
      declFacts (sigma v m ρ s).asm = declFacts s.asm ∧
      (∀ i, (i, false) ∈ declFacts s.asm → (i, false) ∈ declFacts (sigma v m ρ s).asm) := by
  have e := assumptions_preserved v m ρ s hs n' h hfresh (fun t ht hr => by rw [honly t ht hr])
  rw [e]
  exact ⟨rfl, rfl, fun _ => rfl, rfl, fun _ hi => hi⟩

/-- Rename, then rename back: when `s ↦ n'` made the symbol `⟨n', s.asm⟩` (theorem above), renaming the
name `n'` of the new model `m'` back to `s.name` (again fresh, again the only source) gives the original
symbol `s` — name and complete declaration. -/
theorem rename_back_restores_symbol (v : Variant) (m' : Model) (s : Sym) (n' : Name)
    (hs : (⟨n', s.asm⟩ : Sym) ∈ collect v m')
    (hfresh : ∀ t, t ∈ collect v m' → renameOf [(n', s.name)] t.name = none → t.name ≠ s.name)
    (honly : ∀ t, t ∈ collect v m' → renameOf [(n', s.name)] t.name = some s.name → t = ⟨n', s.asm⟩) :
    sigma v m' [(n', s.name)] ⟨n', s.asm⟩ = s := by
  have h : renameOf [(n', s.name)] (⟨n', s.asm⟩ : Sym).name = some s.name := by
    simp [renameOf, alookup]
  exact assumptions_preserved v m' [(n', s.name)] ⟨n', s.asm⟩ hs s.name h hfresh
    (fun t ht hr => by rw [honly t ht hr])

/-- Witness that the COMPLETE declaration is needed: a rebuild of the new symbol from
only the facts that hold, `Symbol(new, **{k: v for k, v in assumptions0.items() if v})`, is a different
symbol for the complex non-zero coupling `g = Symbol("g", zero=False)`: the model (and the unchanged source)
gives `k` with `g`'s declaration `{commutative: True, zero: False}`, the truthy-only rebuild gives
`{commutative: True}` — the fact `zero=False` (fact 30) is gone, so "assumptions are preserved" fails and no
attribute is "the original with the same map applied". Replayed on the real code by
`tools/props/C17.py: witness_models()` (probe `keepsEveryFact`). -/
theorem witness_truthy_only_rebuild_loses_facts :
    sigma Variant.fixed Witness.nonzeroModel [([103], Witness.nK)] Witness.gNonzero
        = ⟨Witness.nK, Witness.gNonzero.asm⟩ ∧
      declFacts Witness.gNonzero.asm = [(2, true), (30, false)] ∧
      (⟨Witness.nK, truthyOnly Witness.gNonzero.asm⟩ : Sym)
        ≠ sigma Variant.fixed Witness.nonzeroModel [([103], Witness.nK)] Witness.gNonzero ∧
      declFacts (truthyOnly Witness.gNonzero.asm) = [(2, true)] ∧
      -- a library-style symbol hides the difference only because SymPy re-derives its False facts from the
      -- True ones; the keyword arguments themselves differ there too
      truthyOnly Witness.d.asm ≠ Witness.d.asm := by
  decide +kernel

/-- In general the image carries the requested name and the assumptions of SOME symbol that was sent
to that name, or it is an existing unrenamed symbol of the requested name. -/
theorem image_fresh_or_existing (v : Variant) (m : Model) (ρ : List (Name × Name)) (s : Sym)
    (hs : s ∈ collect v m) (n' : Name) (h : renameOf ρ s.name = some n') :
    (∃ a₀, a₀ ∈ collect v m ∧ renameOf ρ a₀.name = some n' ∧ sigma v m ρ s = ⟨n', a₀.asm⟩) ∨
      (sigma v m ρ s ∈ collect v m ∧ renameOf ρ (sigma v m ρ s).name = none ∧ (sigma v m ρ s).name = n') := by
  obtain ⟨a₀, ha₀, hr, he, _⟩ := freshTarget_spec (v := v) hs h
  have hfr : ∃ a₀, a₀ ∈ collect v m ∧ renameOf ρ a₀.name = some n' ∧
      freshTarget v ρ (ordered v m) s n' = ⟨n', a₀.asm⟩ := ⟨a₀, ha₀, hr, he⟩
  rw [sigma_of_mem v m ρ s hs, target_of_some h]
  split
  · cases he : existingNamed ρ (ordered v m) n' with
    | none => exact Or.inl hfr
    | some t =>
      obtain ⟨h1, h2, h3⟩ := existingNamed_some he
      exact Or.inr ⟨(mem_ordered v m t).mp h1, h2, h3⟩
  · exact Or.inl hfr

/-- Hypothesis (ii) of the design, proved for `reusesExisting`: renaming `a` onto the name of an
existing (unrenamed, unique) symbol `b` identifies the two — whatever their assumptions. -/
theorem merge_onto_existing_couples (v : Variant) (hv : v.reusesExisting = true) (m : Model)
    (ρ : List (Name × Name)) (a b : Sym) (ha : a ∈ collect v m) (hb : b ∈ collect v m)
    (hab : renameOf ρ a.name = some b.name) (hbb : renameOf ρ b.name = none)
    (huniq : ∀ t, t ∈ collect v m → t.name = b.name → t = b) :
    sigma v m ρ a = b ∧ sigma v m ρ b = b := by
  constructor
  · rw [sigma_of_mem v m ρ a ha, target_of_some hab, if_pos hv,
      existingNamed_unique ((mem_ordered v m b).mpr hb) hbb rfl
        (fun t ht => huniq t ((mem_ordered v m t).mp ht))]
    rfl
  · rw [sigma_of_mem v m ρ b hb, target_of_none hbb]

/-- "Mapping two parameters to one name couples them", without any precondition on assumptions or on
the name (fix c9b6eb9): two collected symbols sent to the same name become the same symbol. -/
theorem merge_couples (v : Variant) (hv : v.oneSymbolPerNewName = true) (m : Model)
    (ρ : List (Name × Name)) (a b : Sym) (ha : a ∈ collect v m) (hb : b ∈ collect v m) (n : Name)
    (hna : renameOf ρ a.name = some n) (hnb : renameOf ρ b.name = some n) :
    sigma v m ρ a = sigma v m ρ b := by
  rw [sigma_of_mem v m ρ a ha, sigma_of_mem v m ρ b hb]
  exact target_depends_on_new_name hv ((mem_ordered v m a).mpr ha) hna hnb

/-- What happens to the assumptions in such a merge onto a fresh name: ALL sources take the
assumptions of the FIRST source in the order of the sort key `(name, assumptions)` — the later
sources lose theirs. -/
theorem merge_onto_fresh_takes_first_assumptions (v : Variant) (hv : v.oneSymbolPerNewName = true)
    (m : Model) (ρ : List (Name × Name)) (a : Sym) (ha : a ∈ collect v m) (n : Name)
    (hna : renameOf ρ a.name = some n)
    (hfresh : ∀ t, t ∈ collect v m → renameOf ρ t.name = none → t.name ≠ n) :
    ∃ a₀, a₀ ∈ collect v m ∧ renameOf ρ a₀.name = some n ∧
      (∀ t, t ∈ collect v m → renameOf ρ t.name = some n → symCmp a₀ t ≠ .gt) ∧
      (∀ b, b ∈ collect v m → renameOf ρ b.name = some n → sigma v m ρ b = ⟨n, a₀.asm⟩) := by
  obtain ⟨a₀, ha₀, hr, he, hfirst⟩ := freshTarget_spec (v := v) ha hna
  refine ⟨a₀, ha₀, hr, ?_, ?_⟩
  · intro t ht hrt
    have hfs := hfirst hv
    rw [lookupOrder_of_one hv] at hfs
    exact Ordering.isLE_iff_ne_gt.mp
      (find?_least (isort_pairwise symCmp (collect v m)) hfs ((mem_isort _ _ t).mpr ht) (by simp [hrt]))
  · intro b hb hrb
    rw [merge_couples v hv m ρ b a hb ha n hrb hna, sigma_fresh ha hna hfresh, ordered, he]

/-- … and nothing else: symbols with different final names stay different symbols. -/
theorem couples_nothing_else (v : Variant) (m : Model) (ρ : List (Name × Name)) (c d : Sym)
    (hc : c ∈ collect v m) (hd : d ∈ collect v m) (h : sigma v m ρ c = sigma v m ρ d) :
    nameMap ρ c.name = nameMap ρ d.name := by
  rw [sigma_of_mem v m ρ c hc, sigma_of_mem v m ρ d hd] at h
  have := congrArg Sym.name h
  rwa [target_nameMap, target_nameMap] at this

/-- The one-pair merge `{a ↦ b}` in a model with one symbol per name identifies exactly `a` and `b`. -/
theorem single_merge_couples_exactly (v : Variant) (m : Model) (a b : Sym)
    (hone : ∀ s, s ∈ collect v m → ∀ t, t ∈ collect v m → s.name = t.name → s = t)
    (c d : Sym) (hc : c ∈ collect v m) (hd : d ∈ collect v m)
    (h : sigma v m [(a.name, b.name)] c = sigma v m [(a.name, b.name)] d) :
    c = d ∨ (c.name = a.name ∧ d.name = b.name) ∨ (c.name = b.name ∧ d.name = a.name) := by
  have hn := couples_nothing_else v m _ c d hc hd h
  have key : ∀ n : Name, nameMap [(a.name, b.name)] n = if a.name = n then b.name else n := by
    intro n
    by_cases e : a.name = n <;> simp [nameMap, renameOf, alookup, e]
  rw [key, key] at hn
  split at hn <;> split at hn
  next e1 e2 => exact Or.inl (hone c hc d hd (e1.symm.trans e2))
  next e1 _ => exact Or.inr (Or.inl ⟨e1.symm, hn.symm⟩)
  next _ e2 => exact Or.inr (Or.inr ⟨hn, e2.symm⟩)
  next => exact Or.inl (hone c hc d hd hn)

/-- Witness for the unsound switch `reusesExisting = false` (the tree before 137fbcb): renaming the
coefficient `a` onto the positive radius `d` leaves two different symbols called `d` — nothing is
coupled. Replayed on the real code by `tools/props/C17.py: witness_models()`. -/
theorem witness_no_reuse :
    sigma Witness.unsoundNoReuse Witness.witnessModel [(Witness.nA, Witness.nD)] Witness.a
      ≠ sigma Witness.unsoundNoReuse Witness.witnessModel [(Witness.nA, Witness.nD)] Witness.d := by
  decide +kernel

/-- Witness for the unsound switch `oneSymbolPerNewName = false` (the tree before c9b6eb9): the
coefficient `a` (no assumptions) and the width `g` (non-negative) sent to the fresh name `k` stay two
different symbols called `k` — nothing is coupled. Replayed on the real code. -/
theorem witness_many_symbols_per_new_name :
    sigma Witness.unsoundManySymbols Witness.mergeModel [(Witness.nA, Witness.nK), ([103], Witness.nK)] Witness.a
      ≠ sigma Witness.unsoundManySymbols Witness.mergeModel [(Witness.nA, Witness.nK), ([103], Witness.nK)] Witness.g := by
  decide +kernel

/-- The same for every model and map of that unsound variant. -/
theorem unsound_fresh_merge_does_not_couple (v : Variant) (hv : v.oneSymbolPerNewName = false)
    (m : Model) (ρ : List (Name × Name)) (a b : Sym) (ha : a ∈ collect v m) (hb : b ∈ collect v m)
    (n : Name) (hna : renameOf ρ a.name = some n) (hnb : renameOf ρ b.name = some n)
    (hasm : a.asm ≠ b.asm)
    (hfresh : ∀ t, t ∈ collect v m → renameOf ρ t.name = none → t.name ≠ n) :
    sigma v m ρ a ≠ sigma v m ρ b := by
  rw [sigma_fresh ha hna hfresh, sigma_fresh hb hnb hfresh, freshTarget_of_many hv, freshTarget_of_many hv]
  intro e
  exact hasm (Sym.mk.inj e).2

/-- Hash-seed independence: since c9b6eb9 the image of a symbol depends only
on the SET of collected symbols, not on the order in which a Python `set` happens to yield them —
any two enumerations with the same members give the same image. -/
theorem target_independent_of_set_order (v : Variant) (hv : v.oneSymbolPerNewName = true)
    (ρ : List (Name × Name)) (l₁ l₂ : List Sym) (hm : ∀ s, s ∈ l₁ ↔ s ∈ l₂) (s : Sym) :
    target v ρ (lookupOrder v l₁) s = target v ρ (lookupOrder v l₂) s := by
  cases h : renameOf ρ s.name with
  | none => rw [target_of_none h, target_of_none h]
  | some n' =>
    rw [target_of_some h, target_of_some h]
    unfold freshTarget existingNamed firstSource
    simp only [lookupOrder_of_one hv, find?_isort_set_invariant symCmp_eq_eq l₁ l₂ hm]

/-- A rename map that is injective on the names of the collected symbols of a model with one symbol
per name (every model the builders make) gives an injective `σ`. -/
theorem sigma_injOn (v : Variant) (m : Model) (ρ : List (Name × Name))
    (hone : ∀ s, s ∈ collect v m → ∀ t, t ∈ collect v m → s.name = t.name → s = t)
    (hinj : InjOnNames ρ (collect v m)) : InjOn (sigma v m ρ) (collect v m) := by
  intro s hs t ht h
  exact hone s hs t ht (hinj s hs t ht (couples_nothing_else v m ρ s t hs ht h))

/-- The values of the renamed model's expression on any environment are the values of the original
on the precomposed environment (for EVERY map, merging ones included). -/
theorem eval_expr_rename {α : Type} (I : Interp α) (v : Variant) (m : Model) (ρ : List (Name × Name))
    (hρ : ρ ≠ []) (env : Sym → α) :
    (rename v m ρ).expr.eval I env = m.expr.eval I (fun s => env (sigma v m ρ s)) := by
  rw [rename_of_ne_nil v m hρ]
  exact eval_xreplace I env _ m.expr

/-- Main semantic theorem. For the sound collection (`collectsParams`), a well-formed model and a
`σ` that is injective on the collected symbols (e.g. by `sigma_injOn`), the intensity of the renamed
model — parameters from its own `parameter_defaults`, kinematic variables from its own definitions,
data `data'` — equals the intensity of the original on every data that `data'` carries over
(`data' (σ s) = data s`, i.e. `data' = data ∘ σ⁻¹`). The carrier `α` and the interpretation of
constants, values and operators are arbitrary. -/
theorem value_rename {α : Type} (I : Interp α) (v : Variant) (hv : v.collectsParams = true)
    (m : Model) (ρ : List (Name × Name)) (hρ : ρ ≠ []) (hwf : m.WF)
    (hinj : InjOn (sigma v m ρ) (collect v m)) (data data' : Sym → α)
    (hdata : ∀ s, s ∈ collect v m → data' (sigma v m ρ s) = data s) :
    (rename v m ρ).value I data' = m.value I data := by
  have hmem := mem_collect_of_collectsParams v hv m
  rw [rename_of_ne_nil v m hρ]
  exact value_xreplace I m _ hwf (fun s hs t ht => hinj s ((hmem s).mpr hs) t ((hmem t).mpr ht)) data data'
    (fun s hs => hdata s ((hmem s).mpr hs))

/-- The statement of the property for injective rename maps, in one piece: a map that is injective
on the names a (sound) model with one symbol per name mentions never changes the intensity. -/
theorem value_rename_of_injective_names {α : Type} (I : Interp α) (v : Variant) (hv : v.sound)
    (m : Model) (ρ : List (Name × Name)) (hρ : ρ ≠ []) (hwf : m.WF)
    (hone : ∀ s, s ∈ collect v m → ∀ t, t ∈ collect v m → s.name = t.name → s = t)
    (hinj : InjOnNames ρ (collect v m)) (data data' : Sym → α)
    (hdata : ∀ s, s ∈ collect v m → data' (sigma v m ρ s) = data s) :
    (rename v m ρ).value I data' = m.value I data :=
  value_rename I v hv.1 m ρ hρ hwf (sigma_injOn v m ρ hone hinj) data data' hdata

/-- If every symbol of `expression` is a parameter or a kinematic variable and never both, the same
holds after renaming — provided the map does not identify a parameter with a kinematic variable
(with an injective `σ` that is automatic, see `closed_preserved_of_injOn`). The inclusion half needs
no hypothesis at all: key sets are mapped by the same `σ` as the expression. -/
theorem closed_preserved (v : Variant) (m : Model) (ρ : List (Name × Name)) (hc : m.closed)
    (hsep : ∀ p, p ∈ m.paramKeys → ∀ k, k ∈ m.kinKeys → sigma v m ρ p ≠ sigma v m ρ k) :
    (rename v m ρ).closed := by
  by_cases hρ : ρ = []
  · subst hρ; rw [rename_empty]; exact hc
  constructor
  · intro s hs
    rw [rename_of_ne_nil v m hρ, Model.xreplace, syms_xreplace, List.mem_map] at hs
    obtain ⟨s₀, hs₀, rfl⟩ := hs
    rcases hc.1 s₀ hs₀ with h | h
    · exact Or.inl ((param_keys_image v m ρ hρ _).mpr ⟨s₀, h, rfl⟩)
    · exact Or.inr ((kin_keys_image v m ρ hρ _).mpr ⟨s₀, h, rfl⟩)
  · intro s hp hk
    obtain ⟨p, hp', rfl⟩ := (param_keys_image v m ρ hρ s).mp hp
    obtain ⟨k, hk', e⟩ := (kin_keys_image v m ρ hρ _).mp hk
    exact hsep p hp' k hk' e

theorem closed_preserved_of_injOn (v : Variant) (hv : v.collectsParams = true) (m : Model)
    (ρ : List (Name × Name)) (hc : m.closed) (hinj : InjOn (sigma v m ρ) (collect v m)) :
    (rename v m ρ).closed := by
  apply closed_preserved v m ρ hc
  intro p hp k hk e
  have hmem := mem_collect_of_collectsParams v hv m
  have := hinj p ((hmem p).mpr (Or.inr (Or.inr (Or.inl hp)))) k ((hmem k).mpr (Or.inr (Or.inl hk))) e
  exact hc.2 p hp (this ▸ hk)

/-- A map none of whose names is the name of a collected symbol changes no expression and no key. -/
theorem unknown_names_sigma_id (v : Variant) (m : Model) (ρ : List (Name × Name))
    (h : ∀ s, s ∈ collect v m → renameOf ρ s.name = none) (s : Sym) : sigma v m ρ s = s := by
  by_cases hs : s ∈ collect v m
  · exact (sigma_spec v m ρ s).2.1 (h s hs)
  · exact sigma_of_not_mem v m ρ s hs

/-- … and the model as a whole comes back unchanged when it is in the form the constructor
produces (distinct dictionary keys, converters' order). -/
theorem unknown_names_ignored (v : Variant) (m : Model) (ρ : List (Name × Name))
    (h : ∀ s, s ∈ collect v m → renameOf ρ s.name = none) (hwf : m.WF) (hord : m.Ordered) :
    rename v m ρ = m := by
  by_cases hρ : ρ = []
  · subst hρ; exact rename_empty v m
  rw [rename_of_ne_nil v m hρ, funext (unknown_names_sigma_id v m ρ h)]
  exact xreplace_model_id m hwf hord

open Witness in
/-- The fixed variant on the witness model: `m_0 ↦ mgamma` renames the unused parameter … -/
example : (rename Variant.fixed witnessModel [(nM0, nMgamma)]).paramKeys = [a, d, ⟨nMgamma, declNonnegative⟩] := by
  decide +kernel

open Witness in
/-- … `a ↦ d` couples `a` with the existing positive `d` (one symbol, `d`'s assumptions) … -/
example : sigma Variant.fixed witnessModel [(nA, nD)] a = d ∧
    (rename Variant.fixed witnessModel [(nA, nD)]).paramKeys = [d, m0] ∧
    (rename Variant.fixed witnessModel [(nA, nD)]).expr.syms = [d, x, d, x] := by
  decide +kernel

open Witness in
/-- … the hypotheses of `value_rename` are satisfiable by a non-trivial map (three symbols renamed,
one of them a kinematic variable, one a four-momentum) … -/
example : witnessModel.WF ∧ witnessModel.closed ∧
    InjOnNames [(nA, nK), (nX, nTheta), (nP0, [113])] (collect Variant.fixed witnessModel) ∧
    (∀ s, s ∈ collect Variant.fixed witnessModel → ∀ t, t ∈ collect Variant.fixed witnessModel →
      s.name = t.name → s = t) := by
  unfold Model.WF Model.closed InjOnNames
  decide +kernel

open Witness in
/-- … the fixed variant couples `a` (no assumptions) and `g` (non-negative) under the fresh name `k`:
one symbol, with the assumptions of the first source `a` … -/
example : sigma Variant.fixed mergeModel [(nA, nK), ([103], nK)] a = ⟨nK, declNone⟩ ∧
    sigma Variant.fixed mergeModel [(nA, nK), ([103], nK)] g = ⟨nK, declNone⟩ ∧
    (rename Variant.fixed mergeModel [(nA, nK), ([103], nK)]).paramKeys = [⟨nK, declNone⟩] := by decide +kernel

open Witness in
/-- … the hypotheses of `renamed_symbol_has_source_declaration` and `rename_back_restores_symbol` hold for the
non-zero coupling: `g ↦ k ↦ g` gives the parameter keys and the symbols of the expression back … -/
example : (∀ t, t ∈ collect Variant.fixed nonzeroModel → renameOf [([103], nK)] t.name = some nK → t = gNonzero) ∧
    (rename Variant.fixed nonzeroModel [([103], nK)]).paramKeys = [a, ⟨nK, declNonzero⟩] ∧
    (rename Variant.fixed (rename Variant.fixed nonzeroModel [([103], nK)]) [(nK, [103])]).paramKeys
      = nonzeroModel.paramKeys ∧
    (rename Variant.fixed (rename Variant.fixed nonzeroModel [([103], nK)]) [(nK, [103])]).expr.syms
      = nonzeroModel.expr.syms := by decide +kernel

open Witness in
/-- … the declarations of the witness symbols decode to the `assumptions0` of `Symbol("x", real=True)` etc. … -/
example : declFacts declNone = [(2, true)] ∧
    declFacts declReal = [(2, true), (3, true), (11, true), (12, true), (13, true), (14, false), (15, false), (28, true)] ∧
    declFacts noFacts = [] ∧ mkDecl (declFacts declPositive) = declPositive := by decide +kernel

open Witness in
/-- … and merging two kinematic variables (precondition (iii) violated) really drops a definition. -/
example : (rename Variant.fixed twoKinModel [(nTheta, nX)]).kinvars.length = 1 ∧
    twoKinModel.kinvars.length = 2 := by decide +kernel

end Ampverif.Props.C17
